/-
Lemmas about `LA.Unicode` (property C18).

Each decoder gets one theorem, `…_spec : DecSpec …`, obtained by following its definition once;
progress, end of string, replacement, no over-read and "accepts only the canonical form" are
consequences of `DecSpec` alone.  UTF-8 sequences are handled through their 6-bit fields, so that
the arithmetic is about variables.  The conversion loops are reduced to `transcode` by induction
along the `parse` loop: `strncat_from_utf8_to_utf8` is equal to it,
`archive_string_append_unicode` computes it inside the buffer.
-/
import LA.Model.Unicode
namespace LA.Unicode
open LA.Gen.Utf8Table

/-- What the table is expected to say about a lead byte. -/
def leadClass (ch : Nat) : Nat :=
  if ch < 0x80 then 1 else if ch < 0xc2 then 0 else if ch < 0xe0 then 2
  else if ch < 0xf0 then 3 else if ch < 0xf5 then 4 else 0

def tableAgrees : List Nat → Nat → Bool
  | [], _ => true
  | v :: r, i => v == leadClass i && tableAgrees r (i + 1)

theorem tableAgrees_getD (l : List Nat) (i : Nat) (h : tableAgrees l i = true) (j : Nat) :
    l.getD j 0 = if j < l.length then leadClass (i + j) else 0 := by
  induction l generalizing i j with
  | nil => simp
  | cons v r ih =>
    simp only [tableAgrees, Bool.and_eq_true, beq_iff_eq] at h
    cases j with
    | zero => simp [h.1]
    | succ j =>
      have := ih (i + 1) h.2 j
      simp only [List.getD_cons_succ, List.length_cons, Nat.add_lt_add_iff_right]
      rw [this]; congr 2; omega

/-- Table lemma (checked against the regenerated `Gen/Utf8Table` on every build). -/
theorem utf8Count_agrees : tableAgrees utf8Count 0 = true := by decide +kernel

theorem utf8Count_length : utf8Count.length = 256 := by decide +kernel

theorem leadClass_cases (ch : Nat) :
    leadClass ch = 1 ∧ ch < 0x80 ∨ leadClass ch = 2 ∧ 0xc2 ≤ ch ∧ ch < 0xe0 ∨
    leadClass ch = 3 ∧ 0xe0 ≤ ch ∧ ch < 0xf0 ∨ leadClass ch = 4 ∧ 0xf0 ≤ ch ∧ ch < 0xf5 ∨
    leadClass ch = 0 ∧ 0x80 ≤ ch ∧ (ch < 0xc2 ∨ 0xf5 ≤ ch) := by
  unfold leadClass
  by_cases h1 : ch < 0x80
  · exact .inl ⟨if_pos h1, h1⟩
  rw [if_neg h1]
  by_cases h2 : ch < 0xc2
  · exact .inr (.inr (.inr (.inr ⟨if_pos h2, Nat.le_of_not_lt h1, .inl h2⟩)))
  rw [if_neg h2]
  by_cases h3 : ch < 0xe0
  · exact .inr (.inl ⟨if_pos h3, Nat.le_of_not_lt h2, h3⟩)
  rw [if_neg h3]
  by_cases h4 : ch < 0xf0
  · exact .inr (.inr (.inl ⟨if_pos h4, Nat.le_of_not_lt h3, h4⟩))
  rw [if_neg h4]
  by_cases h5 : ch < 0xf5
  · exact .inr (.inr (.inr (.inl ⟨if_pos h5, Nat.le_of_not_lt h4, h5⟩)))
  · exact .inr (.inr (.inr (.inr ⟨if_neg h5, Nat.le_of_not_lt h1, .inr (Nat.le_of_not_lt h5)⟩)))

theorem count_spec (ch : Nat) : utf8Count.getD ch 0 = leadClass ch := by
  rw [tableAgrees_getD utf8Count 0 utf8Count_agrees ch, utf8Count_length, Nat.zero_add]
  split
  · rfl
  · have := leadClass_cases ch; omega

/-- The answers of a decoder `int f(uint32_t *pwc, const char *s, size_t n)` on the block `xs`:
0 exactly under its end-of-string condition `stop`; otherwise between 1 and `n` bytes are
consumed; `Ok k c` holds of an accepted sequence of `k` bytes with value `c`, `Bad k uc` of `k`
rejected bytes (answer `-k`) and what is stored for them; a read outside the block only when the
block is shorter than `n`. -/
inductive DecSpec (xs : List Nat) (n : Nat) (stop : Prop) (Bad : Nat → Option Nat → Prop) (Ok : Nat → Nat → Prop) :
    Dec → Prop
  | stop (uc : Option Nat) : stop → DecSpec xs n stop Bad Ok (.ret 0 uc)
  | oob : xs.length < n → DecSpec xs n stop Bad Ok .oob
  | bad (k : Nat) {uc : Option Nat} : ¬ stop → 1 ≤ k → k ≤ n → Bad k uc → DecSpec xs n stop Bad Ok (.ret (-(k : Int)) uc)
  | ok (k c : Nat) : ¬ stop → 1 ≤ k → k ≤ n → Ok k c → DecSpec xs n stop Bad Ok (.ret k (some c))

/-- All decoders but `utf8_to_unicode` store U+FFFD for what they reject. -/
def Replaced (_ : Nat) (uc : Option Nat) : Prop := uc = some unicodeRChar

namespace DecSpec
variable {xs : List Nat} {n : Nat} {stop : Prop} {Bad : Nat → Option Nat → Prop} {Ok : Nat → Nat → Prop} {d : Dec}
  {r : Int} {uc : Option Nat}

/-- `invalid_sequence:` after `k` bytes -/
theorem bad_replaced (k : Nat) (hns : ¬ stop) (h1 : 1 ≤ k) (hk : k ≤ n) : DecSpec xs n stop Replaced Ok (invalid k) :=
  .bad k hns h1 hk rfl

theorem progress (hs : DecSpec xs n stop Bad Ok d) (h : d = .ret r uc) (hr : r ≠ 0) : 1 ≤ r.natAbs ∧ r.natAbs ≤ n := by
  subst h; cases hs <;> omega

theorem neg (hs : DecSpec xs n stop Bad Ok d) (h : d = .ret r uc) (hr : r < 0) : Bad r.natAbs uc := by
  subst h
  cases hs with
  | bad k _ _ _ hb => rw [Int.natAbs_neg]; exact hb
  | _ => omega

theorem zero (hs : DecSpec xs n stop Bad Ok d) (h : d = .ret r uc) : r = 0 ↔ stop := by
  subst h
  cases hs with
  | stop _ hst => exact ⟨fun _ => hst, fun _ => rfl⟩
  | bad k hns | ok k c hns => exact ⟨fun h => by omega, fun h => absurd h hns⟩

theorem no_oob (hs : DecSpec xs n stop Bad Ok d) (hn : n ≤ xs.length) : d ≠ .oob := by
  rintro rfl; cases hs; omega

theorem pos (hs : DecSpec xs n stop Bad Ok d) (h : d = .ret r uc) (hr : 0 < r) :
    ∃ c, uc = some c ∧ Ok r.toNat c ∧ r.toNat ≤ n := by
  subst h
  cases hs with
  | ok k c _ _ hk hok => exact ⟨c, rfl, hok, hk⟩
  | _ => omega

theorem mono {stop' : Prop} {Ok' : Nat → Nat → Prop} (hs : DecSpec xs n stop Bad Ok d) (hst : stop ↔ stop')
    (hok : ∀ k c, Ok k c → Ok' k c) : DecSpec xs n stop' Bad Ok' d := by
  cases hs with
  | stop uc h => exact .stop uc (hst.1 h)
  | oob h => exact .oob h
  | bad k h h1 hk hb => exact .bad k (mt hst.2 h) h1 hk hb
  | ok k c h h1 hk ho => exact .ok k c (mt hst.2 h) h1 hk (hok k c ho)

end DecSpec

theorem getElem?_none_lt {xs : List Nat} {i n : Nat} (h : xs[i]? = none) (hi : i < n) : xs.length < n := by
  have := List.getElem?_eq_none_iff.1 h; omega

theorem take_succ_of_getElem? {xs : List Nat} {i a : Nat} (h : xs[i]? = some a) :
    xs.take (i + 1) = xs.take i ++ [a] := by
  rw [List.take_add_one, h]; rfl

theorem div64 (a y : Nat) (hy : y < 64) : (a * 64 + y) / 64 = a := by omega
theorem mod64 (a y : Nat) (hy : y < 64) : (a * 64 + y) % 64 = y := by omega

theorem digits64 (c : Nat) : ∃ a y, y < 64 ∧ c = a * 64 + y :=
  ⟨c / 64, c % 64, Nat.mod_lt _ (by decide), (Nat.div_add_mod' c 64).symm⟩

theorem horner3 (x y z : Nat) : x * 4096 + y * 64 + z = (x * 64 + y) * 64 + z := by omega
theorem horner4 (x y z w : Nat) : x * 262144 + y * 4096 + z * 64 + w = ((x * 64 + y) * 64 + z) * 64 + w := by omega

-- continuation byte `10yyyyyy`
theorem isCont_iff (b : Nat) : isCont b = true ↔ b / 64 = 2 := by simp [isCont]

theorem isCont_cont (y : Nat) (hy : y < 64) : isCont (0x80 + y) = true := (isCont_iff _).2 (by omega)
theorem cont_mod (y : Nat) (hy : y < 64) : (0x80 + y) % 64 = y := by omega
theorem cont_eq {b : Nat} (h : b / 64 = 2) : 0x80 + b % 64 = b := by omega

-- lead bytes `110xxxxx`, `1110xxxx`, `11110xxx`
theorem lead2_mod (x : Nat) (hx : x < 32) : (0xc0 + x) % 32 = x := by omega
theorem lead3_mod (x : Nat) (hx : x < 16) : (0xe0 + x) % 16 = x := by omega
theorem lead4_mod (x : Nat) (hx : x < 8) : (0xf0 + x) % 8 = x := by omega

/-- With room for four bytes `unicode_to_utf8` never answers 0. -/
theorem enc8_eq (c : Nat) (h : c ≤ unicodeMax) : unicodeToUtf8 4 c =
    if c ≤ 0x7f then [c]
    else if c ≤ 0x7ff then [0xc0 + c / 64 % 32, 0x80 + c % 64]
    else if c ≤ 0xffff then [0xe0 + c / 4096 % 16, 0x80 + c / 64 % 64, 0x80 + c % 64]
    else [0xf0 + c / 262144 % 8, 0x80 + c / 4096 % 64, 0x80 + c / 64 % 64, 0x80 + c % 64] := by
  unfold unicodeToUtf8
  rw [if_neg (Nat.not_lt.2 h)]
  rfl

theorem enc8_1 (c : Nat) (h : c ≤ 0x7f) : unicodeToUtf8 4 c = [c] := by
  rw [enc8_eq c (by simp only [unicodeMax]; omega), if_pos h]

theorem enc8_len3 (c : Nat) (h1 : 0x7ff < c) (h2 : c ≤ 0xffff) : (unicodeToUtf8 4 c).length = 3 := by
  rw [enc8_eq c (by simp only [unicodeMax]; omega), if_neg (by omega), if_neg (by omega), if_pos h2]; rfl

/- The code point given by its bit fields: `x` goes into the lead byte, `y`, `z`, `w` (six bits
each) into the continuation bytes. -/

theorem enc8_f2 (x y : Nat) (hx : x < 32) (hy : y < 64) (h : 2 ≤ x) :
    unicodeToUtf8 4 (x * 64 + y) = [0xc0 + x, 0x80 + y] := by
  rw [enc8_eq _ (by simp only [unicodeMax]; omega), if_neg (by omega), if_pos (by omega), div64 _ _ hy, mod64 _ _ hy,
    Nat.mod_eq_of_lt hx]

theorem enc8_f3 (x y z : Nat) (hx : x < 16) (hy : y < 64) (hz : z < 64) (h : 0x800 ≤ (x * 64 + y) * 64 + z) :
    unicodeToUtf8 4 ((x * 64 + y) * 64 + z) = [0xe0 + x, 0x80 + y, 0x80 + z] := by
  rw [enc8_eq _ (by simp only [unicodeMax]; omega), if_neg (by omega), if_neg (by omega), if_pos (by omega),
    ← Nat.div_div_eq_div_mul _ 64 64, div64 _ _ hz, mod64 _ _ hz, div64 _ _ hy, mod64 _ _ hy, Nat.mod_eq_of_lt hx]

theorem enc8_f4 (x y z w : Nat) (hx : x < 8) (hy : y < 64) (hz : z < 64) (hw : w < 64)
    (h : 0x10000 ≤ ((x * 64 + y) * 64 + z) * 64 + w) (hmx : ((x * 64 + y) * 64 + z) * 64 + w ≤ unicodeMax) :
    unicodeToUtf8 4 (((x * 64 + y) * 64 + z) * 64 + w) = [0xf0 + x, 0x80 + y, 0x80 + z, 0x80 + w] := by
  rw [enc8_eq _ hmx, if_neg (by omega), if_neg (by omega), if_neg (by omega), ← Nat.div_div_eq_div_mul _ 4096 64,
    ← Nat.div_div_eq_div_mul _ 64 64, div64 _ _ hw, mod64 _ _ hw, div64 _ _ hz, mod64 _ _ hz, div64 _ _ hy,
    mod64 _ _ hy, Nat.mod_eq_of_lt hx]

theorem utf8Raw_f1 (c : Nat) (rest : List Nat) (n : Nat) (h0 : 0 < c) (h : c < 0x80) (hn : 1 ≤ n) :
    utf8Raw (c :: rest) n = .ret 1 (some c) := by
  have hl : leadClass c = 1 := by have := leadClass_cases c; omega
  have hn0 : n ≠ 0 := by omega
  have hc0 : c ≠ 0 := by omega
  have hlt : ¬ n < 1 := by omega
  unfold utf8Raw
  simp only [List.getElem?_cons_zero, count_spec, hl, hn0, hc0, hlt, ↓reduceIte, Nat.mod_eq_of_lt h]

theorem utf8Raw_f2 (x y : Nat) (rest : List Nat) (n : Nat) (hx : x < 32) (hy : y < 64) (h : 2 ≤ x) (hn : 2 ≤ n) :
    utf8Raw ((0xc0 + x) :: (0x80 + y) :: rest) n = .ret 2 (some (x * 64 + y)) := by
  have hl : leadClass (0xc0 + x) = 2 := by have := leadClass_cases (0xc0 + x); omega
  have hn0 : n ≠ 0 := by omega
  have hc0 : 0xc0 + x ≠ 0 := by omega
  have hlt : ¬ n < 2 := by omega
  unfold utf8Raw
  simp only [List.getElem?_cons_zero, List.getElem?_cons_succ, count_spec, hl, hn0, hc0, hlt, ↓reduceIte,
    isCont_cont y hy, lead2_mod x hx, cont_mod y hy, Nat.reduceEqDiff, Bool.not_true, Bool.false_eq_true]

theorem utf8Raw_f3 (x y z : Nat) (rest : List Nat) (n : Nat) (hx : x < 16) (hy : y < 64) (hz : z < 64)
    (h : 0x800 ≤ (x * 64 + y) * 64 + z) (hn : 3 ≤ n) :
    utf8Raw ((0xe0 + x) :: (0x80 + y) :: (0x80 + z) :: rest) n = .ret 3 (some ((x * 64 + y) * 64 + z)) := by
  have hl : leadClass (0xe0 + x) = 3 := by have := leadClass_cases (0xe0 + x); omega
  have hn0 : n ≠ 0 := by omega
  have hc0 : 0xe0 + x ≠ 0 := by omega
  have hlt : ¬ n < 3 := by omega
  have hov : ¬ (x * 64 + y) * 64 + z < 2048 := by omega
  have hmx : ¬ (x * 64 + y) * 64 + z > unicodeMax := by simp only [unicodeMax]; omega
  unfold utf8Raw
  simp only [List.getElem?_cons_zero, List.getElem?_cons_succ, count_spec, hl, hn0, hc0, hlt, ↓reduceIte,
    isCont_cont y hy, isCont_cont z hz, lead3_mod x hx, cont_mod y hy, cont_mod z hz, horner3, Nat.reduceEqDiff,
    Bool.not_true, Bool.false_eq_true, hov, utf8Final, hmx]
  rfl

theorem utf8Raw_f4 (x y z w : Nat) (rest : List Nat) (n : Nat) (hx : x < 8) (hy : y < 64) (hz : z < 64) (hw : w < 64)
    (h : 0x10000 ≤ ((x * 64 + y) * 64 + z) * 64 + w) (hmx : ((x * 64 + y) * 64 + z) * 64 + w ≤ unicodeMax)
    (hn : 4 ≤ n) :
    utf8Raw ((0xf0 + x) :: (0x80 + y) :: (0x80 + z) :: (0x80 + w) :: rest) n
      = .ret 4 (some (((x * 64 + y) * 64 + z) * 64 + w)) := by
  have hx5 : x < 5 := by simp only [unicodeMax] at hmx; omega
  have hl : leadClass (0xf0 + x) = 4 := by have := leadClass_cases (0xf0 + x); omega
  have hn0 : n ≠ 0 := by omega
  have hc0 : 0xf0 + x ≠ 0 := by omega
  have hlt : ¬ n < 4 := by omega
  have hov : ¬ ((x * 64 + y) * 64 + z) * 64 + w < 65536 := by omega
  have hmx' : ¬ ((x * 64 + y) * 64 + z) * 64 + w > unicodeMax := by omega
  unfold utf8Raw
  simp only [List.getElem?_cons_zero, List.getElem?_cons_succ, count_spec, hl, hn0, hc0, hlt, ↓reduceIte,
    isCont_cont y hy, isCont_cont z hz, isCont_cont w hw, lead4_mod x hx, cont_mod y hy, cont_mod z hz, cont_mod w hw,
    horner4, Nat.reduceEqDiff, Bool.not_true, Bool.false_eq_true, hov, utf8Final, hmx']
  rfl

/-- `_utf8_to_unicode` inverts `unicode_to_utf8` on every code point 1..U+10FFFF (surrogates included). -/
theorem utf8Raw_encode (c : Nat) (hc : 0 < c) (hmax : c ≤ unicodeMax) (rest : List Nat) (n : Nat)
    (hn : (unicodeToUtf8 4 c).length ≤ n) :
    utf8Raw (unicodeToUtf8 4 c ++ rest) n = .ret (unicodeToUtf8 4 c).length (some c) := by
  by_cases h1 : c ≤ 0x7f
  · rw [enc8_1 c h1] at hn ⊢
    exact utf8Raw_f1 c rest n hc (by omega) hn
  obtain ⟨a, w, hw, rfl⟩ := digits64 c
  by_cases h2 : a * 64 + w ≤ 0x7ff
  · have e := enc8_f2 a w (by omega) hw (by omega)
    rw [e] at hn ⊢
    exact utf8Raw_f2 a w rest n (by omega) hw (by omega) hn
  obtain ⟨a, z, hz, rfl⟩ := digits64 a
  by_cases h3 : (a * 64 + z) * 64 + w ≤ 0xffff
  · have e := enc8_f3 a z w (by omega) hz hw (by omega)
    rw [e] at hn ⊢
    exact utf8Raw_f3 a z w rest n (by omega) hz hw (by omega) hn
  obtain ⟨a, y, hy, rfl⟩ := digits64 a
  have ha : a < 8 := by simp only [unicodeMax] at hmax; omega
  have e := enc8_f4 a y z w ha hy hz hw (by omega) hmax
  rw [e] at hn ⊢
  exact utf8Raw_f4 a y z w rest n ha hy hz hw (by omega) hmax hn

/-- What `_utf8_to_unicode` accepts: `k` bytes that are the shortest form of `c`, 1 ≤ `c` ≤ U+10FFFF. -/
def RawOk (xs : List Nat) (k c : Nat) : Prop :=
  0 < c ∧ c ≤ unicodeMax ∧ xs.take k = unicodeToUtf8 4 c ∧ k = (unicodeToUtf8 4 c).length

abbrev RawSpec (xs : List Nat) (n : Nat) : Dec → Prop :=
  DecSpec xs n (n = 0 ∨ xs[0]? = some 0) Replaced (RawOk xs)

theorem rawOk_of_enc {xs bs : List Nat} {k c : Nat} (he : unicodeToUtf8 4 c = bs) (ht : xs.take k = bs)
    (hk : k = bs.length) (hp : 0 < c) (hmx : c ≤ unicodeMax) : RawOk xs k c :=
  ⟨hp, hmx, he ▸ ht, he ▸ hk⟩

theorem contScan_spec (xs : List Nat) (n i k : Nat) (hik : i + k ≤ n) (hi : 1 ≤ i)
    (hns : ¬ (n = 0 ∨ xs[0]? = some 0)) :
    RawSpec xs n (match contScan xs i k with | none => .oob | some c => invalid c) := by
  induction k generalizing i with
  | zero => exact .bad_replaced i hns hi (by omega)
  | succ k ih =>
    rw [contScan]
    cases h : xs[i]? with
    | none => exact .oob (getElem?_none_lt h (by omega))
    | some b =>
      dsimp only
      by_cases hc : isCont b = true
      · rw [if_pos hc]; exact ih (i + 1) (by omega) (by omega)
      · rw [if_neg hc]; exact .bad_replaced i hns hi (by omega)

/-- Reading the continuation byte `s[i]`: outside the block, not a continuation byte
(`invalid_sequence` with `cnt = i`), or on to `next` with its six bits `y`. -/
theorem cont_step {xs : List Nat} {n i : Nat} {next : Nat → Dec} (hi : 1 ≤ i) (hin : i < n)
    (hns : ¬ (n = 0 ∨ xs[0]? = some 0))
    (hnext : ∀ y, y < 64 → xs[i]? = some (0x80 + y) → RawSpec xs n (next (0x80 + y))) :
    RawSpec xs n (match xs[i]? with
      | none => .oob
      | some b => if !isCont b then invalid i else next b) := by
  cases h : xs[i]? with
  | none => exact .oob (getElem?_none_lt h hin)
  | some b =>
    show RawSpec xs n (if !isCont b then invalid i else next b)
    cases hc : isCont b with
    | false => exact .bad_replaced i hns hi (by omega)
    | true =>
      rw [← cont_eq ((isCont_iff b).1 hc)] at h ⊢
      exact hnext _ (Nat.mod_lt _ (by decide)) h

/-- The bytes `_utf8_to_unicode` accepts are what `unicode_to_utf8` writes for the value it computes. -/
theorem utf8Raw_spec (xs : List Nat) (n : Nat) : RawSpec xs n (utf8Raw xs n) := by
  unfold utf8Raw
  by_cases hn : n = 0
  · rw [if_pos hn]; exact .stop _ (.inl hn)
  rw [if_neg hn]
  cases h0 : xs[0]? with
  | none => exact .oob (getElem?_none_lt h0 (by omega))
  | some ch =>
  dsimp only
  by_cases hch : ch = 0
  · rw [if_pos hch]; exact .stop _ (.inr (hch ▸ h0))
  have hns : ¬ (n = 0 ∨ xs[0]? = some 0) := by
    rw [h0]; rintro (h | h)
    · exact hn h
    · exact hch (Option.some.inj h)
  rw [if_neg hch, count_spec]
  by_cases hlt : n < leadClass ch
  · rw [if_pos hlt]; exact contScan_spec xs n 1 (n - 1) (by omega) (Nat.le_refl 1) hns
  rw [if_neg hlt]
  have hkn := Nat.le_of_not_lt hlt
  have hm : unicodeMax = 0x10FFFF := rfl
  rcases leadClass_cases ch with ⟨hl, h⟩ | ⟨hl, hlo, hhi⟩ | ⟨hl, hlo, hhi⟩ | ⟨hl, hlo, hhi⟩ | ⟨hl, -⟩ <;>
    rw [hl] at hkn ⊢
  · rw [if_pos rfl, Nat.mod_eq_of_lt (by omega)]
    exact .ok 1 ch hns (Nat.le_refl 1) hkn
      (rawOk_of_enc (enc8_1 ch (by omega)) (take_succ_of_getElem? h0) rfl (by omega) (by omega))
  · obtain ⟨x, rfl⟩ : ∃ x, ch = 0xc0 + x := ⟨ch - 0xc0, by omega⟩
    rw [if_neg (by decide), if_pos rfl]
    refine cont_step (by decide) hkn hns fun y hy h1 => ?_
    rw [lead2_mod x (by omega), cont_mod y hy]
    refine .ok 2 _ hns (by decide) hkn (rawOk_of_enc (enc8_f2 x y (by omega) hy (by omega)) ?_ rfl (by omega) (by omega))
    rw [take_succ_of_getElem? h1, take_succ_of_getElem? h0]; rfl
  · obtain ⟨x, rfl⟩ := Nat.exists_eq_add_of_le hlo
    rw [if_neg (by decide), if_neg (by decide), if_pos rfl]
    refine cont_step (by decide) (by omega) hns fun y hy h1 => cont_step (by decide) hkn hns fun z hz h2 => ?_
    rw [lead3_mod x (by omega), cont_mod y hy, cont_mod z hz, horner3]
    by_cases hov : (x * 64 + y) * 64 + z < 0x800
    · rw [if_pos hov]; exact .bad_replaced 3 hns (by decide) hkn
    rw [if_neg hov, utf8Final, if_neg (by omega)]
    refine .ok 3 _ hns (by decide) hkn
      (rawOk_of_enc (enc8_f3 x y z (by omega) hy hz (by omega)) ?_ rfl (by omega) (by omega))
    rw [take_succ_of_getElem? h2, take_succ_of_getElem? h1, take_succ_of_getElem? h0]; rfl
  · obtain ⟨x, rfl⟩ := Nat.exists_eq_add_of_le hlo
    rw [if_neg (by decide), if_neg (by decide), if_neg (by decide), if_pos rfl]
    refine cont_step (by decide) (by omega) hns fun y hy h1 => cont_step (by decide) (by omega) hns fun z hz h2 =>
      cont_step (by decide) hkn hns fun w hw h3 => ?_
    rw [lead4_mod x (by omega), cont_mod y hy, cont_mod z hz, cont_mod w hw, horner4]
    by_cases hov : ((x * 64 + y) * 64 + z) * 64 + w < 0x10000
    · rw [if_pos hov]; exact .bad_replaced 4 hns (by decide) hkn
    rw [if_neg hov, utf8Final]
    by_cases hmx : ((x * 64 + y) * 64 + z) * 64 + w > unicodeMax
    · rw [if_pos hmx]; exact .bad_replaced 4 hns (by decide) hkn
    rw [if_neg hmx]
    refine .ok 4 _ hns (by decide) hkn
      (rawOk_of_enc (enc8_f4 x y z w (by omega) hy hz hw (by omega) (by omega)) ?_ rfl (by omega) (by omega))
    rw [take_succ_of_getElem? h3, take_succ_of_getElem? h2, take_succ_of_getElem? h1, take_succ_of_getElem? h0]; rfl
  · rw [if_neg (by decide), if_neg (by decide), if_neg (by decide), if_neg (by decide)]
    generalize (if ch = 0xc0 ∨ ch = 0xc1 then 2 else if 0xf5 ≤ ch ∧ ch ≤ 0xf7 then 4
      else if 0xf8 ≤ ch ∧ ch ≤ 0xfb then 5 else if ch = 0xfc ∨ ch = 0xfd then 6 else 1) = c0
    exact contScan_spec xs n 1 _ (by split <;> omega) (Nat.le_refl 1) hns

theorem isHigh_iff (uc : Nat) : isHigh uc = true ↔ 0xD800 ≤ uc ∧ uc ≤ 0xDBFF := by
  unfold isHigh highSurrogateLo highSurrogateHi
  rw [Bool.and_eq_true, decide_eq_true_iff, decide_eq_true_iff]

theorem isLow_iff (uc : Nat) : isLow uc = true ↔ 0xDC00 ≤ uc ∧ uc ≤ 0xDFFF := by
  unfold isLow lowSurrogateLo lowSurrogateHi
  rw [Bool.and_eq_true, decide_eq_true_iff, decide_eq_true_iff]

theorem isSurrogate_iff (uc : Nat) : isSurrogate uc = true ↔ 0xD800 ≤ uc ∧ uc ≤ 0xDFFF := by
  unfold isSurrogate surrogateLo surrogateHi
  rw [Bool.and_eq_true, decide_eq_true_iff, decide_eq_true_iff]

def IsScalar (c : Nat) : Prop := c ≤ unicodeMax ∧ ¬ (surrogateLo ≤ c ∧ c ≤ surrogateHi)

theorem isScalar_iff (c : Nat) : IsScalar c ↔ c ≤ 0x10FFFF ∧ ¬ (0xD800 ≤ c ∧ c ≤ 0xDFFF) := Iff.rfl

theorem isSurrogate_false_of_scalar {c : Nat} (h : IsScalar c) : isSurrogate c = false :=
  Bool.eq_false_iff.2 fun hs => h.2 ((isSurrogate_iff c).1 hs)

theorem isHigh_false_of_scalar {c : Nat} (h : IsScalar c) : isHigh c = false :=
  Bool.eq_false_iff.2 fun hs => h.2 (by have := (isHigh_iff c).1 hs; simp only [surrogateLo, surrogateHi]; omega)

theorem isLow_false_of_scalar {c : Nat} (h : IsScalar c) : isLow c = false :=
  Bool.eq_false_iff.2 fun hs => h.2 (by have := (isLow_iff c).1 hs; simp only [surrogateLo, surrogateHi]; omega)

theorem rawOk_surrogate {xs : List Nat} {k c : Nat} (h : RawOk xs k c) (hs : surrogateLo ≤ c ∧ c ≤ surrogateHi) :
    (k : Int) = 3 := by
  simp only [surrogateLo, surrogateHi] at hs
  rw [h.2.2.2, enc8_len3 c (by omega) (by omega)]; rfl

/-- `utf8_to_unicode` answers as `_utf8_to_unicode` does, except that a 3-byte surrogate is
rejected, with -3 and the surrogate left in `*pwc`; so what it accepts is a scalar value. -/
theorem utf8ToUnicode_spec (xs : List Nat) (n : Nat) :
    DecSpec xs n (n = 0 ∨ xs[0]? = some 0)
      (fun k uc => uc = some unicodeRChar ∨ k = 3 ∧ isSurrogate (uc.getD 0) = true)
      (fun k c => RawOk xs k c ∧ IsScalar c) (utf8ToUnicode xs n) := by
  unfold utf8ToUnicode
  have hs := utf8Raw_spec xs n
  generalize utf8Raw xs n = d at hs
  cases hs with
  | stop uc hst => dsimp only; rw [if_neg (by omega)]; exact .stop _ hst
  | oob h => exact .oob h
  | bad k hns h1 hk hb => dsimp only; rw [if_neg (by omega)]; exact .bad k hns h1 hk (.inl hb)
  | ok k c hns h1 hk hok =>
    dsimp only [Option.getD_some]
    by_cases hsur : (k : Int) = 3 ∧ isSurrogate c = true
    · rw [if_pos hsur]
      have hk3 : k = 3 := by omega
      subst hk3
      exact .bad 3 hns h1 hk (.inr ⟨rfl, hsur.2⟩)
    · rw [if_neg hsur]
      exact .ok k c hns h1 hk ⟨hok, hok.2.1, fun h => hsur ⟨rawOk_surrogate hok h, (isSurrogate_iff c).2 h⟩⟩

theorem cesu8_of_utf8ToUnicode (xs : List Nat) (n : Nat) :
    match utf8ToUnicode xs n with
    | .oob => cesu8ToUnicode xs n = .oob
    | .ret r uc => ¬ (r = -3 ∧ isSurrogate (uc.getD 0) = true) → cesu8ToUnicode xs n = .ret r (some (uc.getD 0)) := by
  unfold utf8ToUnicode cesu8ToUnicode
  cases utf8Raw xs n with
  | oob => rfl
  | ret r uc =>
    dsimp only
    by_cases hc : r = 3 ∧ isSurrogate (uc.getD 0) = true
    · rw [if_pos hc]; exact fun h => absurd ⟨rfl, hc.2⟩ h
    · have hhi : ¬ (r = 3 ∧ isHigh (uc.getD 0) = true) := fun h =>
        hc ⟨h.1, (isSurrogate_iff _).2 (by have := (isHigh_iff _).1 h.2; omega)⟩
      have hlo : ¬ (r = 3 ∧ isLow (uc.getD 0) = true) := fun h =>
        hc ⟨h.1, (isSurrogate_iff _).2 (by have := (isLow_iff _).1 h.2; omega)⟩
      rw [if_neg hc, if_neg hhi, if_neg hlo]
      exact fun _ => rfl

theorem cesu8_encode (c : Nat) (hc : 0 < c) (hs : IsScalar c) (rest : List Nat) (n : Nat)
    (hn : (unicodeToUtf8 4 c).length ≤ n) :
    cesu8ToUnicode (unicodeToUtf8 4 c ++ rest) n = .ret (unicodeToUtf8 4 c).length (some c) := by
  unfold cesu8ToUnicode
  rw [utf8Raw_encode c hc hs.1 rest n hn]
  simp [isHigh_false_of_scalar hs, isLow_false_of_scalar hs]

/-- high and low surrogate of a supplementary code point (what `unicode_to_utf16` writes) -/
def hiSur (c : Nat) : Nat := (c - 0x10000) / 1024 % 1024 + 0xD800
def loSur (c : Nat) : Nat := (c - 0x10000) % 1024 + 0xDC00

theorem hiSur_range (c : Nat) : 0xD800 ≤ hiSur c ∧ hiSur c ≤ 0xDBFF := by unfold hiSur; omega
theorem loSur_range (c : Nat) : 0xDC00 ≤ loSur c ∧ loSur c ≤ 0xDFFF := by unfold loSur; omega

theorem combine_hiSur_loSur (c : Nat) (h1 : 0x10000 ≤ c) (h2 : c ≤ 0x10FFFF) :
    combineSurrogatePair (hiSur c) (loSur c) = c := by
  unfold combineSurrogatePair hiSur loSur; omega

theorem combine_spec {h l : Nat} (hh : 0xD800 ≤ h ∧ h ≤ 0xDBFF) (hl : 0xDC00 ≤ l ∧ l ≤ 0xDFFF) :
    0x10000 ≤ combineSurrogatePair h l ∧ combineSurrogatePair h l ≤ 0x10FFFF ∧
      hiSur (combineSurrogatePair h l) = h ∧ loSur (combineSurrogatePair h l) = l := by
  unfold combineSurrogatePair hiSur loSur; omega

theorem isScalar_of_supplementary {c : Nat} (h1 : 0x10000 ≤ c) (h2 : c ≤ 0x10FFFF) : IsScalar c :=
  ⟨h2, fun h => by have := h.2; simp only [surrogateHi] at this; omega⟩

/-- What `cesu8_to_unicode` accepts: a scalar value, in the form `_utf8_to_unicode` accepts or
(6 bytes) as the two 3-byte surrogates of a supplementary code point. -/
def CesuOk (xs : List Nat) (k c : Nat) : Prop :=
  IsScalar c ∧
    (RawOk xs k c ∨ (k = 6 ∧ 0x10000 ≤ c ∧ xs.take 6 = unicodeToUtf8 4 (hiSur c) ++ unicodeToUtf8 4 (loSur c)))

theorem cesu8_spec (xs : List Nat) (n : Nat) :
    DecSpec xs n (n = 0 ∨ xs[0]? = some 0) Replaced (CesuOk xs) (cesu8ToUnicode xs n) := by
  unfold cesu8ToUnicode
  have hs := utf8Raw_spec xs n
  generalize utf8Raw xs n = d at hs
  cases hs with
  | stop uc hst => exact .stop _ hst
  | oob h => exact .oob h
  | bad k hns h1 hk hb =>
    cases hb
    dsimp only
    rw [if_neg (by omega), if_neg (by omega)]
    exact .bad_replaced k hns h1 hk
  | ok k c hns h1 hk hok =>
    dsimp only [Option.getD_some]
    by_cases hhi : (k : Int) = 3 ∧ isHigh c = true
    · rw [if_pos hhi]
      obtain rfl : k = 3 := by omega
      by_cases hn3 : n - 3 < 3
      · rw [if_pos hn3]; exact .bad_replaced 3 hns h1 hk
      rw [if_neg hn3]
      have hs2 := utf8Raw_spec (xs.drop 3) (n - 3)
      generalize utf8Raw (xs.drop 3) (n - 3) = d2 at hs2
      cases hs2 with
      | stop uc2 => dsimp only; rw [if_pos (.inl (by omega))]; exact .bad_replaced 3 hns h1 hk
      | oob h => exact .oob (by rw [List.length_drop] at h; omega)
      | bad k2 => dsimp only; rw [if_pos (.inl (by omega))]; exact .bad_replaced 3 hns h1 hk
      | ok k2 c2 _ _ hk2 hok2 =>
        dsimp only [Option.getD_some]
        by_cases hlo : (k2 : Int) ≠ 3 ∨ (!isLow c2) = true
        · rw [if_pos hlo]; exact .bad_replaced 3 hns h1 hk
        rw [if_neg hlo]
        obtain rfl : k2 = 3 := by omega
        have hlow : isLow c2 = true := by simpa using (not_or.1 hlo).2
        obtain ⟨hc1, hc2, e1, e2⟩ := combine_spec ((isHigh_iff c).1 hhi.2) ((isLow_iff c2).1 hlow)
        refine .ok 6 _ hns (by decide) (by omega) ⟨isScalar_of_supplementary hc1 hc2, .inr ⟨rfl, hc1, ?_⟩⟩
        rw [e1, e2, ← hok.2.2.1, ← hok2.2.2.1, ← List.take_add]
    · rw [if_neg hhi]
      by_cases hlo : (k : Int) = 3 ∧ isLow c = true
      · rw [if_pos hlo]; exact .bad_replaced 3 hns (by decide) (by omega)
      rw [if_neg hlo]
      refine .ok k c hns h1 hk ⟨⟨hok.2.1, fun hsur => ?_⟩, .inl hok⟩
      -- a surrogate is high or low
      have h3 := rawOk_surrogate hok hsur
      simp only [surrogateLo, surrogateHi] at hsur
      by_cases hh : c ≤ 0xDBFF
      · exact hhi ⟨h3, (isHigh_iff c).2 ⟨hsur.1, hh⟩⟩
      · exact hlo ⟨h3, (isLow_iff c).2 ⟨by omega, hsur.2⟩⟩

theorem unicodeToUtf16_bmp (be : Bool) (c : Nat) (h : c ≤ 0xffff) : unicodeToUtf16 be 4 c = enc16 be c := by
  have h1 : ¬ c > 0xffff := by omega
  have : c % 65536 = c := Nat.mod_eq_of_lt (by omega)
  simp [unicodeToUtf16, h1, this]

theorem unicodeToUtf16_supplementary (be : Bool) (c : Nat) (h : 0xffff < c) :
    unicodeToUtf16 be 4 c = enc16 be (hiSur c) ++ enc16 be (loSur c) := by
  simp [unicodeToUtf16, h, hiSur, loSur]

theorem dec16_enc16 (be : Bool) (v : Nat) (hv : v < 65536) (rest : List Nat) :
    ∃ a b, enc16 be v ++ rest = a :: b :: rest ∧ dec16 be a b = v := by
  cases be
  · exact ⟨v % 256, v / 256 % 256, rfl, by simp [dec16]; omega⟩
  · exact ⟨v / 256 % 256, v % 256, rfl, by simp [dec16]; omega⟩

theorem enc16_dec16 (be : Bool) (a b : Nat) (ha : a < 256) (hb : b < 256) : enc16 be (dec16 be a b) = [a, b] := by
  cases be <;> simp [enc16, dec16] <;> omega

theorem dec16_lt (be : Bool) (a b : Nat) (ha : a < 256) (hb : b < 256) : dec16 be a b < 65536 := by
  cases be <;> simp [dec16] <;> omega

theorem utf16Final_scalar (k : Nat) {c : Nat} (hs : IsScalar c) : utf16Final k c = .ret k (some c) := by
  rw [utf16Final, isSurrogate_false_of_scalar hs, if_neg fun h => h.elim Bool.noConfusion (Nat.not_lt.2 hs.1)]

theorem utf16_unit (be : Bool) (a b : Nat) (rest : List Nat) (n : Nat) (hn : 2 ≤ n)
    (hh : isHigh (dec16 be a b) = false) : utf16ToUnicode be (a :: b :: rest) n = utf16Final 2 (dec16 be a b) := by
  have hn0 : n ≠ 0 := by omega
  have hn1 : n ≠ 1 := by omega
  unfold utf16ToUnicode
  simp only [hn0, hn1, List.getElem?_cons_zero, List.getElem?_cons_succ, hh, Bool.false_eq_true, ↓reduceIte]

theorem utf16_units (be : Bool) (a b c d : Nat) (rest : List Nat) (n : Nat) (hn : 4 ≤ n)
    (hh : isHigh (dec16 be a b) = true) (hl : isLow (dec16 be c d) = true) :
    utf16ToUnicode be (a :: b :: c :: d :: rest) n
      = utf16Final 4 (combineSurrogatePair (dec16 be a b) (dec16 be c d)) := by
  have hn0 : n ≠ 0 := by omega
  have hn1 : n ≠ 1 := by omega
  unfold utf16ToUnicode
  simp only [hn0, hn1, hn, List.getElem?_cons_zero, List.getElem?_cons_succ, hh, hl, ↓reduceIte]

theorem utf16_encode (be : Bool) (c : Nat) (hs : IsScalar c) (rest : List Nat) (n : Nat)
    (hn : (unicodeToUtf16 be 4 c).length ≤ n) :
    utf16ToUnicode be (unicodeToUtf16 be 4 c ++ rest) n = .ret (unicodeToUtf16 be 4 c).length (some c) := by
  by_cases h1 : c ≤ 0xffff
  · rw [unicodeToUtf16_bmp be c h1, enc16_len] at hn ⊢
    obtain ⟨a, b, e, hd⟩ := dec16_enc16 be c (by omega) rest
    rw [e, utf16_unit be a b rest n hn (hd ▸ isHigh_false_of_scalar hs), hd, utf16Final_scalar 2 hs]
  · have hh := hiSur_range c
    have hl := loSur_range c
    rw [unicodeToUtf16_supplementary be c (by omega), List.length_append, enc16_len, enc16_len] at hn ⊢
    obtain ⟨a, b, e, hd⟩ := dec16_enc16 be (hiSur c) (by omega) (enc16 be (loSur c) ++ rest)
    obtain ⟨a2, b2, e2, hd2⟩ := dec16_enc16 be (loSur c) (by omega) rest
    rw [List.append_assoc, e, e2,
      utf16_units be a b a2 b2 rest n hn (hd ▸ (isHigh_iff _).2 hh) (hd2 ▸ (isLow_iff _).2 hl),
      hd, hd2, combine_hiSur_loSur c (by omega) ((isScalar_iff c).1 hs).1, utf16Final_scalar 4 hs]

/-- What `utf16_to_unicode` accepts: a scalar value; on a byte string the bytes consumed are
exactly what `unicode_to_utf16` writes for it. -/
def Utf16Ok (be : Bool) (xs : List Nat) (k c : Nat) : Prop :=
  IsScalar c ∧ ((∀ b ∈ xs, b < 256) →
    xs.take k = unicodeToUtf16 be 4 c ∧ k = (unicodeToUtf16 be 4 c).length)

abbrev Utf16Spec (be : Bool) (xs : List Nat) (n : Nat) : Dec → Prop := DecSpec xs n (n = 0) Replaced (Utf16Ok be xs)

theorem unit_step {be : Bool} {xs : List Nat} {n i : Nat} {next : Nat → Nat → Dec} (hin : i + 1 < n)
    (hnext : ∀ a b, xs[i]? = some a → xs[i + 1]? = some b → Utf16Spec be xs n (next a b)) :
    Utf16Spec be xs n (match xs[i]?, xs[i + 1]? with
      | some a, some b => next a b
      | _, _ => .oob) := by
  cases h0 : xs[i]? with
  | none => exact .oob (getElem?_none_lt h0 (by omega))
  | some a =>
    cases h1 : xs[i + 1]? with
    | none => exact .oob (getElem?_none_lt h1 hin)
    | some b => exact hnext a b h0 h1

theorem utf16_spec (be : Bool) (xs : List Nat) (n : Nat) : Utf16Spec be xs n (utf16ToUnicode be xs n) := by
  unfold utf16ToUnicode
  by_cases hn0 : n = 0
  · rw [if_pos hn0]; exact .stop _ hn0
  rw [if_neg hn0]
  by_cases hn1 : n = 1
  · rw [if_pos hn1]; exact .bad_replaced 1 hn0 (Nat.le_refl 1) (by omega)
  rw [if_neg hn1]
  refine unit_step (i := 0) (by omega) fun a b h0 h1 => ?_
  dsimp only
  by_cases hhigh : isHigh (dec16 be a b) = true
  · rw [if_pos hhigh]
    by_cases hn4 : n ≥ 4
    · rw [if_pos hn4]
      refine unit_step (i := 2) hn4 fun c d h2 h3 => ?_
      by_cases hlow : isLow (dec16 be c d) = true
      · rw [if_pos hlow]
        obtain ⟨hc1, hc2, e1, e2⟩ := combine_spec ((isHigh_iff _).1 hhigh) ((isLow_iff _).1 hlow)
        have hsc := isScalar_of_supplementary hc1 hc2
        rw [utf16Final_scalar 4 hsc]
        refine .ok 4 _ hn0 (by decide) hn4 ⟨hsc, fun hb => ?_⟩
        rw [unicodeToUtf16_supplementary be _ (by omega), e1, e2,
          enc16_dec16 be a b (hb a (List.mem_of_getElem? h0)) (hb b (List.mem_of_getElem? h1)),
          enc16_dec16 be c d (hb c (List.mem_of_getElem? h2)) (hb d (List.mem_of_getElem? h3)),
          take_succ_of_getElem? h3, take_succ_of_getElem? h2, take_succ_of_getElem? h1, take_succ_of_getElem? h0]
        exact ⟨rfl, rfl⟩
      · rw [if_neg hlow]; exact .bad_replaced 2 hn0 (by decide) (by omega)
    · rw [if_neg hn4]; exact .bad_replaced 2 hn0 (by decide) (by omega)
  · rw [if_neg hhigh, utf16Final]
    by_cases hbad : isSurrogate (dec16 be a b) = true ∨ dec16 be a b > unicodeMax
    · rw [if_pos hbad]; exact .bad_replaced 2 hn0 (by decide) (by omega)
    rw [if_neg hbad]
    refine .ok 2 _ hn0 (by decide) (by omega) ⟨⟨Nat.le_of_not_lt fun h => hbad (.inr h),
      fun h => hbad (.inl ((isSurrogate_iff _).2 h))⟩, fun hb => ?_⟩
    have ha := hb a (List.mem_of_getElem? h0)
    have hb' := hb b (List.mem_of_getElem? h1)
    rw [unicodeToUtf16_bmp be _ (by have := dec16_lt be a b ha hb'; omega), enc16_dec16 be a b ha hb',
      take_succ_of_getElem? h1, take_succ_of_getElem? h0]
    exact ⟨rfl, rfl⟩

/-- How one scalar value may be written in the source: its regular encoding or, in UTF-8 only,
as a CESU-8 pair of 3-byte surrogates (`pair = true`). -/
def srcItem (fe : Enc) (c : Nat) (pair : Bool) : List Nat :=
  if fe = .utf8 ∧ pair = true then unicodeToUtf8 4 (hiSur c) ++ unicodeToUtf8 4 (loSur c) else unparse fe 4 c

/-- What a source encoding can carry: any scalar value, except that U+0000 ends a UTF-8 string. -/
def Carries (e : Enc) (c : Nat) : Prop := IsScalar c ∧ (e = .utf8 → 0 < c)

/-- What `parse fe` accepts: an item of the source encoding; UTF-16 sources are asked to be byte strings. -/
def ParseOk (fe : Enc) (xs : List Nat) (k c : Nat) : Prop :=
  ∃ pair, Carries fe c ∧ (pair = true → fe = .utf8 ∧ 0x10000 ≤ c) ∧
    ((fe ≠ .utf8 → ∀ b ∈ xs, b < 256) → xs.take k = srcItem fe c pair ∧ k = (srcItem fe c pair).length)

theorem parse_spec (fe : Enc) (xs : List Nat) (n : Nat) :
    DecSpec xs n (n = 0 ∨ fe = .utf8 ∧ xs[0]? = some 0) Replaced (ParseOk fe xs) (parse fe xs n) := by
  have h16 (be : Bool) (fe : Enc) (hfe : fe ≠ .utf8) (hun : unparse fe = unicodeToUtf16 be) :
      DecSpec xs n (n = 0 ∨ fe = .utf8 ∧ xs[0]? = some 0) Replaced (ParseOk fe xs) (utf16ToUnicode be xs n) := by
    refine (utf16_spec be xs n).mono ⟨.inl, fun h => h.elim id fun h => absurd h.1 hfe⟩ fun k c ⟨hs, hb⟩ => ?_
    refine ⟨false, ⟨hs, fun h => absurd h hfe⟩, fun h => Bool.noConfusion h, fun hbytes => ?_⟩
    rw [srcItem, if_neg (fun h => hfe h.1), hun]
    exact hb (hbytes hfe)
  cases fe with
  | utf16be => exact h16 true _ Enc.noConfusion rfl
  | utf16le => exact h16 false _ Enc.noConfusion rfl
  | utf8 =>
    refine (cesu8_spec xs n).mono ⟨fun h => h.imp id (⟨rfl, ·⟩), fun h => h.imp id (·.2)⟩ fun k c ⟨hs, h⟩ => ?_
    rcases h with hok | ⟨rfl, hsup, ht⟩
    · exact ⟨false, ⟨hs, fun _ => hok.1⟩, fun h => Bool.noConfusion h, fun _ => hok.2.2⟩
    · refine ⟨true, ⟨hs, fun _ => by omega⟩, fun _ => ⟨rfl, hsup⟩, fun _ => ?_⟩
      have hh := hiSur_range c
      have hl := loSur_range c
      rw [srcItem, if_pos ⟨rfl, rfl⟩, List.length_append, enc8_len3 _ (by omega) (by omega),
        enc8_len3 _ (by omega) (by omega)]
      exact ⟨ht, rfl⟩

theorem parse_progress (fe : Enc) (xs : List Nat) (n : Nat) (r : Int) (uc : Option Nat)
    (h : parse fe xs n = .ret r uc) (hr : r ≠ 0) : 1 ≤ r.natAbs ∧ r.natAbs ≤ n :=
  (parse_spec fe xs n).progress h hr

theorem parse_no_oob (fe : Enc) (xs : List Nat) (n : Nat) (hn : n ≤ xs.length) : parse fe xs n ≠ .oob :=
  (parse_spec fe xs n).no_oob hn

theorem parse_neg (fe : Enc) (xs : List Nat) (n : Nat) (r : Int) (uc : Option Nat)
    (h : parse fe xs n = .ret r uc) (hr : r < 0) : uc = some unicodeRChar :=
  (parse_spec fe xs n).neg h hr

theorem unparse_stored (e : Enc) (r uc : Nat) (h : unparse e r uc ≠ []) :
    unparse e r uc = unparse e 4 uc ∧ (unparse e 4 uc).length ≤ r := by
  obtain ⟨bs, h1, h4, hb⟩ := unparse_room e uc
  have h4' : unparse e 4 uc = bs := by rw [hb 4, if_neg (by omega)]
  rw [h4', hb r] at *
  by_cases hr : r < bs.length
  · exact absurd (if_pos hr) h
  · exact ⟨if_neg hr, by omega⟩

theorem unparse4_ne_nil (e : Enc) (uc : Nat) : unparse e 4 uc ≠ [] := by
  intro h; have := unparse_nil_lt e 4 uc h; omega

def encSeq (e : Enc) (cs : List Nat) : List Nat := cs.flatMap (unparse e 4)

theorem transcode_oob {fe te : Enc} {xs : List Nat} {len : Nat} (out : List Nat) (ret : Int)
    (h : parse fe xs len = .oob) : transcode fe te xs len out ret = .oob := by
  rw [transcode, h]

theorem transcode_stop {fe te : Enc} {xs : List Nat} {len : Nat} {uc : Option Nat} (out : List Nat) (ret : Int)
    (h : parse fe xs len = .ret 0 uc) : transcode fe te xs len out ret = .ok ret out := by
  rw [transcode, h]; rfl

/-- One turn of the loop; the two length checks of the model never fail. -/
theorem transcode_step {fe te : Enc} {xs : List Nat} {len : Nat} {n : Int} {uc : Option Nat} (out : List Nat)
    (ret : Int) (h : parse fe xs len = .ret n uc) (hn : n ≠ 0) :
    transcode fe te xs len out ret =
      transcode fe te (xs.drop n.natAbs) (len - n.natAbs) (out ++ unparse te 4 (uc.getD 0)) (if n < 0 then -1 else ret) := by
  have hk := parse_progress fe xs len n uc h hn
  rw [transcode, h]
  dsimp only
  rw [if_neg hn, dif_pos ⟨hk.2, hk.1⟩]

/-- Induction along `while ((n = parse(&uc, s, len)) != 0) { s += n; len -= n; … }`: every turn
consumes between 1 and `len` bytes. -/
theorem parse_loop_induct (fe : Enc) {motive : List Nat → Nat → Prop}
    (oob : ∀ xs len, parse fe xs len = .oob → motive xs len)
    (stop : ∀ xs len uc, parse fe xs len = .ret 0 uc → motive xs len)
    (step : ∀ xs len n uc, parse fe xs len = .ret n uc → n ≠ 0 → 1 ≤ n.natAbs → n.natAbs ≤ len →
      motive (xs.drop n.natAbs) (len - n.natAbs) → motive xs len)
    (xs : List Nat) (len : Nat) : motive xs len := by
  induction len using Nat.strongRecOn generalizing xs with
  | ind len ih =>
    cases hp : parse fe xs len with
    | oob => exact oob xs len hp
    | ret n uc =>
      by_cases hn : n = 0
      · exact stop xs len uc (hn ▸ hp)
      · have hk := parse_progress fe xs len n uc hp hn
        exact step xs len n uc hp hn hk.1 hk.2 (ih _ (by omega) _)

theorem carries_rchar (e : Enc) : Carries e unicodeRChar :=
  ⟨by rw [isScalar_iff]; simp [unicodeRChar], fun _ => by simp [unicodeRChar]⟩

/-- The loop always ends with a result on a block of at least `len` bytes; what it appends is
the encoding of a sequence of values the source can carry (U+FFFD where the source was
malformed), and its return value is the incoming one or -1. -/
theorem transcode_total (fe te : Enc) (len : Nat) (xs acc : List Nat) (ret : Int) (hlen : len ≤ xs.length) :
    ∃ r cs, transcode fe te xs len acc ret = .ok r (acc ++ encSeq te cs) ∧ (∀ c ∈ cs, Carries fe c) ∧
      (r = ret ∨ r = -1) := by
  induction xs, len using parse_loop_induct fe generalizing acc ret with
  | oob xs len hp => exact absurd hp (parse_no_oob fe xs len hlen)
  | stop xs len uc hp => exact ⟨ret, [], by rw [transcode_stop acc ret hp]; simp [encSeq], by simp, .inl rfl⟩
  | step xs len n uc hp hn _ hk ih =>
    obtain ⟨r, cs, he, hcs, hr⟩ := ih (acc ++ unparse te 4 (uc.getD 0)) (if n < 0 then -1 else ret)
      (by rw [List.length_drop]; omega)
    refine ⟨r, uc.getD 0 :: cs, by rw [transcode_step acc ret hp hn, he]; simp [encSeq],
      List.forall_mem_cons.2 ⟨?_, hcs⟩, by split at hr <;> omega⟩
    by_cases hpos : 0 < n
    · obtain ⟨c, rfl, ⟨_, hcar, _⟩, _⟩ := (parse_spec fe xs len).pos hp hpos
      exact hcar
    · rw [parse_neg fe xs len n uc hp (by omega)]; exact carries_rchar fe

theorem parse_encode (fe : Enc) (c : Nat) (hc : Carries fe c) (rest : List Nat) (n : Nat)
    (hn : (unparse fe 4 c).length ≤ n) :
    parse fe (unparse fe 4 c ++ rest) n = .ret (unparse fe 4 c).length (some c) := by
  cases fe
  · exact cesu8_encode c (hc.2 rfl) hc.1 rest n hn
  · exact utf16_encode true c hc.1 rest n hn
  · exact utf16_encode false c hc.1 rest n hn

theorem parse_end (fe : Enc) (xs : List Nat) : parse fe xs 0 = .ret 0 (if fe = .utf8 then some 0 else none) := by
  cases fe <;> simp [parse, cesu8ToUnicode, utf8Raw, utf16ToUnicode]

/-- Transcoding the encoding of a sequence of scalar values (whatever follows it in the block)
yields the encoding of the same sequence in the target encoding, and reports no failure. -/
theorem transcode_encSeq_append (fe te : Enc) (cs : List Nat) (hcs : ∀ c ∈ cs, Carries fe c)
    (rest acc : List Nat) (ret : Int) :
    transcode fe te (encSeq fe cs ++ rest) (encSeq fe cs).length acc ret = .ok ret (acc ++ encSeq te cs) := by
  induction cs generalizing acc with
  | nil => exact (transcode_stop acc ret (parse_end fe _)).trans (by simp [encSeq])
  | cons c cs ih =>
    have hne : unparse fe 4 c ≠ [] := unparse4_ne_nil fe c
    have hx : encSeq fe (c :: cs) = unparse fe 4 c ++ encSeq fe cs := rfl
    have hp := parse_encode fe c (hcs c (List.mem_cons_self ..)) (encSeq fe cs ++ rest)
      (unparse fe 4 c ++ encSeq fe cs).length (by simp)
    rw [hx, List.append_assoc, transcode_step acc ret hp (by simpa using hne)]
    simp only [Int.natAbs_natCast, List.drop_left, List.length_append, Nat.add_sub_cancel_left, Option.getD_some]
    rw [if_neg (by omega), ih (fun c' h' => hcs c' (List.mem_cons_of_mem _ h'))]
    simp [encSeq]

theorem transcode_encSeq (fe te : Enc) (cs : List Nat) (hcs : ∀ c ∈ cs, Carries fe c)
    (acc : List Nat) (ret : Int) :
    transcode fe te (encSeq fe cs) (encSeq fe cs).length acc ret = .ok ret (acc ++ encSeq te cs) := by
  simpa using transcode_encSeq_append fe te cs hcs [] acc ret

def srcSeq (fe : Enc) (items : List (Nat × Bool)) : List Nat := items.flatMap fun it => srcItem fe it.1 it.2

/-- If `transcode` reports no failure (return value 0), the bytes it consumed are a sequence of
scalar values in the source encoding (CESU-8 pairs allowed in UTF-8), it consumed the source up
to its end, and what it produced is the encoding of the same sequence in the target encoding. -/
theorem transcode_sound (fe te : Enc) (len : Nat) (xs acc out : List Nat) (hb : fe ≠ .utf8 → ∀ b ∈ xs, b < 256)
    (hlen : len ≤ xs.length) (h : transcode fe te xs len acc 0 = .ok 0 out) :
    ∃ items : List (Nat × Bool),
      (∀ it ∈ items, Carries fe it.1 ∧ (it.2 = true → fe = .utf8 ∧ 0x10000 ≤ it.1)) ∧
      (srcSeq fe items).length ≤ len ∧ xs.take (srcSeq fe items).length = srcSeq fe items ∧
      ((srcSeq fe items).length = len ∨ fe = .utf8 ∧ xs[(srcSeq fe items).length]? = some 0) ∧
      out = acc ++ encSeq te (items.map (·.1)) := by
  induction xs, len using parse_loop_induct fe generalizing acc with
  | oob xs len hp => rw [transcode_oob acc 0 hp] at h; cases h
  | stop xs len uc hp =>
    rw [transcode_stop acc 0 hp] at h
    cases h
    refine ⟨[], by simp, by simp [srcSeq], by simp [srcSeq], ?_, by simp [encSeq]⟩
    rcases ((parse_spec fe xs len).zero hp).1 rfl with h0 | h0
    · exact .inl (by simp [srcSeq, h0])
    · exact .inr (by simpa [srcSeq] using h0)
  | step xs len n uc hp hn _ hk ih =>
    rw [transcode_step acc 0 hp hn] at h
    have hlen' : len - n.natAbs ≤ (xs.drop n.natAbs).length := by rw [List.length_drop]; omega
    by_cases hneg : n < 0
    · -- once a replacement happened the result stays -1
      rw [if_pos hneg] at h
      obtain ⟨r, cs, he, -, hr⟩ := transcode_total fe te _ _ (acc ++ unparse te 4 (uc.getD 0)) (-1) hlen'
      rw [h] at he; cases he; omega
    rw [if_neg hneg] at h
    obtain ⟨c, rfl, ⟨pair, hcar, hpr, hit⟩, -⟩ := (parse_spec fe xs len).pos hp (by omega)
    obtain ⟨htake, hl⟩ := hit hb
    rw [show n.toNat = n.natAbs by omega] at htake hl
    obtain ⟨items, hit, hle, htk, hend, hout⟩ := ih _ (fun hne b hb' => hb hne b (List.mem_of_mem_drop hb')) hlen' h
    have hcons : (srcSeq fe ((c, pair) :: items)).length = n.natAbs + (srcSeq fe items).length := by
      rw [hl]; exact List.length_append
    refine ⟨(c, pair) :: items, List.forall_mem_cons.2 ⟨⟨hcar, hpr⟩, hit⟩, ?_, ?_, ?_, ?_⟩
    · omega
    · rw [hcons, List.take_add, htake, htk]; rfl
    · rw [hcons]
      rw [List.getElem?_drop] at hend
      exact hend.imp (by omega) id
    · rw [hout]; simp [encSeq]

/-- The buffer invariant of `archive_string_append_unicode`: `p ≤ endp`. -/
def BufInv (ts : Nat) (as : AStr) : Prop := as.alloc = true ∧ as.data.length + ts ≤ as.cap

theorem ensure_alloc (as : AStr) (s : Nat) : (ensure as s).alloc = true := by
  unfold ensure; split
  · rename_i h; exact h.1
  · rfl

theorem ensure_inv (ts : Nat) (as : AStr) (s : Nat) (h : as.data.length + ts ≤ s) : BufInv ts (ensure as s) := by
  refine ⟨ensure_alloc as s, ?_⟩
  rw [ensure_data]; have := ensure_cap_ge as s; omega

/-- The grow-and-store loop: under the invariant it stores exactly `unparse e 4 uc` behind the
existing content, every byte below `buffer_length`, and re-establishes the invariant. -/
theorem unparseGrow_spec (e : Enc) (lenTm uc : Nat) (as : AStr) (hinv : BufInv e.ts as) :
    ∃ cap', unparseGrow e lenTm uc as = .ok 0 { alloc := true, cap := cap', data := as.data ++ unparse e 4 uc } ∧
      as.data.length + (unparse e 4 uc).length + e.ts ≤ cap' := by
  fun_induction unparseGrow e lenTm uc as with
  | case1 as bs hb hw ih =>
    have := ih (ensure_inv e.ts as _ (by have := hinv.2; omega))
    rw [ensure_data] at this
    exact this
  | case2 as bs hb hw => exact absurd hinv.2 hw
  | case3 as bs hb hfit =>
    obtain ⟨hbs, hl⟩ := unparse_stored e _ uc hb
    obtain ⟨halloc, hcap⟩ := hinv
    rw [roomFor, if_pos hcap] at hl
    refine ⟨as.cap, ?_, by omega⟩
    show AppRes.ok 0 { as with data := as.data ++ unparse e (roomFor as e.ts) uc } = _
    rw [hbs, ← halloc]
  | case4 as bs hb hfit =>
    obtain ⟨hbs, hl⟩ := unparse_stored e _ uc hb
    rw [roomFor, if_pos hinv.2] at hl
    have : bs.length = (unparse e 4 uc).length := congrArg List.length hbs
    have := hinv.2
    omega

/-- `archive_string_append_unicode`'s loop computes `transcode` and keeps every store inside
the buffer: from any state satisfying the invariant it ends in `.ok` with the transcoded bytes
appended, room for the terminator left. -/
theorem appendLoop_spec (fe te : Enc) (tm : Nat) (len : Nat) (xs : List Nat) (as : AStr) (ret : Int) (acc : List Nat)
    (hlen : len ≤ xs.length) (hinv : BufInv te.ts as) :
    ∃ r out cap', transcode fe te xs len acc ret = .ok r (acc ++ out) ∧
      appendLoop fe te tm xs len as ret = .ok r { alloc := true, cap := cap', data := as.data ++ out } ∧
      as.data.length + out.length + te.ts ≤ cap' := by
  induction xs, len using parse_loop_induct fe generalizing as ret acc with
  | oob xs len hp => exact absurd hp (parse_no_oob fe xs len hlen)
  | stop xs len uc hp =>
    obtain ⟨halloc, hcap⟩ := hinv
    have := te.ts_pos
    rw [appendLoop, hp, transcode_stop acc ret hp]
    dsimp only
    rw [if_pos rfl, if_neg (by omega), if_neg (by omega)]
    refine ⟨ret, [], as.cap, by simp, ?_, by simpa using hcap⟩
    rw [List.append_nil, ← halloc]
  | step xs len n uc hp hn h1 hk ih =>
    obtain ⟨cap1, hg, hfit⟩ := unparseGrow_spec te ((len - n.natAbs) * tm) (uc.getD 0) as hinv
    rw [appendLoop, hp, transcode_step acc ret hp hn]
    dsimp only
    rw [if_neg hn, dif_pos ⟨hk, h1⟩, hg]
    dsimp only
    obtain ⟨r, out, cap', ht, ha, hc⟩ := ih { alloc := true, cap := cap1, data := as.data ++ unparse te 4 (uc.getD 0) }
      (if n < 0 then -1 else ret) (acc ++ unparse te 4 (uc.getD 0)) (by rw [List.length_drop]; omega)
      ⟨rfl, by simpa only [List.length_append] using hfit⟩
    refine ⟨r, unparse te 4 (uc.getD 0) ++ out, cap', ?_, ?_, ?_⟩
    · rw [ht, List.append_assoc]
    · rw [ha, List.append_assoc]
    · simp only [List.length_append] at hc ⊢; omega

/-- Well-formed UTF-8 without NUL: the encoding of a sequence of non-zero scalar values. -/
def WellFormed8 (bs : List Nat) : Prop := ∃ cs, (∀ c ∈ cs, Carries .utf8 c) ∧ bs = encSeq .utf8 cs

theorem wellFormed8_snoc {bs : List Nat} {c : Nat} (h : WellFormed8 bs) (hc : Carries .utf8 c) :
    WellFormed8 (bs ++ unicodeToUtf8 4 c) := by
  obtain ⟨cs, hcs, rfl⟩ := h
  refine ⟨cs ++ [c], ?_, by simp [encSeq, unparse]⟩
  intro c' hc'
  rcases List.mem_append.1 hc' with h | h
  · exact hcs c' h
  · exact List.mem_singleton.1 h ▸ hc

/-- `strncat_from_utf8_to_utf8` is the general loop from UTF-8 to UTF-8: copying a well-formed
sequence verbatim is re-encoding it, and its two decoders agree wherever the second is not called. -/
theorem utf8ToUtf8Loop_eq_transcode (len : Nat) (xs out : List Nat) (ret : Int) :
    utf8ToUtf8Loop xs len out ret = transcode .utf8 .utf8 xs len out ret := by
  induction len using Nat.strongRecOn generalizing xs out ret with
  | ind len ih =>
    rw [utf8ToUtf8Loop]
    have hs := utf8ToUnicode_spec xs len
    have hc := cesu8_of_utf8ToUnicode xs len
    cases hp : utf8ToUnicode xs len with
    | oob => rw [hp] at hc; rw [transcode_oob (fe := .utf8) out ret hc]
    | ret r uc =>
      rw [hp] at hc
      dsimp only at hc ⊢
      by_cases hsur : r = -3 ∧ isSurrogate (uc.getD 0) = true
      · -- the CESU-8 decoder is asked; it cannot answer 0 here
        rw [if_neg (by omega), if_neg (by omega), if_pos hsur]
        cases hd : cesu8ToUnicode xs len with
        | oob => rw [transcode_oob (fe := .utf8) out ret hd]
        | ret n uc' =>
          have hn : n ≠ 0 := fun h0 => by
            have := (hs.zero hp).2 (((cesu8_spec xs len).zero hd).1 h0); omega
          have hk := (cesu8_spec xs len).progress hd hn
          dsimp only
          rw [transcode_step (fe := .utf8) out ret hd hn, if_neg (by omega), dif_pos hk.2]
          exact ih _ (by omega) _ _ _
      · have hc := hc hsur
        by_cases hr0 : r = 0
        · subst hr0; rw [if_pos rfl, transcode_stop (fe := .utf8) out ret hc]
        have hk := hs.progress hp hr0
        rw [if_neg hr0, transcode_step (fe := .utf8) out ret hc hr0]
        by_cases hpos : 0 < r
        · obtain ⟨c, rfl, ⟨hok, -⟩, -⟩ := hs.pos hp hpos
          rw [if_pos hpos, dif_pos (by omega), if_neg (by omega), show r.natAbs = r.toNat by omega, hok.2.2.1]
          exact ih _ (by omega) _ _ _
        · rw [if_neg hpos, if_neg hsur]
          dsimp only
          rw [if_neg (by omega), dif_pos hk.2]
          exact ih _ (by omega) _ _ _

/-! ### `best_effort_strncat_to_utf16` / `_from_utf16`: stores stay inside the buffer -/

theorem bestEffortToUtf16_go_spec (be : Bool) (remaining : Nat) (xs : List Nat) (as : AStr) (ret : Int)
    (hl : remaining ≤ xs.length) (hc : as.data.length + 2 * (remaining + 1) ≤ as.cap) :
    ∃ r as', bestEffortToUtf16.go be xs remaining as ret = .ok r as' ∧
      as'.data.length = as.data.length + 2 * remaining ∧ as'.data.length + 2 ≤ as'.cap := by
  induction remaining generalizing xs as ret with
  | zero =>
    rw [bestEffortToUtf16.go, if_neg (by omega)]
    exact ⟨ret, as, rfl, rfl, by omega⟩
  | succ r ih =>
    obtain ⟨b, hb⟩ : ∃ b, xs[0]? = some b := ⟨xs[0], List.getElem?_eq_getElem (by omega)⟩
    rw [bestEffortToUtf16.go, hb]
    dsimp only
    generalize (if b > 127 then (unicodeRChar, (-1 : Int)) else (b, ret)) = p
    rw [if_neg (by omega)]
    obtain ⟨r', as', he, hd, hcap⟩ := ih (xs.drop 1) { as with data := as.data ++ enc16 be (p.1 % 65536) } p.2
      (by rw [List.length_drop]; omega) (by simp only [List.length_append, enc16_len]; omega)
    refine ⟨r', as', he, ?_, hcap⟩
    rw [hd, List.length_append, enc16_len]; omega

theorem bestEffortFromUtf16Loop_spec (be : Bool) (bytes : Nat) (xs : List Nat) (as : AStr) (ret : Int)
    (hl : bytes ≤ xs.length) (hc : as.data.length + bytes + 1 ≤ as.cap) :
    ∃ r as', bestEffortFromUtf16Loop be xs bytes as ret = .ok r as' ∧ as'.data.length + 1 ≤ as'.cap := by
  induction bytes using Nat.strongRecOn generalizing xs as ret with
  | ind bytes ih =>
    rw [bestEffortFromUtf16Loop]
    cases hp : utf16ToUnicode be xs bytes with
    | oob => exact absurd hp ((utf16_spec be xs bytes).no_oob hl)
    | ret n uc =>
      dsimp only
      by_cases hn : n = 0
      · rw [if_pos hn, if_neg (by omega)]
        exact ⟨ret, as, rfl, by omega⟩
      · have hk := (utf16_spec be xs bytes).progress hp hn
        rw [if_neg hn, dif_pos ⟨hk.2, hk.1⟩]
        generalize (if uc.getD 0 > 127 then (63, (-1 : Int)) else (uc.getD 0, if n < 0 then -1 else ret)) = p
        rw [if_neg (by omega)]
        exact ih (bytes - n.natAbs) (by omega) (xs.drop n.natAbs) { as with data := as.data ++ [p.1] } p.2
          (by rw [List.length_drop]; omega) (by simp only [List.length_append, List.length_singleton]; omega)

end LA.Unicode
