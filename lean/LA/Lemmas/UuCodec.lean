/-
Line-level lemmas: what `uu_encode` / `la_b64_encode` write, the corresponding
cases of `uudecode_filter_read` read back.
-/
import LA.Model.Uu
import LA.Model.B64
import LA.Model.UuRead
namespace LA.UuRead
open LA.Gen.UuTables

def Bytes (x : List Nat) : Prop := ∀ b ∈ x, b < 256

theorem Bytes.cons {a : Nat} {x : List Nat} (h : Bytes (a :: x)) : a < 256 ∧ Bytes x :=
  ⟨h a (by simp), fun b hb => h b (by simp [hb])⟩

/-- Printable ASCII: the characters `get_line` accepts inside a line. -/
def Printable (x : List Nat) : Prop := ∀ c ∈ x, 32 ≤ c ∧ c ≤ 126

theorem cls_printable {c : Nat} (h : 32 ≤ c ∧ c ≤ 126) : cls c = 1 := by
  simp only [cls]
  rw [if_neg (by omega), if_neg (by omega), if_pos h]

/-! ### the group layout shared by the two encoders -/

/-- `uu_encode` and `la_b64_encode` cut three bytes into four six-bit fields in
the same way; they differ in the alphabet `ch` and in the padding character. -/
def groups (ch : Nat → Nat) (pad : Nat) : List Nat → List Nat
  | a :: b :: c :: rest =>
    ch (a / 4) :: ch (a % 4 * 16 + b / 16) :: ch (b % 16 * 4 + c / 64) :: ch (c % 64) :: groups ch pad rest
  | [a, b] => [ch (a / 4), ch (a % 4 * 16 + b / 16), ch (b % 16 * 4), pad]
  | [a] => [ch (a / 4), ch (a % 4 * 16), pad, pad]
  | [] => []

theorem uu_triples : ∀ p, LA.Uu.triples p = groups LA.Uu.ch 96 p
  | a :: b :: c :: rest => by rw [LA.Uu.triples, groups, uu_triples rest]
  | [_, _] => rfl
  | [_] => rfl
  | [] => rfl

theorem b64_triples : ∀ p, LA.B64.triples p = groups LA.B64.ch 61 p
  | a :: b :: c :: rest => by rw [LA.B64.triples, groups, b64_triples rest]
  | [_, _] => rfl
  | [_] => rfl
  | [] => rfl

theorem groups_length (ch : Nat → Nat) (pad : Nat) : ∀ p, (groups ch pad p).length = (p.length + 2) / 3 * 4
  | a :: b :: c :: rest => by
    simp only [groups, List.length_cons, groups_length ch pad rest]; omega
  | [_, _] => by simp [groups]
  | [_] => by simp [groups]
  | [] => by simp [groups]

theorem groups_cons (ch : Nat → Nat) (pad a : Nat) : ∀ rest, ∃ r, groups ch pad (a :: rest) = ch (a / 4) :: r
  | [] => ⟨_, rfl⟩
  | [_] => ⟨_, rfl⟩
  | _ :: _ :: _ => ⟨_, rfl⟩

theorem six_lt {a b c : Nat} (ha : a < 256) (hb : b < 256) (hc : c < 256) :
    a / 4 < 64 ∧ a % 4 * 16 + b / 16 < 64 ∧ b % 16 * 4 + c / 64 < 64 ∧ c % 64 < 64 := by omega

/-- Putting the four six-bit fields together again gives back the three bytes. -/
theorem unsix (a : Nat) {b c : Nat} (hb : b < 256) (hc : c < 256) :
    (a / 4 * 262144 + (a % 4 * 16 + b / 16) * 4096) / 65536 = a ∧
    (a / 4 * 262144 + (a % 4 * 16 + b / 16) * 4096 + (b % 16 * 4 + c / 64) * 64) / 256 % 256 = b ∧
    (a / 4 * 262144 + (a % 4 * 16 + b / 16) * 4096 + (b % 16 * 4 + c / 64) * 64 + c % 64) % 256 = c := by
  omega

theorem groups_all {ch : Nat → Nat} {pad : Nat} {P : Nat → Prop} (hch : ∀ x, x < 64 → P (ch x)) (hpad : P pad) :
    ∀ p, Bytes p → ∀ x ∈ groups ch pad p, P x
  | a :: b :: c :: rest, hb => by
    obtain ⟨ha, hb⟩ := hb.cons
    obtain ⟨hb', hb⟩ := hb.cons
    obtain ⟨hc, hb⟩ := hb.cons
    obtain ⟨h0, h1, h2, h3⟩ := six_lt ha hb' hc
    simp only [groups, List.forall_mem_cons]
    exact ⟨hch _ h0, hch _ h1, hch _ h2, hch _ h3, groups_all hch hpad rest hb⟩
  | [a, b], hb => by
    obtain ⟨ha, hb⟩ := hb.cons
    obtain ⟨h0, h1, h2, -⟩ := six_lt ha hb.cons.1 (Nat.zero_lt_succ 255)
    simp only [groups, List.forall_mem_cons]
    exact ⟨hch _ h0, hch _ h1, hch _ h2, hpad, nofun⟩
  | [a], hb => by
    obtain ⟨h0, h1, -, -⟩ := six_lt hb.cons.1 (Nat.zero_lt_succ 255) (Nat.zero_lt_succ 255)
    simp only [groups, List.forall_mem_cons]
    exact ⟨hch _ h0, hch _ h1, hpad, hpad, nofun⟩
  | [], _ => nofun

/-! ### uuencode -/

theorem uu_ch_range (x : Nat) (h : x < 64) : 33 ≤ LA.Uu.ch x ∧ LA.Uu.ch x ≤ 96 := by
  unfold LA.Uu.ch; split <;> omega

theorem uuchar_ch (x : Nat) (h : x < 64) : uuchar (LA.Uu.ch x) = true := by
  have := uu_ch_range x h
  simp [uuchar]; omega

theorem udec_ch (x : Nat) (h : x < 64) : udec (LA.Uu.ch x) = x := by
  unfold udec LA.Uu.ch; split <;> omega

theorem uuchar_96 : uuchar 96 = true := by decide

theorem uu_groups_uuchar (p : List Nat) (hb : Bytes p) : ∀ c ∈ groups LA.Uu.ch 96 p, uuchar c = true :=
  groups_all uuchar_ch uuchar_96 p hb

theorem uu_groups_printable (p : List Nat) (hb : Bytes p) : Printable (groups LA.Uu.ch 96 p) :=
  groups_all (fun x h => by have := uu_ch_range x h; omega) (by omega) p hb

/-- The `ST_READ_UU` group loop inverts `uu_encode`'s groups.  (The short last
group is the full one with zero bytes in place of the missing ones.) -/
theorem uuGroups_groups : ∀ (p : List Nat), Bytes p → ∀ (tail : List Nat),
    uuGroups p.length (groups LA.Uu.ch 96 p ++ tail) = .ok p
  | [], _, tail => by unfold uuGroups; rfl
  | [a], hb, tail => by
    obtain ⟨h0, h1, -, -⟩ := six_lt hb.cons.1 (Nat.zero_lt_succ 255) (Nat.zero_lt_succ 255)
    have o := unsix a (Nat.zero_lt_succ 255) (Nat.zero_lt_succ 255)
    simp only [Nat.zero_div, Nat.add_zero] at h1 o
    unfold uuGroups
    simp only [groups, List.length_cons, List.length_nil, List.cons_append,
      uuchar_ch _ h0, uuchar_ch _ h1, udec_ch _ h0, udec_ch _ h1, o.1]
    simp
  | [a, b], hb, tail => by
    obtain ⟨ha, hb⟩ := hb.cons
    obtain ⟨h0, h1, h2, -⟩ := six_lt ha hb.cons.1 (Nat.zero_lt_succ 255)
    have o := unsix a hb.cons.1 (Nat.zero_lt_succ 255)
    simp only [Nat.zero_div, Nat.add_zero] at h2 o
    unfold uuGroups
    simp only [groups, List.length_cons, List.length_nil, List.cons_append,
      uuchar_ch _ h0, uuchar_ch _ h1, uuchar_ch _ h2, udec_ch _ h0, udec_ch _ h1, udec_ch _ h2, o.1, o.2.1]
    simp
  | a :: b :: c :: rest, hb, tail => by
    obtain ⟨ha, hb⟩ := hb.cons
    obtain ⟨hb', hb⟩ := hb.cons
    obtain ⟨hc, hb⟩ := hb.cons
    obtain ⟨h0, h1, h2, h3⟩ := six_lt ha hb' hc
    obtain ⟨o1, o2, o3⟩ := unsix a hb' hc
    unfold uuGroups
    simp only [groups, List.length_cons, List.cons_append,
      uuchar_ch _ h0, uuchar_ch _ h1, uuchar_ch _ h2, uuchar_ch _ h3,
      udec_ch _ h0, udec_ch _ h1, udec_ch _ h2, udec_ch _ h3, o1, o2, o3]
    simp [uuGroups_groups rest hb tail, DecR.cons]

/-- `ST_READ_UU` on a line written by `uu_encode` gives back the bytes. -/
theorem uuLine_enc (p : List Nat) (hb : Bytes p) (h1 : 0 < p.length) (h45 : p.length ≤ 45) :
    uuLine (LA.Uu.encLine p) 1 = .data p := by
  have hl := groups_length LA.Uu.ch 96 p
  have hu := uuchar_ch p.length (by omega)
  have hd := udec_ch p.length (by omega)
  have h3 : ¬ (p.length > (groups LA.Uu.ch 96 p).length + (0 + 1) + 1 - 1 - 1) := by omega
  have h4 : ¬ (p.length = 0) := by omega
  simp only [uuLine, LA.Uu.encLine, uu_triples, List.cons_append, List.length_cons, List.length_append,
    List.length_nil, hu, hd, h3, h4, uuGroups_groups p hb [10]]
  simp

theorem uuLine_end : uuLine [96, 10] 1 = .toPhase .uuEnd := by decide

/-! ### base64 -/

theorem b64_ch_facts : ∀ x, x < 64 →
    (b64ok (LA.B64.ch x) = true ∧ b64num (LA.B64.ch x) = some x ∧ LA.B64.ch x ≠ 61 ∧
      43 ≤ LA.B64.ch x ∧ LA.B64.ch x ≤ 122) := by decide +kernel

theorem b64_groups_ok (p : List Nat) (hb : Bytes p) : ∀ c ∈ groups LA.B64.ch 61 p, b64ok c = true :=
  groups_all (fun x h => (b64_ch_facts x h).1) (by decide) p hb

theorem b64_groups_printable (p : List Nat) (hb : Bytes p) : Printable (groups LA.B64.ch 61 p) :=
  groups_all (fun x h => by have := b64_ch_facts x h; omega) (by omega) p hb

/-- The `ST_READ_BASE64` group loop inverts `la_b64_encode`'s groups; it stops
either with `l = 0` or at a `'='`. -/
theorem b64Groups_groups : ∀ (p : List Nat), Bytes p → ∀ (tail : List Nat),
    ∃ l' c', b64Groups ((groups LA.B64.ch 61 p).length : Int) (groups LA.B64.ch 61 p ++ tail) = some (p, l', c') ∧
      (l' = 0 ∨ c' = some 61)
  | [], _, tail => ⟨0, tail.head?, by unfold b64Groups; rfl, Or.inl rfl⟩
  | [a], hb, tail => by
    obtain ⟨h0, h1, -, -⟩ := six_lt hb.cons.1 (Nat.zero_lt_succ 255) (Nat.zero_lt_succ 255)
    have o := unsix a (Nat.zero_lt_succ 255) (Nat.zero_lt_succ 255)
    simp only [Nat.zero_div, Nat.add_zero] at h1 o
    obtain ⟨a1, a2, -⟩ := b64_ch_facts _ h0
    obtain ⟨b1, b2, -⟩ := b64_ch_facts _ h1
    refine ⟨2, some 61, ?_, Or.inr rfl⟩
    unfold b64Groups
    simp only [groups, List.length_cons, List.length_nil, List.cons_append, a1, a2, b1, b2, o.1]
    simp
  | [a, b], hb, tail => by
    obtain ⟨ha, hb⟩ := hb.cons
    obtain ⟨h0, h1, h2, -⟩ := six_lt ha hb.cons.1 (Nat.zero_lt_succ 255)
    have o := unsix a hb.cons.1 (Nat.zero_lt_succ 255)
    simp only [Nat.zero_div, Nat.add_zero] at h2 o
    obtain ⟨a1, a2, -⟩ := b64_ch_facts _ h0
    obtain ⟨b1, b2, -⟩ := b64_ch_facts _ h1
    obtain ⟨c1, c2, c3, -⟩ := b64_ch_facts _ h2
    refine ⟨1, some 61, ?_, Or.inr rfl⟩
    unfold b64Groups
    simp only [groups, List.length_cons, List.length_nil, List.cons_append, a1, a2, b1, b2, c1, c2, c3, o.1, o.2.1]
    simp
  | a :: b :: c :: rest, hb, tail => by
    obtain ⟨ha, hb⟩ := hb.cons
    obtain ⟨hb', hb⟩ := hb.cons
    obtain ⟨hc, hb⟩ := hb.cons
    obtain ⟨l', c', ih1, ih2⟩ := b64Groups_groups rest hb tail
    obtain ⟨h0, h1, h2, h3⟩ := six_lt ha hb' hc
    obtain ⟨a1, a2, -⟩ := b64_ch_facts _ h0
    obtain ⟨b1, b2, -⟩ := b64_ch_facts _ h1
    obtain ⟨c1, c2, c3, -⟩ := b64_ch_facts _ h2
    obtain ⟨d1, d2, d3, -⟩ := b64_ch_facts _ h3
    refine ⟨l', c', ?_, ih2⟩
    simp only [groups, List.length_cons, List.cons_append]
    generalize (groups LA.B64.ch 61 rest).length = n at ih1 ⊢
    -- `l` goes down by 2, 1 and 1 within a group
    have e1 : ¬ (((n + 1 + 1 + 1 + 1 : Nat) : Int) ≤ 0) := by omega
    have e2 : ¬ (((n + 1 + 1 + 1 + 1 : Nat) : Int) - 2 ≤ 0) := by omega
    have e3 : ¬ (((n + 1 + 1 + 1 + 1 : Nat) : Int) - 2 - 1 ≤ 0) := by omega
    have e4 : ((n + 1 + 1 + 1 + 1 : Nat) : Int) - 2 - 1 - 1 = (n : Int) := by omega
    obtain ⟨o1, o2, o3⟩ := unsix a hb' hc
    unfold b64Groups
    simp only [e1, e2, e3, e4, if_false, a1, a2, b1, b2, c1, c2, c3, d1, d2, d3, ih1, o1, o2, o3, Bool.not_true,
      Bool.false_eq_true, or_false, List.cons_append, List.nil_append]

theorem b64_groups_head {p : List Nat} (hb : Bytes p) (h1 : p ≠ []) :
    ∃ c r, groups LA.B64.ch 61 p = c :: r ∧ b64ok c = true ∧ c ≠ 61 := by
  obtain ⟨a, rest, rfl⟩ := List.exists_cons_of_ne_nil h1
  obtain ⟨r, hr⟩ := groups_cons LA.B64.ch 61 a rest
  have := b64_ch_facts (a / 4) (by have := hb.cons.1; omega)
  exact ⟨_, r, hr, this.1, this.2.2.1⟩

/-- `ST_READ_BASE64` on a line written by `la_b64_encode` gives back the bytes. -/
theorem b64Line_enc (p : List Nat) (hb : Bytes p) (h1 : 0 < p.length) :
    b64Line (LA.B64.encLine p) 1 = .data p := by
  obtain ⟨l', c', g1, g2⟩ := b64Groups_groups p hb [10]
  obtain ⟨c, r, hr, -, hc⟩ := b64_groups_head hb (List.ne_nil_of_length_pos h1)
  have hne : ¬ ((groups LA.B64.ch 61 p ++ [10]).take 3 = [61, 61, 61]) := by simp [hr, hc]
  have hl : ((groups LA.B64.ch 61 p ++ [10]).length - 1 : Nat) = (groups LA.B64.ch 61 p).length := by simp
  simp only [b64Line, LA.B64.encLine, b64_triples, hne, and_false, if_false, hl, g1]
  rcases g2 with rfl | rfl
  · cases c' <;> simp
  · simp

theorem b64Line_end : b64Line [61, 61, 61, 61, 10] 1 = .toPhase .findHead := by decide

theorem b64_encLine_body (p : List Nat) (hb : Bytes p) :
    ∃ body, LA.B64.encLine p = body ++ [10] ∧ Printable body ∧ body.length = (p.length + 2) / 3 * 4 :=
  ⟨LA.B64.triples p, rfl, b64_triples p ▸ b64_groups_printable p hb, b64_triples p ▸ groups_length _ _ p⟩

end LA.UuRead
