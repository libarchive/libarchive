/-
The seekable client: the block cutter `chop`, positions in a list of data nodes, positioning
the client (`place`), `client_switch_proxy` and `client_seek_proxy`.
-/
import LA.Lemmas.ReadAheadRefine
namespace LA.RA

def StaticF (s s' : State) : Prop :=
  s'.noSkipper = s.noSkipper ∧ s'.hasSeeker = s.hasSeeker ∧ s'.canSeek = s.canSeek ∧ s'.canSkip = s.canSkip ∧
  s'.nodes = s.nodes ∧ s'.blk = s.blk ∧ s'.term = s.term ∧ s'.begins = s.begins ∧ s'.sizes = s.sizes

theorem place_staticF (s : State) (e c off : Nat) : StaticF s (place s e c off) :=
  ⟨rfl, rfl, rfl, rfl, rfl, rfl, rfl, rfl, rfl⟩

theorem ahead_static (s : State) (min : Nat) : Static s (ahead s min).2 := (ahead_win s min).static

theorem ahead_seeks (s : State) (min : Nat) : (ahead s min).2.seeks = s.seeks := (ahead_win s min).seeks

theorem chopFuel_flatten (f : Nat → Nat) (fuel off : Nat) (bytes : List Nat) (h : bytes.length ≤ fuel) :
    (chopFuel f fuel off bytes).flatten = bytes := by
  induction fuel generalizing off bytes with
  | zero =>
    have : bytes = [] := List.eq_nil_of_length_eq_zero (by omega)
    simp [chopFuel, this]
  | succ n ih =>
    unfold chopFuel
    by_cases hb : bytes = []
    · simp [hb]
    · simp only [hb, if_false, List.flatten_cons]
      have hk : 1 ≤ Nat.max 1 (f off) := Nat.le_max_left _ _
      have hl : 0 < bytes.length := List.length_pos_iff.mpr hb
      rw [ih _ _ (by simp; omega), List.take_append_drop]

theorem chopFuel_ok (f : Nat → Nat) (fuel off : Nat) (bytes : List Nat) : SrcOk (chopFuel f fuel off bytes) := by
  induction fuel generalizing off bytes with
  | zero => simp [chopFuel, SrcOk]
  | succ n ih =>
    unfold chopFuel
    by_cases hb : bytes = []
    · simp [hb, SrcOk]
    · simp only [hb, if_false]
      intro x hx
      rcases List.mem_cons.mp hx with rfl | hm
      · have hk : 1 ≤ Nat.max 1 (f off) := Nat.le_max_left _ _
        have hl : 0 < bytes.length := List.length_pos_iff.mpr hb
        intro hn
        have h0 : (bytes.take (Nat.max 1 (f off))).length = 0 := by rw [hn]; rfl
        rw [List.length_take] at h0
        generalize Nat.max 1 (f off) = k at *
        omega
      · exact ih _ _ x hm

theorem chop_flatten (f : Nat → Nat) (off : Nat) (bytes : List Nat) : (chop f off bytes).flatten = bytes :=
  chopFuel_flatten f _ off bytes (Nat.le_refl _)

theorem chop_ok (f : Nat → Nat) (off : Nat) (bytes : List Nat) : SrcOk (chop f off bytes) :=
  chopFuel_ok f _ off bytes

theorem chopNodes_flatten (blk : Nat → Nat → Nat) (i : Nat) (ns : List (List Nat)) :
    (chopNodes blk i ns).flatten.flatten = ns.flatten := by
  induction ns generalizing i with
  | nil => simp [chopNodes]
  | cons n rest ih => simp [chopNodes, chop_flatten, ih]

theorem chopNodes_length (blk : Nat → Nat → Nat) (i : Nat) (ns : List (List Nat)) :
    (chopNodes blk i ns).length = ns.length := by
  induction ns generalizing i with
  | nil => simp [chopNodes]
  | cons n rest ih => simp [chopNodes, ih]

theorem chopNodes_ok (blk : Nat → Nat → Nat) (i : Nat) (ns : List (List Nat)) :
    ∀ n ∈ chopNodes blk i ns, SrcOk n := by
  induction ns generalizing i with
  | nil => simp [chopNodes]
  | cons n rest ih =>
    intro x hx
    simp only [chopNodes, List.mem_cons] at hx
    rcases hx with rfl | hx
    · exact chop_ok _ _ _
    · exact ih _ x hx

def allBytes (s : State) : List Nat := s.nodes.flatten

/-- Stream offset of the first byte of node `i` (`dataset[i].begin_position` once known). -/
def prefixLen (ns : List (List Nat)) (i : Nat) : Nat := (ns.take i).flatten.length

theorem prefixLen_zero (ns : List (List Nat)) : prefixLen ns 0 = 0 := by simp [prefixLen]

def nlen (ns : List (List Nat)) (i : Nat) : Nat := (ns[i]?.getD []).length

theorem nodeAt_len (s : State) (i : Nat) : (nodeAt s i).length = nlen s.nodes i := rfl

theorem prefixLen_succ (ns : List (List Nat)) (i : Nat) (h : i < ns.length) :
    prefixLen ns (i + 1) = prefixLen ns i + nlen ns i := by
  unfold prefixLen nlen
  rw [List.take_add_one, List.flatten_append, List.length_append]
  simp [List.getElem?_eq_getElem h]

theorem prefixLen_all (ns : List (List Nat)) (i : Nat) (h : ns.length ≤ i) :
    prefixLen ns i = ns.flatten.length := by
  unfold prefixLen; rw [List.take_of_length_le h]

theorem prefixLen_total (ns : List (List Nat)) : prefixLen ns ns.length = ns.flatten.length :=
  prefixLen_all ns ns.length (Nat.le_refl _)

theorem prefixLen_le (ns : List (List Nat)) (i : Nat) : prefixLen ns i ≤ ns.flatten.length := by
  unfold prefixLen
  conv => rhs; rw [← List.take_append_drop i ns, List.flatten_append, List.length_append]
  exact Nat.le_add_right _ _

theorem flatten_drop_mid (A : List (List Nat)) (x : List Nat) (B : List (List Nat)) (off : Nat)
    (ho : off ≤ x.length) :
    (A ++ x :: B).flatten.drop (A.flatten.length + off) = x.drop off ++ B.flatten := by
  rw [List.flatten_append, List.flatten_cons, List.drop_append]
  have hd : A.flatten.drop (A.flatten.length + off) = [] := List.drop_of_length_le (by omega)
  have hlen : A.flatten.length + off - A.flatten.length = off := by omega
  rw [hd, hlen, List.nil_append, List.drop_append]
  have : off - x.length = 0 := by omega
  rw [this]; simp

theorem flatten_drop_node (ns : List (List Nat)) (c off : Nat) (hc : c < ns.length)
    (ho : off ≤ (ns[c]?.getD []).length) :
    ns.flatten.drop (prefixLen ns c + off) = (ns[c]?.getD []).drop off ++ (ns.drop (c + 1)).flatten := by
  unfold prefixLen
  have h1 : ns.take c ++ (ns[c] :: ns.drop (c + 1)) = ns := by
    rw [← List.drop_eq_getElem_cons hc, List.take_append_drop]
  have hg : ns[c]?.getD [] = ns[c] := by simp [List.getElem?_eq_getElem hc]
  rw [hg] at ho ⊢
  have := flatten_drop_mid (ns.take c) ns[c] (ns.drop (c + 1)) off ho
  rw [h1] at this
  exact this

theorem place_cursor (s : State) (e c off : Nat) (hc : c < s.nodes.length) : cursor (place s e c off) = c := by
  simp [cursor, place, chopNodes_length]
  omega

theorem place_tail (s : State) (e c off : Nat) :
    tailBytes (place s e c off) = (nodeAt s c).drop off ++ (s.nodes.drop (c + 1)).flatten := by
  simp [tailBytes, place, chop_flatten, chopNodes_flatten]

theorem place_srcOk (s : State) (e c off : Nat) :
    SrcOk (place s e c off).src ∧ ∀ n ∈ (place s e c off).later, SrcOk n := by
  simp only [place]
  exact ⟨chop_ok _ _ _, chopNodes_ok _ _ _⟩

@[simp] theorem place_nodes (s : State) (e c off : Nat) : (place s e c off).nodes = s.nodes := rfl
@[simp] theorem place_begins (s : State) (e c off : Nat) : (place s e c off).begins = s.begins := rfl
@[simp] theorem place_sizes (s : State) (e c off : Nat) : (place s e c off).sizes = s.sizes := rfl
@[simp] theorem place_seeks (s : State) (e c off : Nat) : (place s e c off).seeks = s.seeks := rfl
@[simp] theorem place_hasSeeker (s : State) (e c off : Nat) : (place s e c off).hasSeeker = s.hasSeeker := rfl
@[simp] theorem nodeAt_place (s : State) (e c off i : Nat) : nodeAt (place s e c off) i = nodeAt s i := rfl

theorem switchTo_filt (s : State) (c : Nat) : Filt s (switchTo s c) := by
  unfold switchTo; split
  · exact Filt.refl _
  · exact place_filt _ _ _ _

theorem switchTo_cache (s : State) (c : Nat) :
    (switchTo s c).begins = s.begins ∧ (switchTo s c).sizes = s.sizes ∧ (switchTo s c).seeks = s.seeks := by
  unfold switchTo; split <;> simp

theorem switchTo_cursor (s : State) (c : Nat) (hc : c < s.nodes.length) : cursor (switchTo s c) = c := by
  unfold switchTo; split
  · assumption
  · exact place_cursor _ _ _ _ hc

/-- `client_seek_proxy` with a seek callback: it fails (the script says so, or the resulting
offset would be negative) and leaves the client where it was, or it reports an offset and the
client stands there. -/
theorem clientSeek_spec (s : State) (w : Whence) (off : Int) (hs : s.hasSeeker = true) :
    ((clientSeek s w off).1 < 0 ∧ (clientSeek s w off).2 = { s with seeks := s.seeks.tail } ∧
      (SeeksOk s.seeks → seekTarget s w off < 0)) ∨
    (0 ≤ (clientSeek s w off).1 ∧ 0 ≤ seekTarget s w off ∧ (clientSeek s w off).1 ≤ seekTarget s w off ∧
      (clientSeek s w off).2 =
        place { s with seeks := s.seeks.tail } (s.epoch + 1) (cursor s) (clientSeek s w off).1.toNat ∧
      (SeeksOk s.seeks ∨ w ≠ .set → (clientSeek s w off).1 = seekTarget s w off)) := by
  have hans : SeeksOk s.seeks → (s.seeks.head?).getD 0 = 0 := seeksOk_head
  unfold clientSeek
  have hc : ¬ ((!s.hasSeeker) = true) := by simp [hs]
  rw [if_neg hc]
  generalize seekTarget s w off = np at *
  generalize (s.seeks.head?).getD 0 = ans at *
  simp only []
  by_cases h1 : ans < 0
  · rw [if_pos h1]
    left
    exact ⟨h1, rfl, fun h => by have := hans h; omega⟩
  · rw [if_neg h1]
    by_cases h2 : np < 0
    · rw [if_pos h2]
      left
      exact ⟨by omega, rfl, fun _ => h2⟩
    · rw [if_neg h2]
      right
      have hnp : ((np.toNat : Nat) : Int) = np := by omega
      by_cases h3 : ans > 0 ∧ w = .set
      · rw [if_pos h3]
        have hle : np.toNat - np.toNat % ans.toNat ≤ np.toNat := Nat.sub_le _ _
        refine ⟨by omega, by omega, by omega, by rw [Int.toNat_natCast], ?_⟩
        rintro (h | h)
        · have := hans h; omega
        · exact absurd h3.2 h
      · rw [if_neg h3]
        exact ⟨by omega, by omega, by omega, by rw [Int.toNat_natCast], fun _ => hnp⟩

end LA.RA
