/-
Refinement of the whole interface (ahead / consume / seek) to a stream with a position.
-/
import LA.Lemmas.ReadAheadSeekMain
namespace LA.RA

/-- Abstract view of a (possibly seekable) source: the whole byte string, the position, how
it ends, the sticky failure flag, whether seeking is possible, and `lost`: a seek was refused
after the client may have been moved — the position is still `pos`, but what the next
`ahead`/`consume` returns is not specified until a seek succeeds. -/
structure SSpec where
  all : List Nat
  pos : Nat
  term : Term
  fatal : Bool
  canSeek : Bool
  lost : Bool
  deriving DecidableEq, Repr

def SSpec.toSpec (sp : SSpec) : Spec :=
  if sp.fatal then ⟨[], sp.term, true⟩ else ⟨sp.all.drop sp.pos, sp.term, false⟩

def sspecAhead (sp : SSpec) (min : Nat) : Obs × SSpec :=
  ((specAhead sp.toSpec min).1, { sp with fatal := (specAhead sp.toSpec min).2.fatal })

def sspecConsume (sp : SSpec) (n : Int) : Int × SSpec :=
  ((specConsume sp.toSpec n).1,
   { sp with fatal := (specConsume sp.toSpec n).2.fatal,
             pos := sp.pos + (sp.toSpec.rem.length - (specConsume sp.toSpec n).2.rem.length) })

def specTarget (sp : SSpec) (off : Int) (w : Whence) : Option Int :=
  match w with
  | .set => some off
  | .cur => some (off + sp.pos)
  | .end_ => some (off + (sp.all.length : Int))
  | .other => none

/-- **The specification of seek**: position := target if the target lies inside the stream
(its end included), an error otherwise. -/
def specSeek (sp : SSpec) (off : Int) (w : Whence) : Int × SSpec :=
  if sp.fatal then (-30, sp)
  else if !sp.canSeek then (-25, sp)
  else match specTarget sp off w with
    | none => (-30, sp)
    | some t =>
      if 0 ≤ t ∧ t ≤ (sp.all.length : Int) then (t, { sp with pos := t.toNat, lost := false })
      else (-30, { sp with lost := true })

structure Rel (s : State) (sp : SSpec) : Prop where
  fatal : sp.fatal = s.fatal
  term : sp.term = s.term
  canSeek : sp.canSeek = s.canSeek
  bufLt : s.bufSize < 2 ^ 63
  seekable : s.canSeek = true → CacheOk s ∧ s.hasSeeker = true ∧ sp.all = allBytes s
  pos : s.fatal = false → sp.pos = s.position
  sync : sp.lost = false → Inv s ∧ (s.fatal = false → remaining s = sp.all.drop sp.pos)

theorem rel_absN {s : State} {sp : SSpec} (h : Rel s sp) (hl : sp.lost = false) : absN s = sp.toSpec := by
  unfold absN SSpec.toSpec
  rw [h.fatal, h.term]
  by_cases hf : s.fatal = true
  · simp [hf]
  · have hf' : s.fatal = false := by simpa using hf
    simp only [hf', Bool.false_eq_true, if_false]
    rw [(h.sync hl).2 hf']

theorem absN_fatal (s : State) : (absN s).fatal = s.fatal := by
  unfold absN; split <;> simp_all

theorem absN_rem (s : State) (hf : s.fatal = false) : (absN s).rem = remaining s := by
  unfold absN; simp [hf]

theorem Rel.step {s t : State} {sp : SSpec} (h : Rel s sp) (hst : Static s t) (hi : Inv t) (f : Bool) (p : Nat)
    (hf : t.fatal = f) (hp : t.fatal = false → p = t.position ∧ remaining t = sp.all.drop p) :
    Rel t { sp with fatal := f, pos := p } :=
  { fatal := hf.symm, term := h.term.trans hst.term.symm, canSeek := h.canSeek.trans hst.canSeek.symm,
    bufLt := hi.bufLt,
    seekable := fun hcs => by
      obtain ⟨a, b, c⟩ := h.seekable (hst.canSeek ▸ hcs)
      exact ⟨cacheOk_of_static hst a, hst.hasSeeker.trans b, c.trans (by unfold allBytes; rw [hst.nodes])⟩
    pos := fun hf' => (hp hf').1
    sync := fun _ => ⟨hi, fun hf' => (hp hf').2⟩ }

theorem ahead_rel (s : State) (sp : SSpec) (min : Nat) (h : Rel s sp) (hl : sp.lost = false) (hmin : min ≤ 2 ^ 62) :
    Rel (ahead s min).2 (sspecAhead sp min).2 ∧ obsOf min (ahead s min).1 = (sspecAhead sp min).1 := by
  obtain ⟨hi, hsy⟩ := h.sync hl
  obtain ⟨i1, _, i3, i4, _⟩ := ahead_refines s min hi hmin
  rw [rel_absN h hl] at i3 i4
  refine ⟨h.step (ahead_static s min) i1 _ sp.pos (by rw [← i4, absN_fatal]) (fun hf => ?_), i3⟩
  -- alive afterwards: alive before, and nothing was consumed
  have hf0 : s.fatal = false := by
    cases hq : s.fatal
    · rfl
    · rw [ahead_failed hq] at hf; exact hq.symm.trans hf
  rw [ahead_live hf0]
  exact ⟨(h.pos hf0).trans (aheadLoop_frame s min).1.position.symm,
    (aheadLoop_spec s min hi hf0 hmin).2.1.trans (hsy hf0)⟩

theorem consume_rel (s : State) (sp : SSpec) (n : Int) (h : Rel s sp) (hl : sp.lost = false)
    (hsk : SkipsOk s.skips) (hns : NoSeekSkip s) :
    Rel (consume s n).2 (sspecConsume sp n).2 ∧ (consume s n).1 = (sspecConsume sp n).1 := by
  obtain ⟨hi, hsy⟩ := h.sync hl
  obtain ⟨i1, i2, i3⟩ := consume_refines s n hi hsk hns
  obtain ⟨_, d, d1, d2, d3⟩ := consume_drop s n hi hns
  have hab := rel_absN h hl
  rw [hab] at i2 i3
  refine ⟨h.step (consume_static s n).1 i1 _ _ (by rw [← i3, absN_fatal]) (fun hf => ?_), i2⟩
  -- alive afterwards: alive before, and the abstract `consume` has taken the same `d` bytes
  have hf0 : s.fatal = false := by
    cases hq : s.fatal
    · rfl
    · rw [consume_failed hq] at hf; exact hq.symm.trans hf
  have e : sp.toSpec.rem.length - (specConsume sp.toSpec n).2.rem.length = d := by
    rw [← i3, absN_rem _ hf, ← hab, absN_rem _ hf0, d1, List.length_drop]; omega
  rw [e, d3 hf, d1, hsy hf0, List.drop_drop, h.pos hf0]
  exact ⟨rfl, rfl⟩

theorem Rel.of_seek {s t : State} {sp : SSpec} (h : Rel s sp) (hcs : s.canSeek = true) (hfr : SeekFrame s t)
    (hc : CacheOk t) (p : Nat) (l : Bool) (hp : t.fatal = false → p = t.position)
    (hsy : l = false → Inv t ∧ remaining t = sp.all.drop p) : Rel t { sp with pos := p, lost := l } := by
  obtain ⟨_, b, c⟩ := h.seekable hcs
  exact { fatal := h.fatal.trans hfr.fatal.symm, term := h.term.trans hfr.term.symm,
          canSeek := h.canSeek.trans hfr.canSeek.symm, bufLt := hfr.bufSize ▸ h.bufLt,
          seekable := fun _ => ⟨hc, hfr.hasSeeker.trans b, c.trans (by unfold allBytes; rw [hfr.nodes])⟩,
          pos := hp, sync := fun hl => ⟨(hsy hl).1, fun _ => (hsy hl).2⟩ }

/-- **`seek` refines its specification** (for a seek callback that behaves): from any state
coupled to the stream — also one left behind by a refused seek. -/
theorem seek_rel (s : State) (sp : SSpec) (off : Int) (w : Whence) (h : Rel s sp) (hq : SeeksOk s.seeks) :
    Rel (seek s off w).2 (specSeek sp off w).2 ∧ (seek s off w).1 = (specSeek sp off w).1 := by
  unfold specSeek
  by_cases hf : s.fatal = true
  · have e : seek s off w = (-30, s) := by unfold seek; rw [if_pos hf]
    rw [e, if_pos (h.fatal.trans hf)]
    exact ⟨h, rfl⟩
  · have hf' : s.fatal = false := (Bool.not_eq_true _).mp hf
    rw [if_neg (by rw [h.fatal]; exact hf)]
    by_cases hcs : s.canSeek = true
    · obtain ⟨a, b, c⟩ := h.seekable hcs
      have htg : specTarget sp off w = targetOf s off w := by
        unfold specTarget targetOf
        cases w <;> simp [h.pos hf', c]
      rw [if_neg (by rw [h.canSeek, hcs]; decide), htg]
      cases ht : targetOf s off w with
      | none =>
        obtain rfl := targetOf_none ht
        have e : seek s off .other = (-30, s) := by unfold seek; rw [hf', hcs]; rfl
        rw [e]; exact ⟨h, rfl⟩
      | some t =>
        obtain ⟨_, p4⟩ := (seek_spec s off w a b hcs hf' h.bufLt ht).behaved hq
        rw [← c] at p4
        dsimp only
        by_cases hin : 0 ≤ t ∧ t ≤ (sp.all.length : Int)
        · rw [if_pos hin] at p4 ⊢
          obtain ⟨p4, _, o2, o3, o4, o5, _, o7⟩ := p4
          rw [p4] at o4 o5
          exact ⟨h.of_seek hcs o7 o3 _ false (fun _ => o4.symm) (fun _ => ⟨o2, o5.trans (by rw [c])⟩), p4⟩
        · rw [if_neg hin] at p4 ⊢
          obtain ⟨p4, _, bf, bc⟩ := p4
          exact ⟨h.of_seek hcs (.of_filt bf) bc sp.pos true (fun _ => (h.pos hf').trans bf.position.symm)
            (fun hl => by cases hl), p4⟩
    · have e : seek s off w = (-25, s) := by unfold seek; rw [hf', (Bool.not_eq_true _).mp hcs]; rfl
      rw [e, if_pos (by rw [h.canSeek, (Bool.not_eq_true _).mp hcs]; rfl)]
      exact ⟨h, rfl⟩

end LA.RA
