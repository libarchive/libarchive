/- Base-256 numeric fields: `format_256` against `tar_atol256` (C10). Core Lean only. -/
import LA.Lemmas.NumFmt
namespace LA.NumFmt

/-! ### the bytes `format_256` stores: two's complement, sign-extended to any width -/

theorem be256_length (v : Int) (s : Nat) : (be256 v s).length = s := by
  induction s generalizing v with
  | zero => rfl
  | succ s ih => simp [be256, ih]

theorem be256_cons (v : Int) (s : Nat) :
    be256 v (s + 1) = (v / 256 ^ s % 256).toNat :: be256 v s := by
  induction s generalizing v with
  | zero => simp [be256]
  | succ s ih =>
    rw [be256, ih, be256, List.cons_append, Int.ediv_ediv_of_nonneg (by decide), ← Int.pow_succ']

theorem be256_sign (v : Int) (n : Nat) (h1 : -1 ≤ v) (h2 : v < 1) :
    be256 v n = List.replicate n (if v < 0 then 255 else 0) := by
  induction n with
  | zero => rfl
  | succ n ih =>
    have hd : v / 256 = v := by omega
    have hm : (v % 256).toNat = if v < 0 then 255 else 0 := by split <;> omega
    rw [be256, hd, ih, hm, List.replicate_succ']

theorem be256_signExt (v : Int) (m n : Nat) (h1 : -256 ^ m ≤ v) (h2 : v < 256 ^ m) :
    be256 v (n + m) = List.replicate n (if v < 0 then 255 else 0) ++ be256 v m := by
  induction m generalizing v with
  | zero =>
    rw [Nat.add_zero, be256, List.append_nil, be256_sign v n (by simpa using h1) (by simpa using h2)]
  | succ m ih =>
    rw [Int.pow_succ'] at h1 h2
    have hs : v / 256 < 0 ↔ v < 0 := by omega
    rw [← Nat.add_assoc, be256, be256, ih (v / 256) (by omega) (by omega), List.append_assoc]
    simp only [hs]

theorem format256_succ (v : Int) (k : Nat) :
    format256 v (k + 1) = ((v / 256 ^ k % 256).toNat % 128 + 128) :: be256 v k := by
  unfold format256; rw [be256_cons]

/-! ### the pieces of `tar_atol256` -/

theorem toI64_eq {u : Nat} {i : Int} (hi : isI64 i)
    (h : (u : Int) % 18446744073709551616 = i % 18446744073709551616) : toI64 u = i := by
  unfold isI64 I64_MIN I64_MAX at hi
  unfold toI64
  simp only []
  split <;> omega

theorem accum256_append (l : Nat) (xs ys : List Nat) :
    accum256 l (xs ++ ys) = accum256 (accum256 l xs) ys := by
  induction xs generalizing l with
  | nil => rfl
  | cons x xs ih => exact ih _

/-- Accumulating the `s` low bytes of `v` on top of what lies above them in `v` (modulo 2^64:
the sign extension will do) gives `v` modulo 2^64. -/
theorem accum256_be256 (l : Nat) (v : Int) (s : Nat)
    (h : (l : Int) % 18446744073709551616 = v / 256 ^ s % 18446744073709551616) :
    (accum256 l (be256 v s) : Int) % 18446744073709551616 = v % 18446744073709551616 := by
  induction s generalizing v with
  | zero => simpa [be256, accum256] using h
  | succ s ih =>
    have ih' := ih (v / 256) (by rwa [Int.ediv_ediv_of_nonneg (by decide), ← Int.pow_succ'])
    rw [be256, accum256_append]
    simp only [accum256]
    omega

theorem skipHigh_replicate (neg c : Nat) (tl : List Nat) (n : Nat) :
    ∀ c0 rest, c0 :: rest = List.replicate n neg ++ c :: tl →
      skipHigh neg c0 rest n = some (c, tl) := by
  induction n with
  | zero => intro c0 rest h; cases h; rfl
  | succ n ih =>
    intro c0 rest h
    rw [List.replicate_succ, List.cons_append] at h
    obtain ⟨rfl, rfl⟩ := List.cons.inj h
    generalize hr : List.replicate n c0 ++ c :: tl = r
    cases r with
    | nil => simp at hr
    | cons c' r' => rw [skipHigh, if_neg (by simp)]; exact ih c' r' hr.symm

/-- `tar_atol256` on a field that, with the marker bit replaced by the sign bit, consists of
sign filler down to its last 8 bytes and of `c :: tl` from there on. -/
theorem tarAtol256_of_signExt (b0 : Nat) (rest : List Nat) (neg : Prop) [Decidable neg] (c : Nat)
    (tl : List Nat) (hb : b0 / 64 % 2 = 1 ↔ neg)
    (hsplit : (if neg then b0 % 128 + 128 else b0 % 128) :: rest
        = List.replicate (rest.length + 1 - 8) (if neg then 255 else 0) ++ c :: tl)
    (hc : 128 ≤ c ↔ neg) :
    tarAtol256 (b0 :: rest)
      = toI64 (accum256 (if neg then 18446744073709551615 else 0) (c :: tl)) := by
  unfold tarAtol256
  simp only [List.length_cons, decide_eq_true_eq, hb]
  rw [skipHigh_replicate _ c tl _ _ _ hsplit]
  by_cases h : neg
  · simp [h, hc.2 h]
  · simp [h, mt hc.1 h]

theorem ediv_bounds {v P a : Int} (hP : 0 < P) (h1 : -(a * P) ≤ v) (h2 : v < a * P) :
    -a ≤ v / P ∧ v / P < a :=
  ⟨Int.le_ediv_of_mul_le hP (by rwa [Int.neg_mul]), Int.ediv_lt_of_lt_mul hP h2⟩

theorem ediv_sign {v P : Int} (h1 : -P ≤ v) (h2 : v < P) : v / P = if v < 0 then -1 else 0 := by
  have hP : 0 < P := by omega
  have := ediv_bounds (v := v) (a := 1) hP (by omega) (by omega)
  have := Int.ediv_nonneg_iff_of_pos (a := v) hP
  split <;> omega

theorem topByte_ge_iff {v P : Int} (hP : 0 < P) (h1 : -(128 * P) ≤ v) (h2 : v < 128 * P) :
    128 ≤ (v / P % 256).toNat ↔ v < 0 := by
  have := ediv_bounds hP h1 h2
  have := Int.ediv_nonneg_iff_of_pos (a := v) hP
  omega

/-- If the value leaves bit 6 of its top byte to the sign too, a byte that agrees with the top
byte below bit 7 has the sign in bit 6, and copying that bit into bit 7 restores the top byte. -/
theorem topByte_restore {v P : Int} {b0 : Nat} (hP : 0 < P) (h1 : -(64 * P) ≤ v) (h2 : v < 64 * P)
    (hb : b0 % 128 = (v / P % 256).toNat % 128) :
    (b0 / 64 % 2 = 1 ↔ v < 0) ∧
      (if v < 0 then b0 % 128 + 128 else b0 % 128) = (v / P % 256).toNat := by
  have := ediv_bounds hP h1 h2
  have := Int.ediv_nonneg_iff_of_pos (a := v) hP
  constructor
  · omega
  · split <;> omega

/-- `tar_atol256` returns the `int64_t` whose `k + 1`-byte two's complement form the field holds,
whatever the marker bit of the first byte, as long as bit 6 of that byte is still sign extension
(`|v| < 2^(8k+6)`). -/
theorem tarAtol256_be256 (b0 : Nat) (v : Int) (k : Nat) (hv : isI64 v)
    (h1 : -(64 * 256 ^ k) ≤ v) (h2 : v < 64 * 256 ^ k)
    (hb : b0 % 128 = (v / 256 ^ k % 256).toNat % 128) : tarAtol256 (b0 :: be256 v k) = v := by
  -- `n` bytes are skipped, `j + 1` accumulated; `v` fits these
  obtain ⟨n, j, hnj, hn, b1, b2⟩ : ∃ n j, k + 1 = n + (j + 1) ∧ k + 1 - 8 = n ∧
      -(128 * 256 ^ j) ≤ v ∧ v < 128 * 256 ^ j := by
    by_cases h8 : k + 1 ≤ 8
    · exact ⟨0, k, by omega, by omega, by omega, by omega⟩
    · unfold isI64 I64_MIN I64_MAX at hv
      exact ⟨k - 7, 7, by omega, by omega, by omega, by omega⟩
  obtain ⟨hsign, htop⟩ := topByte_restore (Int.pow_pos (by decide)) h1 h2 hb
  have c1 : -256 ^ (j + 1) ≤ v := by rw [Int.pow_succ']; omega
  have c2 : v < 256 ^ (j + 1) := by rw [Int.pow_succ']; omega
  rw [tarAtol256_of_signExt _ _ (v < 0) (v / 256 ^ j % 256).toNat (be256 v j) hsign
    (by rw [htop, ← be256_cons, be256_length, hn, hnj, be256_signExt v (j + 1) n c1 c2, be256_cons])
    (topByte_ge_iff (Int.pow_pos (by decide)) b1 b2), ← be256_cons]
  apply toI64_eq hv
  apply accum256_be256
  rw [ediv_sign c1 c2]
  split <;> rfl

/-- What `format_256` stores in a field of any width is read back by `tar_atol`, for an `int64_t`
that leaves the two top bits of the field to the sign. -/
theorem tarAtol_format256 (v : Int) (k : Nat) (hv : isI64 v)
    (h1 : -(64 * 256 ^ k) ≤ v) (h2 : v < 64 * 256 ^ k) : tarAtol (format256 v (k + 1)) = v := by
  rw [format256_succ]
  unfold tarAtol
  simp only [if_pos (show (v / 256 ^ k % 256).toNat % 128 + 128 ≥ 128 by omega)]
  exact tarAtol256_be256 _ v k hv h1 h2 (by omega)

theorem tarAtol_format256_8 (v : Int) (h1 : -4611686018427387904 ≤ v) (h2 : v < 4611686018427387904) :
    tarAtol (format256 v 8) = v :=
  tarAtol_format256 v 7 (by unfold isI64 I64_MIN I64_MAX; omega) (by omega) (by omega)

/-- In an 8-byte field the value 2^62 comes back as -2^62: the sign is taken from bit 62. -/
theorem format256_8_not_exact : tarAtol (format256 4611686018427387904 8) = -4611686018427387904 := by decide

/-- A 12-byte base-256 field (the tar size field) holds every `int64_t` exactly. -/
theorem tarAtol_format256_12 (v : Int) (hv : isI64 v) : tarAtol (format256 v 12) = v := by
  have ⟨h1, h2⟩ := hv
  unfold I64_MIN at h1; unfold I64_MAX at h2
  exact tarAtol_format256 v 11 hv (by omega) (by omega)

/-- The pax writer stores a negative mtime base-256 in 11 bytes (`USTAR_mtime_max_size`) of a
field the reader parses as 12 bytes: the terminating blank becomes the low byte. -/
theorem format256_11_in_12_not_exact : tarAtol (format256 (-1) 11 ++ [32]) = -224 := by decide

end LA.NumFmt
