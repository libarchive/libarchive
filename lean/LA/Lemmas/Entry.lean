/-
Helper definitions and lemmas for C14 (model: LA/Model/Entry.lean).

* bit-vector identities used by the flag word `ae_set` and the mode word;
* `fixNs` in closed form;
* the *group view*: the entry is a product of small state machines (one per
  group of fields that setters and getters of the same name share).  `view G e`
  is the part of `e` that group `G` consists of, `touches op G` says whether an
  operation can change it, `Getter`/`obs` are the public getters as data.
-/
import LA.Model.Entry
namespace LA.Entry
open LA.Gen.EntryBits

theorem bv_or_and_self {w} (s a : BitVec w) : (s ||| a) &&& a = a := by
  ext i hi; simp only [BitVec.getElem_and, BitVec.getElem_or]
  cases s[i] <;> cases a[i] <;> rfl

theorem bv_andnot_and_self {w} (s a : BitVec w) : (s &&& ~~~a) &&& a = 0 := by
  ext i hi; simp

theorem bv_or_and_disj {w} (s a b : BitVec w) (h : a &&& b = 0) : (s ||| a) &&& b = s &&& b := by
  ext i hi
  have := congrArg (fun x => x[i]) h
  simp at this
  simp only [BitVec.getElem_and, BitVec.getElem_or]
  revert this; cases s[i] <;> cases a[i] <;> cases b[i] <;> simp

theorem bv_andnot_and_disj {w} (s a b : BitVec w) (h : a &&& b = 0) : (s &&& ~~~a) &&& b = s &&& b := by
  ext i hi
  have := congrArg (fun x => x[i]) h
  simp at this
  simp only [BitVec.getElem_and, BitVec.getElem_not]
  revert this; cases s[i] <;> cases a[i] <;> cases b[i] <;> simp

/-- `set_filetype` seen through `filetype`. -/
theorem bv_ft_ft (m k t : BitVec 32) : k &&& ((m &&& ~~~k) ||| (k &&& t)) = k &&& t := by
  ext i hi; simp only [BitVec.getElem_and, BitVec.getElem_or, BitVec.getElem_not]
  cases m[i] <;> cases k[i] <;> cases t[i] <;> rfl
/-- `set_filetype` seen through `perm`. -/
theorem bv_ft_perm (m k t : BitVec 32) : ~~~k &&& ((m &&& ~~~k) ||| (k &&& t)) = ~~~k &&& m := by
  ext i hi; simp only [BitVec.getElem_and, BitVec.getElem_or, BitVec.getElem_not]
  cases m[i] <;> cases k[i] <;> cases t[i] <;> rfl
/-- `set_perm` seen through `perm`. -/
theorem bv_perm_perm (m k p : BitVec 32) : ~~~k &&& ((m &&& k) ||| (~~~k &&& p)) = ~~~k &&& p := by
  ext i hi; simp only [BitVec.getElem_and, BitVec.getElem_or, BitVec.getElem_not]
  cases m[i] <;> cases k[i] <;> cases p[i] <;> rfl
/-- `set_perm` seen through `filetype`. -/
theorem bv_perm_ft (m k p : BitVec 32) : k &&& ((m &&& k) ||| (~~~k &&& p)) = k &&& m := by
  ext i hi; simp only [BitVec.getElem_and, BitVec.getElem_or, BitVec.getElem_not]
  cases m[i] <;> cases k[i] <;> cases p[i] <;> rfl
/-- the mode word is its file-type part together with its permission part -/
theorem bv_split (m k : BitVec 32) : (k &&& m) ||| (~~~k &&& m) = m := by
  ext i hi; simp only [BitVec.getElem_and, BitVec.getElem_or, BitVec.getElem_not]
  cases m[i] <;> cases k[i] <;> rfl

/-! ### FIX_NS in closed form -/

theorem tdivmod_facts (ns : Int) :
    1000000000 * ns.tdiv 1000000000 + ns.tmod 1000000000 = ns ∧ ns.tmod 1000000000 < 1000000000 ∧
    -1000000000 < ns.tmod 1000000000 ∧ (0 ≤ ns → 0 ≤ ns.tmod 1000000000) ∧ (ns ≤ 0 → ns.tmod 1000000000 ≤ 0) := by
  refine ⟨Int.mul_tdiv_add_tmod ns _, Int.tmod_lt_of_pos _ (by decide), Int.lt_tmod_of_pos _ (by decide),
    Int.tmod_nonneg _, ?_⟩
  intro h
  have := Int.tmod_nonneg 1000000000 (a := -ns) (by omega)
  rw [Int.neg_tmod] at this; omega

theorem inI64_iff (x : Int) : inI64 x = true ↔ (-9223372036854775808 ≤ x ∧ x ≤ 9223372036854775807) := by
  unfold inI64 INT64_MIN INT64_MAX
  rw [Bool.and_eq_true, decide_eq_true_iff, decide_eq_true_iff]

/-- The macro computes floor division and the non-negative remainder of the total
number of nanoseconds, and is defined exactly when the quotient is an `int64`. -/
theorem fixNs_spec (t ns : Int) (ht : inI64 t = true) :
    fixNs t ns = if inI64 ((t * 1000000000 + ns) / 1000000000) then
      some ((t * 1000000000 + ns) / 1000000000, (t * 1000000000 + ns) % 1000000000) else none := by
  obtain ⟨h1, h2, h3, h4, h5⟩ := tdivmod_facts ns
  unfold fixNs
  have hN : ((nsPerSec : Nat) : Int) = 1000000000 := by decide
  simp only [hN]
  generalize ns.tdiv 1000000000 = q at *
  generalize ns.tmod 1000000000 = r at *
  have e1 : (t * 1000000000 + ns) / 1000000000 = if r < 0 then t + q - 1 else t + q := by split <;> omega
  have e2 : (t * 1000000000 + ns) % 1000000000 = if r < 0 then r + 1000000000 else r := by split <;> omega
  rw [e1, e2]
  rw [inI64_iff] at ht
  simp only [Bool.not_eq_true', ← Bool.not_eq_true, inI64_iff]
  by_cases hr : r < 0
  · simp only [hr, if_true]
    repeat' split
    all_goals first | rfl | omega
  · simp only [hr, if_false]
    repeat' split
    all_goals first | rfl | omega

theorem fixNs_zero : fixNs 0 0 = some (0, 0) := by decide

inductive Val
  | int (i : Int) | nat (n : Nat) | bool (b : Bool) | bv (m : BitVec 32) | str (s : Option Bytes)
  | chars (l : List Char) | pair (a b : Nat) | blocks (l : List (Int × Int)) | xattrs (l : List (Bytes × Bytes))
  | stat (s : StatRec)
  deriving DecidableEq, Repr

/-- The public getters (each constructor names the C function(s)).  The three
views (`X`, `X_utf8`, `X_w`) of a string are one getter: see the model's header. -/
inductive Getter
  | timeSec (f : TimeField) | timeNsec (f : TimeField) | timeIsSet (f : TimeField)
  | dev | devmajor | devminor | devIsSet | rdev | rdevmajor | rdevminor | rdevIsSet
  | ino | inoIsSet | nlink | uid | uidIsSet | gid | gidIsSet | size | sizeIsSet
  | mode | filetype | filetypeIsSet | perm | permIsSet | strmode
  | str (f : StrField) | hardlink | hardlinkIsSet | symlink
  | fflags
  /-- `archive_entry_fflags_text` -/
  | fflagsText
  | symlinkType | isDataEncrypted | isMetadataEncrypted | isEncrypted
  /-- `archive_entry_sparse_count` -/
  | sparseCount
  /-- what `sparse_reset` followed by `sparse_next` until WARN enumerates -/
  | sparseBlocks
  | xattrCount
  /-- what `xattr_reset` followed by `xattr_next` until WARN enumerates -/
  | xattrList
  | macMetadata | digest (t : Int)
  /-- the `struct stat` `archive_entry_stat` returns -/
  | stat
  deriving DecidableEq, Repr

def obs : Getter → Entry → Val
  | .timeSec f, e => .int (timeSec f e) | .timeNsec f, e => .nat (timeNsec f e) | .timeIsSet f, e => .bool (timeIsSet f e)
  | .dev, e => .nat (dev e) | .devmajor, e => .nat (devmajor e) | .devminor, e => .nat (devminor e)
  | .devIsSet, e => .bool (devIsSet e)
  | .rdev, e => .nat (rdev e) | .rdevmajor, e => .nat (rdevmajor e) | .rdevminor, e => .nat (rdevminor e)
  | .rdevIsSet, e => .bool (rdevIsSet e)
  | .ino, e => .int (ino e) | .inoIsSet, e => .bool (inoIsSet e) | .nlink, e => .nat (nlink e)
  | .uid, e => .int (uid e) | .uidIsSet, e => .bool (uidIsSet e) | .gid, e => .int (gid e) | .gidIsSet, e => .bool (gidIsSet e)
  | .size, e => .int (size e) | .sizeIsSet, e => .bool (sizeIsSet e)
  | .mode, e => .bv (mode e) | .filetype, e => .bv (filetype e) | .filetypeIsSet, e => .bool (filetypeIsSet e)
  | .perm, e => .bv (perm e) | .permIsSet, e => .bool (permIsSet e) | .strmode, e => .chars (strmode e)
  | .str f, e => .str (getStr f e) | .hardlink, e => .str (hardlink e) | .hardlinkIsSet, e => .bool (hardlinkIsSet e)
  | .symlink, e => .str (symlink e)
  | .fflags, e => .pair (fflags e).1 (fflags e).2 | .fflagsText, e => .str (fflagsTextV e)
  | .symlinkType, e => .int (symlinkType e)
  | .isDataEncrypted, e => .bool (isDataEncrypted e) | .isMetadataEncrypted, e => .bool (isMetadataEncrypted e)
  | .isEncrypted, e => .nat (isEncrypted e)
  | .sparseCount, e => .nat (sparseCount e).2 | .sparseBlocks, e => .blocks (sparseCount e).1.sparse
  | .xattrCount, e => .nat (xattrCount e) | .xattrList, e => .xattrs e.xattrs
  | .macMetadata, e => .str (macMetadata e) | .digest t, e => .str (digest e t)
  | .stat, e => .stat (stat e).2

inductive Group
  | time (f : TimeField) | size | sparse | dev | rdev | ino | nlink | uid | gid
  | filetype | perm | modeWord | str (f : StrField) | link | strmode
  | fflags | symlinkType | encryption | xattr | mac | digest
  /-- everything `archive_entry_stat` reads, plus its cache -/
  | statAll
  deriving DecidableEq, Repr

structure View where
  bits : List Bool := []
  ints : List Int := []
  nats : List Nat := []
  strs : List (Option Bytes) := []
  bvs : List (BitVec 32) := []
  enc : BitVec 8 := 0
  blocks : List (Int × Int) := []
  cur : Option Nat := none
  xattrs : List (Bytes × Bytes) := []
  digests : List Bytes := []
  st : StatRec := {}
  deriving DecidableEq, Repr

def view : Group → Entry → View
  | .time f, e => { bits := [e.has f.flag], ints := [timeSec f e], nats := [timeNsec f e] }
  | .size, e => { bits := [e.has fSIZE], nats := [e.aest_size] }
  | .sparse, e => { nats := [e.aest_size], blocks := e.sparse, cur := e.sparse_p }
  | .dev, e => { bits := [e.has fDEV, e.aest_dev_is_broken_down], nats := [e.aest_dev, e.aest_devmajor, e.aest_devminor] }
  | .rdev, e => { bits := [e.has fRDEV, e.aest_rdev_is_broken_down], nats := [e.aest_rdev, e.aest_rdevmajor, e.aest_rdevminor] }
  | .ino, e => { bits := [e.has fINO], ints := [e.aest_ino] }
  | .nlink, e => { nats := [e.aest_nlink] }
  | .uid, e => { bits := [e.has fUID], ints := [e.aest_uid] }
  | .gid, e => { bits := [e.has fGID], ints := [e.aest_gid] }
  | .filetype, e => { bits := [e.has fFILETYPE], bvs := [mIFMT &&& e.mode] }
  | .perm, e => { bits := [e.has fPERM], bvs := [~~~mIFMT &&& e.mode] }
  | .modeWord, e => { bvs := [e.mode] }
  | .str f, e => { strs := [e.str f] }
  | .link, e => { bits := [e.has fHARDLINK, e.has fSYMLINK], strs := [e.ae_linkname] }
  | .strmode, e => { bits := [e.has fHARDLINK, e.has fSYMLINK], strs := [e.ae_linkname], bvs := [e.mode] }
  | .fflags, e => { nats := [e.ae_fflags_set, e.ae_fflags_clear], strs := [e.ae_fflags_text] }
  | .symlinkType, e => { ints := [e.ae_symlink_type] }
  | .encryption, e => { enc := e.encryption }
  | .xattr, e => { xattrs := e.xattrs, nats := [e.xattr_p] }
  | .mac, e => { strs := [e.mac_metadata] }
  | .digest, e => { digests := e.digests }
  | .statAll, e =>
    { bits := [e.has fRDEV, e.aest_dev_is_broken_down, e.aest_rdev_is_broken_down, e.stat_valid],
      ints := [e.aest_atime, e.aest_ctime, e.aest_mtime, e.aest_gid, e.aest_ino, e.aest_uid],
      nats := [e.aest_atime_nsec, e.aest_ctime_nsec, e.aest_mtime_nsec, e.aest_nlink, e.aest_size,
               e.aest_dev, e.aest_devmajor, e.aest_devminor, e.aest_rdev, e.aest_rdevmajor, e.aest_rdevminor],
      bvs := [e.mode], st := e.stat_cache }

def Getter.group : Getter → Group
  | .timeSec f | .timeNsec f | .timeIsSet f => .time f
  | .dev | .devmajor | .devminor | .devIsSet => .dev
  | .rdev | .rdevmajor | .rdevminor | .rdevIsSet => .rdev
  | .ino | .inoIsSet => .ino | .nlink => .nlink | .uid | .uidIsSet => .uid | .gid | .gidIsSet => .gid
  | .size | .sizeIsSet => .size
  | .mode => .modeWord | .filetype | .filetypeIsSet => .filetype | .perm | .permIsSet => .perm | .strmode => .strmode
  | .str f => .str f | .hardlink | .hardlinkIsSet | .symlink => .link
  | .fflags | .fflagsText => .fflags | .symlinkType => .symlinkType
  | .isDataEncrypted | .isMetadataEncrypted | .isEncrypted => .encryption
  | .sparseCount | .sparseBlocks => .sparse | .xattrCount | .xattrList => .xattr
  | .macMetadata => .mac | .digest _ => .digest | .stat => .statAll

def statGroups : List Group :=
  [.time .atime, .time .ctime, .time .mtime, .time .birthtime, .dev, .gid, .uid, .ino, .nlink, .rdev, .size, .sparse,
   .filetype, .perm, .modeWord, .strmode, .statAll]

def touches : Op → Group → Bool
  | .setTime f _ _, G | .unsetTime f, G => G == .time f || G == .statAll
  | .setSize _, G | .unsetSize, G => G == .size || G == .sparse || G == .statAll
  | .setDev _, G | .setDevmajor _, G | .setDevminor _, G => G == .dev || G == .statAll
  | .setRdev _, G | .setRdevmajor _, G | .setRdevminor _, G => G == .rdev || G == .statAll
  | .setIno _, G => G == .ino || G == .statAll
  | .setNlink _, G => G == .nlink || G == .statAll
  | .setUid _, G => G == .uid || G == .statAll
  | .setGid _, G => G == .gid || G == .statAll
  | .setMode _, G => G == .filetype || G == .perm || G == .modeWord || G == .strmode || G == .statAll
  | .setPerm _, G => G == .perm || G == .modeWord || G == .strmode || G == .statAll
  | .setFiletype _, G => G == .filetype || G == .modeWord || G == .strmode || G == .statAll
  | .setStr f _, G => G == .str f
  | .setHardlink _, G | .copyHardlink _, G | .setSymlink _, G | .setLink _, G
  | .setLinkToHardlink, G | .setLinkToSymlink, G => G == .link || G == .strmode
  | .setFflags _ _, G | .copyFflagsText _, G | .fflagsText, G => G == .fflags
  | .setSymlinkType _, G => G == .symlinkType
  | .setIsDataEncrypted _, G | .setIsMetadataEncrypted _, G => G == .encryption
  | .sparseAdd _ _, G | .sparseClear, G | .sparseCount, G | .sparseReset, G | .sparseNext, G => G == .sparse
  | .xattrAdd _ _, G | .xattrClear, G | .xattrReset, G | .xattrNext, G => G == .xattr
  | .copyMacMetadata _, G => G == .mac
  | .setDigest _ _, G => G == .digest
  | .copyStat _, G => statGroups.contains G
  | .stat, G => G == .statAll
  | .clear, _ => true

theorem hasF_or_self (s a : Flags) (h : a ≠ 0#32) : hasF (s ||| a) a = true := by
  simp [hasF, bv_or_and_self, h]
theorem hasF_andnot_self (s a : Flags) : hasF (s &&& ~~~a) a = false := by
  simp [hasF, bv_andnot_and_self]
theorem hasF_or_disj (s a b : Flags) (h : a &&& b = 0) : hasF (s ||| a) b = hasF s b := by
  simp [hasF, bv_or_and_disj _ _ _ h]
theorem hasF_andnot_disj (s a b : Flags) (h : a &&& b = 0) : hasF (s &&& ~~~a) b = hasF s b := by
  simp [hasF, bv_andnot_and_disj _ _ _ h]
theorem hasF_or_assoc (s a b c : Flags) : hasF (s ||| (a ||| b)) c = hasF ((s ||| a) ||| b) c := by
  rw [BitVec.or_assoc]
theorem hasF_zero (f : Flags) : hasF 0 f = false := by simp [hasF]

theorem hasF_ite (c : Prop) {inst : Decidable c} (x y f : Flags) :
    hasF (@ite _ c inst x y) f = @ite _ c inst (hasF x f) (hasF y f) := by split <;> rfl

theorem view_ite (G : Group) (c : Prop) {inst : Decidable c} (a b : Entry) :
    view G (@ite _ c inst a b) = @ite _ c inst (view G a) (view G b) := by split <;> rfl
theorem view_cond (G : Group) (c : Bool) (a b : Entry) :
    view G (bif c then a else b) = bif c then view G a else view G b := by cases c <;> rfl

theorem sparseCount_fst (e : Entry) :
    (sparseCount e).1 = bif sparseWhole (size e) e.sparse then sparseClear e else e := by
  unfold sparseCount; cases sparseWhole (size e) e.sparse <;> rfl
theorem sparseCount_snd (e : Entry) :
    (sparseCount e).2 = bif sparseWhole (size e) e.sparse then 0 else e.sparse.length := by
  unfold sparseCount; cases sparseWhole (size e) e.sparse <;> rfl

/-- The bits of `ae_set` that the view of a group reads. -/
def Group.mask : Group → Flags
  | .time f => f.flag | .size => fSIZE | .dev => fDEV | .rdev | .statAll => fRDEV | .ino => fINO
  | .uid => fUID | .gid => fGID | .filetype => fFILETYPE | .perm => fPERM
  | .link | .strmode => fHARDLINK ||| fSYMLINK
  | _ => 0

def Entry.withFlags (e : Entry) (s : Flags) : Entry := { e with ae_set := s }

theorem hasF_congr {s t f : Flags} (h : s &&& f = t &&& f) : hasF s f = hasF t f := by
  unfold hasF; rw [h]

theorem bv_and_of_and_or {w} {s t a b : BitVec w} (h : s &&& (a ||| b) = t &&& (a ||| b)) :
    s &&& a = t &&& a ∧ s &&& b = t &&& b := by
  have ha : (a ||| b) &&& a = a := by rw [BitVec.or_comm]; exact bv_or_and_self b a
  have hb : (a ||| b) &&& b = b := bv_or_and_self a b
  constructor
  · rw [← ha, ← BitVec.and_assoc, ← BitVec.and_assoc, h]
  · rw [← hb, ← BitVec.and_assoc, ← BitVec.and_assoc, h]

theorem view_withFlags (G : Group) (e : Entry) (s : Flags) (h : e.ae_set &&& G.mask = s &&& G.mask) :
    view G e = view G (e.withFlags s) := by
  cases G <;> simp only [Group.mask] at h
  case time f => simp only [view, Entry.has, Entry.withFlags, hasF_congr h]; rfl
  case size | dev | rdev | ino | uid | gid | filetype | perm | statAll =>
    simp only [view, Entry.has, Entry.withFlags, hasF_congr h]
  case link | strmode =>
    simp only [view, Entry.has, Entry.withFlags, hasF_congr (bv_and_of_and_or h).1, hasF_congr (bv_and_of_and_or h).2]
  all_goals rfl

end LA.Entry
