/-
The two concrete stream descriptions: what `archive_write_add_filter_uuencode.c`
and `archive_write_add_filter_b64encode.c` write, line by line, and that
`uudecode_filter_read` handles every one of these lines as expected.
-/
import LA.Lemmas.UuStream
namespace LA.UuRead
open LA.Gen.UuTables LA.LineFilter

/-- A `name` option the reader can cope with: non-empty, printable ASCII, and a
`begin` line that fits the reader's line-length limit. -/
structure NameOk (name : List Nat) : Prop where
  ne : name ≠ []
  printable : Printable name
  short : name.length + 24 ≤ maxLineLength

theorem octal3_printable (mode : Nat) : Printable (octal3 mode) := by
  intro c hc
  simp only [octal3, List.mem_cons, List.mem_nil_iff, or_false] at hc
  rcases hc with h | h | h <;> omega

theorem printable_append {a b : List Nat} (ha : Printable a) (hb : Printable b) : Printable (a ++ b) := by
  intro c hc
  rcases List.mem_append.mp hc with h | h
  · exact ha c h
  · exact hb c h

theorem limits : outBuffSize = 65536 ∧ maxLineLength = 34816 ∧ bidMaxRead = 131072 := by decide

/-! ### the `begin` line as the read side sees it -/

/-- The test both `uudecode_bidder_bid` and the `ST_FIND_HEAD` case make on a line:
6 after "begin ", 13 after "begin-base64 ", else 0. -/
def beginLen (b : List Nat) (nl : Nat) : Nat :=
  if b.length - nl ≥ 11 ∧ b.take 6 = uuBegin then 6
  else if b.length - nl ≥ 18 ∧ b.take 13 = b64Begin then 13 else 0

/-- A line that passes the test, with three octal digits and a blank after the prefix, makes
`ST_FIND_HEAD` change state and the bidder go on to the next line. -/
theorem begin_line {b : List Nat} {nl l d0 d1 d2 : Nat} (md : Meta) (hl : beginLen b nl = l) (h0 : l ≠ 0)
    (e0 : b[l]? = some d0) (e1 : b[l + 1]? = some d1) (e2 : b[l + 2]? = some d2) (e3 : b[l + 3]? = some 32)
    (o0 : isOct d0 = true) (o1 : isOct d1 = true) (o2 : isOct d2 = true) :
    (headLine b nl md).1 = (if l = 6 then .readUU else .readB64) ∧ beginKind b nl = l := by
  have hl' : (if b.length - nl ≥ 11 ∧ b.take 6 = uuBegin then 6
    else if b.length - nl ≥ 18 ∧ b.take 13 = b64Begin then 13 else 0) = l := hl
  constructor
  · unfold headLine
    simp only [hl', e0, e1, e2, e3, o0, o1, o2]
    rw [if_pos ⟨h0, trivial, trivial, trivial, trivial⟩]
  · unfold beginKind
    simp only [hl', e0, e1, e2, e3, o0, o1, o2]
    simp

theorem isOct_digit (x : Nat) : isOct (48 + x % 8) = true := by
  simp [isOct]; omega

theorem header_getElem (c : Codec) (mode : Nat) (name : List Nat) (i : Nat) :
    (header c mode name)[c.begin_.length + i]? =
      ((48 + mode / 64 % 8) :: (48 + mode / 8 % 8) :: (48 + mode % 8) :: 32 :: (name ++ [10]))[i]? := by
  simp only [header, octal3, List.append_assoc, List.cons_append, List.nil_append]
  rw [List.getElem?_append_right (Nat.le_add_right _ _), Nat.add_sub_cancel_left]

/-- The `begin` line the write filter produces is recognised as such by the read filter and by the bidder. -/
theorem header_begin (c : Codec) (mode : Nat) (name : List Nat) (md : Meta) {l : Nat}
    (hl : beginLen (header c mode name) 1 = l) (h0 : l ≠ 0) (hb : c.begin_.length = l) :
    (headLine (header c mode name) 1 md).1 = (if l = 6 then .readUU else .readB64) ∧
      beginKind (header c mode name) 1 = l := by
  have e := header_getElem c mode name
  rw [hb] at e
  exact begin_line md hl h0 (e 0) (e 1) (e 2) (e 3) (isOct_digit _) (isOct_digit _) (isOct_digit _)

theorem beginLen_uu (mode : Nat) (name : List Nat) (hn : name ≠ []) :
    beginLen (header LA.Uu.codec mode name) 1 = 6 := by
  have hl : 1 ≤ name.length := List.length_pos_iff.mpr hn
  simp [beginLen, header, LA.Uu.codec, uuBegin, octal3, hl]

theorem beginLen_b64 (mode : Nat) (name : List Nat) (hn : name ≠ []) :
    beginLen (header LA.B64.codec mode name) 1 = 13 := by
  have hl : 1 ≤ name.length := List.length_pos_iff.mpr hn
  simp [beginLen, header, LA.B64.codec, uuBegin, b64Begin, octal3, hl]

/-! ### lines met in a state that needs room in `out_buff`, and the others -/

theorem lineStep_full (ph : Phase) (total len : Nat) (b : List Nat) (nl : Nat) (md : Meta)
    (hr : needsRoom ph = true) (h : total + len * 2 > outBuffSize) : lineStep ph total len b nl md = .full := by
  cases ph <;> simp [needsRoom] at hr <;> simp [lineStep, h]

theorem lineStep_uu (total len : Nat) (b : List Nat) (nl : Nat) (md : Meta) (h : total + len * 2 ≤ outBuffSize) :
    lineStep .readUU total len b nl md =
      match uuLine b nl with
      | .data o => .next .readUU o md
      | .toPhase p => .next p [] md
      | .bad => .fatal
      | .oob => .oob := by
  rw [lineStep, if_neg (by omega)]
  rfl

theorem lineStep_b64 (total len : Nat) (b : List Nat) (nl : Nat) (md : Meta) (h : total + len * 2 ≤ outBuffSize) :
    lineStep .readB64 total len b nl md =
      match b64Line b nl with
      | .data o => .next .readB64 o md
      | .toPhase p => .next p [] md
      | .bad => .fatal
      | .oob => .oob := by
  rw [lineStep, if_neg (by omega)]
  rfl

theorem ItemOk.of_room {it : Item} (hr : needsRoom it.ph = true) (hp : Printable it.body)
    (hs : it.len * 2 ≤ outBuffSize) (hm : it.len ≤ maxLineLength) (ho : it.out.length ≤ it.len * 2)
    (hi : it.ph' ≠ .ignore)
    (hstep : ∀ total md, total + it.len * 2 ≤ outBuffSize →
      lineStep it.ph total it.len it.line 1 md = .next it.ph' it.out (it.mdf md)) : ItemOk it :=
  ⟨hp, Or.inl hs, hm, ho, fun h => (by rw [hr] at h; cases h), ⟨fun h => (by rw [h] at hr; cases hr), hi⟩,
    fun total md _ h => hstep total md (h hr), fun total md _ h => lineStep_full _ _ _ _ _ _ hr h⟩

theorem ItemOk.of_quiet {it : Item} (hr : needsRoom it.ph = false) (hph : it.ph ≠ .ignore) (hp : Printable it.body)
    (hm : it.len ≤ maxLineLength) (ho : it.out = []) (hi : it.ph' ≠ .ignore)
    (hstep : ∀ total md, total ≤ outBuffSize →
      lineStep it.ph total it.len it.line 1 md = .next it.ph' it.out (it.mdf md)) : ItemOk it :=
  ⟨hp, Or.inr hr, hm, (by rw [ho]; exact Nat.zero_le _), fun _ => ho, ⟨hph, hi⟩,
    fun total md h _ => hstep total md h, fun total md h => (by rw [hr] at h; cases h)⟩

theorem hdrItem_ok (c : Codec) (mode : Nat) (name : List Nat) (ph' : Phase) (hn : NameOk name)
    (hb : Printable c.begin_) (hl : c.begin_.length ≤ 13) (hi : ph' ≠ .ignore)
    (hh : ∀ md, (headLine (header c mode name) 1 md).1 = ph') : ItemOk (hdrItem c mode name ph') := by
  obtain ⟨l1, l2, l3⟩ := limits
  have hshort := hn.short
  have hlen : (hdrItem c mode name ph').len = c.begin_.length + name.length + 5 := by
    simp [hdrItem, Item.len, octal3]; omega
  refine .of_quiet rfl (by simp [hdrItem])
    (printable_append (printable_append (printable_append hb (octal3_printable mode)) ?_) hn.printable)
    (by omega) rfl hi ?_
  · intro c hc; simp at hc; omega
  · intro total md ht
    rw [show (hdrItem c mode name ph').ph = .findHead from rfl, show (hdrItem c mode name ph').line = header c mode name from rfl]
    simp only [lineStep]
    rw [if_neg (by omega), hh]; rfl

/-! ### uuencode -/

def uuData (p : List Nat) : Item :=
  { body := LA.Uu.ch p.length :: LA.Uu.triples p, ph := .readUU, ph' := .readUU, out := p, mdf := id }

def uuT1 : Item := { body := [96], ph := .readUU, ph' := .uuEnd, out := [], mdf := id }
def uuT2 : Item := { body := [101, 110, 100], ph := .uuEnd, ph' := .findHead, out := [], mdf := id }

theorem uuData_len (p : List Nat) : (uuData p).len = (p.length + 2) / 3 * 4 + 2 := by
  simp [uuData, Item.len, uu_triples, groups_length]

theorem uuData_printable (p : List Nat) (hb : Bytes p) (h45 : p.length ≤ 45) : Printable (uuData p).body := by
  intro c hc
  rcases List.mem_cons.mp hc with rfl | h
  · have := uu_ch_range p.length (by omega); omega
  · exact uu_groups_printable p hb c (uu_triples p ▸ h)

theorem uuData_ok (p : List Nat) (hb : Bytes p) (h1 : 0 < p.length) (h45 : p.length ≤ LA.Uu.codec.lbytes) :
    ItemOk (uuData p) := by
  obtain ⟨l1, l2, l3⟩ := limits
  have h45' : p.length ≤ 45 := h45
  have hlen := uuData_len p
  refine .of_room rfl (uuData_printable p hb h45') (by omega) (by omega)
    (by rw [show (uuData p).out = p from rfl]; omega) (by simp [uuData]) ?_
  intro total md h
  rw [show (uuData p).ph = .readUU from rfl, lineStep_uu _ _ _ _ _ h,
    show (uuData p).line = LA.Uu.encLine p by simp [Item.line, uuData, LA.Uu.encLine], uuLine_enc p hb h1 h45']
  rfl

theorem uuT1_ok : ItemOk uuT1 := by
  obtain ⟨l1, l2, l3⟩ := limits
  refine .of_room rfl (by intro c hc; simp [uuT1] at hc; omega) (by simp [uuT1, Item.len]; omega)
    (by simp [uuT1, Item.len]; omega) (Nat.zero_le _) (by simp [uuT1]) ?_
  intro total md h
  rw [show uuT1.ph = .readUU from rfl, lineStep_uu _ _ _ _ _ h, show uuT1.line = [96, 10] from rfl, uuLine_end]
  rfl

theorem uuT2_ok : ItemOk uuT2 := by
  obtain ⟨l1, l2, l3⟩ := limits
  refine .of_quiet rfl (by simp [uuT2]) (by intro c hc; simp [uuT2] at hc; omega) (by simp [uuT2, Item.len]; omega)
    rfl (by simp [uuT2]) ?_
  intro total md _
  simp [uuT2, Item.len, Item.line, lineStep]

def uuSpec (mode : Nat) (name : List Nat) (hn : NameOk name) : StreamSpec LA.Uu.codec mode name :=
  { dph := .readUU, body := fun p => LA.Uu.ch p.length :: LA.Uu.triples p, tl := [uuT1, uuT2],
    encLine_eq := fun _ => rfl,
    hdrOk := hdrItem_ok _ mode name _ hn (by intro c hc; simp [LA.Uu.codec, uuBegin] at hc; omega) (by decide)
      (by simp) fun md => (header_begin _ mode name md (beginLen_uu mode name hn.ne) (by decide) rfl).1,
    dataOk := uuData_ok,
    tlText := by simp [text, Item.line, uuT1, uuT2, LA.Uu.codec, uuTrailer],
    tlChain := ⟨rfl, rfl, trivial⟩,
    tlOk := by
      intro it hit; simp at hit
      rcases hit with rfl | rfl
      · exact uuT1_ok
      · exact uuT2_ok,
    tlOut := by intro it hit; simp at hit; rcases hit with rfl | rfl <;> rfl,
    dphData := rfl, tlEnd := rfl }

/-! ### b64encode -/

def b64Data (p : List Nat) : Item :=
  { body := LA.B64.triples p, ph := .readB64, ph' := .readB64, out := p, mdf := id }

def b64T : Item := { body := [61, 61, 61, 61], ph := .readB64, ph' := .findHead, out := [], mdf := id }

theorem b64Data_len (p : List Nat) : (b64Data p).len = (p.length + 2) / 3 * 4 + 1 := by
  simp [b64Data, Item.len, b64_triples, groups_length]

theorem b64Data_ok (p : List Nat) (hb : Bytes p) (h1 : 0 < p.length) (h57 : p.length ≤ LA.B64.codec.lbytes) :
    ItemOk (b64Data p) := by
  obtain ⟨l1, l2, l3⟩ := limits
  have h57' : p.length ≤ 57 := h57
  have hlen := b64Data_len p
  refine .of_room rfl (by rw [show (b64Data p).body = _ from b64_triples p]; exact b64_groups_printable p hb)
    (by omega) (by omega)
    (by rw [show (b64Data p).out = p from rfl]; omega) (by simp [b64Data]) ?_
  intro total md h
  rw [show (b64Data p).ph = .readB64 from rfl, lineStep_b64 _ _ _ _ _ h,
    show (b64Data p).line = LA.B64.encLine p from rfl, b64Line_enc p hb h1]
  rfl

theorem b64T_ok : ItemOk b64T := by
  obtain ⟨l1, l2, l3⟩ := limits
  refine .of_room rfl (by intro c hc; simp [b64T] at hc; omega) (by simp [b64T, Item.len]; omega)
    (by simp [b64T, Item.len]; omega) (Nat.zero_le _) (by simp [b64T]) ?_
  intro total md h
  rw [show b64T.ph = .readB64 from rfl, lineStep_b64 _ _ _ _ _ h, show b64T.line = [61, 61, 61, 61, 10] from rfl,
    b64Line_end]
  rfl

def b64Spec (mode : Nat) (name : List Nat) (hn : NameOk name) : StreamSpec LA.B64.codec mode name :=
  { dph := .readB64, body := LA.B64.triples, tl := [b64T],
    encLine_eq := fun _ => rfl,
    hdrOk := hdrItem_ok _ mode name _ hn (by intro c hc; simp [LA.B64.codec, b64Begin] at hc; omega) (by decide)
      (by simp) fun md => (header_begin _ mode name md (beginLen_b64 mode name hn.ne) (by decide) rfl).1,
    dataOk := b64Data_ok,
    tlText := by simp [text, Item.line, b64T, LA.B64.codec, b64Trailer],
    tlChain := ⟨rfl, trivial⟩,
    tlOk := by intro it hit; simp at hit; subst hit; exact b64T_ok,
    tlOut := by intro it hit; simp at hit; subst hit; rfl,
    dphData := rfl, tlEnd := rfl }

end LA.UuRead
