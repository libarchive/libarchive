/-
Lemmas for `LA.Drive`: the compressor driver emits exactly the codec's output;
gzip members parse back one after the other.
-/
import LA.Model.Drive
namespace LA.Drive

variable {c : ZCodec} {comp : List Nat → List Nat}

/-- Everything produced so far (downstream + buffered) is the header followed by what
the codec has emitted; the codec has absorbed exactly the writes `W`. -/
structure Inv (L : Lawful c comp) (cap : Nat) (hdr : List Nat) (d : DState c) (W : List Nat) : Prop where
  bytes : d.out.flatten ++ d.buf = hdr ++ L.emitted d.z
  abs : L.absorbed d.z = W
  room : d.buf.length ≤ cap

/-- A full buffer is passed downstream before the codec is called: there is room then. -/
theorem inv_flush (L : Lawful c comp) (cap : Nat) (hdr : List Nat) (d : DState c) (W : List Nat)
    (hcap : 0 < cap) (hi : Inv L cap hdr d W) :
    ∃ d1, (if d.buf.length = cap then { d with buf := [], out := d.out ++ [d.buf] } else d) = d1 ∧
      Inv L cap hdr d1 W ∧ d1.buf.length < cap ∧ d1.z = d.z := by
  by_cases h : d.buf.length = cap
  · exact ⟨_, if_pos h, ⟨by simpa using hi.bytes, hi.abs, Nat.zero_le _⟩, hcap, rfl⟩
  · exact ⟨d, if_neg h, hi, by have := hi.room; omega, rfl⟩

/-- `drive_compressor` ends with the codec having absorbed all of `inp`, and, when
finishing, with everything emitted being `comp` of everything written. -/
theorem driveLoop_spec (L : Lawful c comp) (cap : Nat) (hdr : List Nat) (hcap : 0 < cap) (fin : Bool) :
    ∀ (n : Nat) (d : DState c) (inp W : List Nat), c.rank d.z inp fin = n → Inv L cap hdr d W →
      ∃ d', driveLoop c cap fin d inp = .ok d' ∧ Inv L cap hdr d' (W ++ inp) ∧
        (fin = true → L.emitted d'.z = comp (W ++ inp)) := by
  intro n
  induction n using Nat.strongRecOn with
  | _ n ih =>
    intro d inp W hn hi
    obtain ⟨d1, hd1, hi1, hlt, hz⟩ := inv_flush L cap hdr d W hcap hi
    unfold driveLoop
    rw [hd1]
    by_cases hidle : (!fin) = true ∧ inp = []
    · rw [if_pos hidle, hidle.2, List.append_nil]
      exact ⟨d1, rfl, hi1, fun h => by rw [h] at hidle; exact absurd hidle.1 (by decide)⟩
    · rw [if_neg hidle]
      have hroom : 0 < cap - d1.buf.length := by omega
      have hwork : inp ≠ [] ∨ fin = true := by
        cases fin
        · exact Or.inl fun h => hidle ⟨rfl, h⟩
        · exact Or.inr rfl
      have l2 := L.produced_le d1.z inp (cap - d1.buf.length) fin
      have l3 := L.abs_step d1.z inp (cap - d1.buf.length) fin
      have l4 := L.emit_step d1.z inp (cap - d1.buf.length) fin
      have l5 := L.end_spec d1.z inp (cap - d1.buf.length) fin
      have l6 := L.no_error d1.z inp (cap - d1.buf.length) fin hroom
      have l7 := L.progress d1.z inp (cap - d1.buf.length) fin hroom hwork
      generalize c.call d1.z inp (cap - d1.buf.length) fin = r at *
      obtain ⟨z', k, p, st⟩ := r
      simp only [] at l2 l3 l4 l5 l6 l7 ⊢
      obtain ⟨b1, b2, b3⟩ := hi1
      have hinv2 : Inv L cap hdr ({ z := z', buf := d1.buf ++ p, out := d1.out } : DState c) (W ++ inp.take k) :=
        ⟨by simp only []; rw [← List.append_assoc, b1, l4, List.append_assoc], by simp only []; rw [l3, b2],
          by simp only [List.length_append]; omega⟩
      cases st with
      | error => exact absurd rfl l6
      | streamEnd =>
        obtain ⟨_, e2, e3⟩ := l5 rfl
        rw [e2, List.take_length] at hinv2
        exact ⟨_, rfl, hinv2, fun _ => e3.trans (congrArg comp hinv2.abs)⟩
      | ok =>
        by_cases hdone : (!fin) = true ∧ inp.drop k = []
        · rw [if_pos hdone]
          rw [List.take_of_length_le (List.drop_eq_nil_iff.mp hdone.2)] at hinv2
          exact ⟨_, rfl, hinv2, fun h => by rw [h] at hdone; exact absurd hdone.1 (by decide)⟩
        · have hprog := l7 rfl
          rw [hz] at hprog
          rw [if_neg hdone, dif_pos hprog]
          obtain ⟨d', e1, e2, e3⟩ := ih _ (by rw [← hn]; exact hprog) _ (inp.drop k) (W ++ inp.take k) rfl hinv2
          rw [List.append_assoc, List.take_append_drop] at e2 e3
          exact ⟨d', e1, e2, e3⟩

theorem foldl_write (L : Lawful c comp) (cap : Nat) (hdr : List Nat) (hcap : 0 < cap) :
    ∀ (chunks : List (List Nat)) (d : DState c) (W : List Nat), Inv L cap hdr d W →
      ∃ d', chunks.foldl (write c cap) (.ok d) = .ok d' ∧ Inv L cap hdr d' (W ++ chunks.flatten)
  | [], d, W, hi => ⟨d, rfl, by simpa using hi⟩
  | w :: rest, d, W, hi => by
    obtain ⟨d1, e1, e2, -⟩ := driveLoop_spec L cap hdr hcap false _ d w W rfl hi
    obtain ⟨d2, f1, f2⟩ := foldl_write L cap hdr hcap rest d1 (W ++ w) e2
    refine ⟨d2, ?_, by simpa [List.append_assoc] using f2⟩
    simp only [List.foldl_cons, write, e1]
    exact f1

theorem le32_length (n : Nat) : (le32 n).length = 4 := rfl

theorem peek_gzHeader (mtime level : Nat) (rest : List Nat) :
    peekAtHeader (gzHeader mtime level ++ rest) = 10 := by
  simp [peekAtHeader, gzHeader, le32]

theorem gzRead_end (inflate : List Nat → Option (List Nat × List Nat)) (junk : List Nat)
    (hj : peekAtHeader junk = 0) : gzRead inflate junk = .eof [] := by
  unfold gzRead
  simp [hj]

/-- A header, a deflate stream and any eight bytes are read as one member: the
trailer is consumed without being looked at. -/
theorem gzRead_frame (inflate : List Nat → Option (List Nat × List Nat)) (deflate : List Nat → List Nat)
    (hlaw : ∀ x r, inflate (deflate x ++ r) = some (x, r)) (mtime level : Nat) (x t rest : List Nat)
    (ht : t.length = 8) :
    gzRead inflate (gzHeader mtime level ++ (deflate x ++ (t ++ rest))) = GzR.cons x (gzRead inflate rest) := by
  conv => lhs; unfold gzRead
  rw [peek_gzHeader]
  have hdrop : (gzHeader mtime level ++ (deflate x ++ (t ++ rest))).drop 10 = deflate x ++ (t ++ rest) :=
    List.drop_left' rfl
  simp only [Nat.succ_ne_zero, dite_false]
  split
  · rename_i h; rw [hdrop, hlaw] at h; cases h
  · rename_i x' r' h
    rw [hdrop, hlaw] at h
    obtain ⟨rfl, rfl⟩ := Prod.mk.inj (Option.some.inj h)
    rw [dif_pos (by rw [hdrop, List.length_append (as := deflate x)]; exact Nat.le_add_left _ _),
      if_neg (by rw [List.length_append]; omega), List.drop_left' ht]

theorem gzRead_member (inflate : List Nat → Option (List Nat × List Nat)) (deflate : List Nat → List Nat)
    (crc32 : List Nat → Nat) (hlaw : ∀ x r, inflate (deflate x ++ r) = some (x, r))
    (mtime level : Nat) (x rest : List Nat) :
    gzRead inflate (gzMember deflate crc32 mtime level x ++ rest) = GzR.cons x (gzRead inflate rest) := by
  rw [gzMember, List.append_assoc, List.append_assoc]
  exact gzRead_frame inflate deflate hlaw mtime level x _ rest rfl

end LA.Drive
