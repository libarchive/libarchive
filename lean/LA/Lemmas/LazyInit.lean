/- Invariant proof for the lazy-initialisation machine of `LA.Model.LazyInit`. -/
import LA.Model.LazyInit
namespace LA.LazyInit

/-- Slot `i` already holds its final value. -/
def Good (f : Nat → Nat) (m : Mem) (i : Nat) : Prop := m.tbl[i]? = some (f i)

/-- No table store is sequenced after the store of the flag. -/
def FlagLast : List Instr → Prop
  | [] => True
  | .setFlag :: rest => (∀ i v, Instr.store i v ∉ rest) ∧ FlagLast rest
  | _ :: rest => FlagLast rest

/-- What a thread must satisfy, in memory `m`, for its look-ups to be right. -/
structure TInv (f : Nat → Nat) (n : Nat) (m : Mem) (t : Thread) : Prop where
  /-- every store it will still do writes the final value of an existing slot -/
  stores : ∀ i v, Instr.store i v ∈ t.init ++ t.use → i < n ∧ v = f i
  /-- the flag is stored after the table -/
  flagLast : FlagLast t.init
  /-- no look-up inside the initialisation -/
  noRead : ∀ j, Instr.read j ∉ t.init
  /-- every slot is already final or the thread will still fill it before it looks anything up -/
  covers : ∀ i, i < n → Good f m i ∨ Instr.store i (f i) ∈ t.init
  /-- what it has looked up so far is the final table -/
  obsOk : ∀ p ∈ t.obs, p.2 = (final f n)[p.1]?

/-- Global invariant: the table keeps its size; flag set means table complete. -/
structure GInv (f : Nat → Nat) (n : Nat) (m : Mem) : Prop where
  len : m.tbl.length = n
  flagOk : m.flag = true → ∀ i, i < n → Good f m i

theorem final_get (f : Nat → Nat) (n j : Nat) : (final f n)[j]? = if j < n then some (f j) else none := by
  unfold final
  by_cases h : j < n <;> simp [h]

theorem read_final {f : Nat → Nat} {n : Nat} {m : Mem} (hl : m.tbl.length = n)
    (hg : ∀ i, i < n → Good f m i) (j : Nat) : m.tbl[j]? = (final f n)[j]? := by
  rw [final_get]
  by_cases h : j < n
  · simp only [h, if_true]; exact hg j h
  · simp only [h, if_false]
    exact List.getElem?_eq_none (by omega)

theorem good_store {f : Nat → Nat} {m : Mem} {i k : Nat} (h : Good f m i) :
    Good f { m with tbl := m.tbl.set k (f k) } i := by
  unfold Good at *
  simp only
  by_cases hk : k = i
  · subst hk
    have : k < m.tbl.length := by
      rcases Nat.lt_or_ge k m.tbl.length with hlt | hge
      · exact hlt
      · rw [List.getElem?_eq_none hge] at h; cases h
    simp [this]
  · simp [hk, h]

theorem good_store_self {f : Nat → Nat} {m : Mem} {k : Nat} (hk : k < m.tbl.length) :
    Good f { m with tbl := m.tbl.set k (f k) } k := by
  unfold Good
  simp [hk]

/-- Memory only gets better: the table keeps its size and final slots stay final. -/
structure Le (f : Nat → Nat) (m m' : Mem) : Prop where
  len : m'.tbl.length = m.tbl.length
  good : ∀ i, Good f m i → Good f m' i

theorem TInv.mono {f : Nat → Nat} {n : Nat} {m m' : Mem} {t : Thread} (h : TInv f n m t) (hle : Le f m m') :
    TInv f n m' t :=
  { stores := h.stores, flagLast := h.flagLast, noRead := h.noRead, obsOk := h.obsOk,
    covers := fun i hi => (h.covers i hi).imp (hle.good i) id }

/-- Effect of one instruction that is not a skipping `checkFlag`. -/
theorem apply_le {f : Nat → Nat} {n : Nat} {m : Mem} (ins : Instr)
    (hs : ∀ i v, ins = .store i v → i < n ∧ v = f i) : Le f m (m.apply ins) := by
  cases ins with
  | checkFlag => exact ⟨rfl, fun _ h => h⟩
  | read j => exact ⟨rfl, fun _ h => h⟩
  | setFlag => exact ⟨rfl, fun _ h => h⟩
  | store i v =>
    obtain ⟨_, hv⟩ := hs i v rfl
    subst hv
    exact ⟨by simp [Mem.apply], fun k hk => good_store hk⟩

theorem FlagLast.tail {ins : Instr} {rest : List Instr} (h : FlagLast (ins :: rest)) : FlagLast rest :=
  match ins, h with
  | .setFlag, h => h.2
  | .checkFlag, h | .store .., h | .read _, h => h

/-- **One step of one thread keeps both invariants** and only improves memory. -/
theorem stepThread_inv {f : Nat → Nat} {n : Nat} {m : Mem} {t : Thread}
    (hg : GInv f n m) (ht : TInv f n m t) :
    GInv f n (stepThread m t).1 ∧ TInv f n (stepThread m t).1 (stepThread m t).2 ∧ Le f m (stepThread m t).1 := by
  unfold stepThread
  split
  · next ins rest hinit =>
    have hsub : ∀ x ∈ rest, x ∈ t.init := fun x hx => hinit ▸ List.mem_cons_of_mem _ hx
    split
    · next hc =>
      -- `if (flag) return;` taken: the table is complete
      exact ⟨hg, { stores := fun i v hm => ht.stores i v (List.mem_append_right _ hm), flagLast := trivial,
                   noRead := fun _ => List.not_mem_nil, covers := fun i hi => .inl (hg.flagOk hc.2 i hi),
                   obsOk := ht.obsOk }, rfl, fun _ h => h⟩
    · have hin : ins ∈ t.init := hinit ▸ List.mem_cons_self
      have hle := apply_le (m := m) ins fun i v e => ht.stores i v (List.mem_append_left _ (e ▸ hin))
      have hobs : observe m ins = [] := by
        cases ins with
        | read j => exact absurd hin (ht.noRead j)
        | _ => rfl
      have hfl := ht.flagLast
      rw [hinit] at hfl
      refine ⟨⟨hle.len.trans hg.len, fun hflag i hi => ?_⟩, ?_, hle⟩
      · -- the flag was set before, or this is its store and nothing is left to fill
        rcases ht.covers i hi with h | h
        · exact hle.good i h
        · cases ins with
          | setFlag => rw [hinit] at h; exact absurd (List.mem_of_ne_of_mem (by intro e; cases e) h) (hfl.1 i (f i))
          | _ => exact hle.good i (hg.flagOk hflag i hi)
      · refine { stores := fun i v hm => ht.stores i v ?_, flagLast := hfl.tail,
                 noRead := fun j hj => ht.noRead j (hsub _ hj), covers := fun i hi => ?_,
                 obsOk := by rw [hobs, List.append_nil]; exact ht.obsOk }
        · exact List.mem_append.mpr ((List.mem_append.mp hm).imp_left (hsub _))
        · rcases ht.covers i hi with h | h
          · exact .inl (hle.good i h)
          · rw [hinit] at h
            rcases List.mem_cons.mp h with rfl | h
            · exact .inl (good_store_self (hg.len ▸ hi))
            · exact .inr h
  · next hinit =>
    -- initialisation over: the table is complete, the look-ups run
    have hall : ∀ i, i < n → Good f m i := fun i hi =>
      (ht.covers i hi).resolve_right fun h => by rw [hinit] at h; cases h
    split
    · next ins rest huse =>
      have hsub : ∀ x ∈ rest, x ∈ t.init ++ t.use := fun x hx =>
        List.mem_append_right _ (huse ▸ List.mem_cons_of_mem _ hx)
      have hle := apply_le (m := m) ins fun i v e =>
        ht.stores i v (List.mem_append_right _ (e ▸ huse ▸ List.mem_cons_self))
      refine ⟨⟨hle.len.trans hg.len, fun _ i hi => hle.good i (hall i hi)⟩, ?_, hle⟩
      refine { stores := fun i v hm => ht.stores i v (hsub _ (by simpa [hinit] using hm)),
               flagLast := hinit ▸ trivial, noRead := fun j hj => (by rw [hinit] at hj; cases hj),
               covers := fun i hi => .inl (hle.good i (hall i hi)), obsOk := fun p hp => ?_ }
      rcases List.mem_append.mp hp with hp | hp
      · exact ht.obsOk p hp
      · cases ins with
        | read j => rw [List.mem_singleton.mp hp]; exact read_final hg.len hall j
        | _ => cases hp
    · exact ⟨hg, ht, rfl, fun _ h => h⟩

def SInv (f : Nat → Nat) (n : Nat) (s : Sys) : Prop := GInv f n s.mem ∧ ∀ t ∈ s.thr, TInv f n s.mem t

theorem step_inv {f : Nat → Nat} {n : Nat} {s : Sys} (h : SInv f n s) (k : Nat) : SInv f n (s.step k) := by
  unfold Sys.step
  split
  · exact h
  · rename_i t hk
    have htm : t ∈ s.thr := List.mem_of_getElem? hk
    obtain ⟨hg', ht', hle⟩ := stepThread_inv h.1 (h.2 t htm)
    refine ⟨hg', ?_⟩
    intro u hu
    rcases List.mem_or_eq_of_mem_set hu with hu | hu
    · exact (h.2 u hu).mono hle
    · exact hu ▸ ht'

theorem run_inv {f : Nat → Nat} {n : Nat} (ks : List Nat) {s : Sys} (h : SInv f n s) : SInv f n (s.run ks) := by
  induction ks generalizing s with
  | nil => exact h
  | cons k ks ih => exact ih (step_inv h k)

/-- A thread program is safe to start in fresh memory when: stores write final values, the flag comes
last, look-ups come after the initialisation, and the initialisation fills every slot. -/
structure WellFormed (f : Nat → Nat) (n : Nat) (t : Thread) : Prop where
  stores : ∀ i v, Instr.store i v ∈ t.init ++ t.use → i < n ∧ v = f i
  flagLast : FlagLast t.init
  noRead : ∀ j, Instr.read j ∉ t.init
  fills : ∀ i, i < n → Instr.store i (f i) ∈ t.init
  fresh : t.obs = []

theorem start_inv {f : Nat → Nat} {n : Nat} {ts : List Thread} (h : ∀ t ∈ ts, WellFormed f n t) :
    SInv f n (start n ts) :=
  ⟨⟨by simp [start, bss], by simp [start, bss]⟩,
   fun t ht => { stores := (h t ht).stores, flagLast := (h t ht).flagLast, noRead := (h t ht).noRead,
                 covers := fun i hi => Or.inr ((h t ht).fills i hi),
                 obsOk := by simp [(h t ht).fresh] }⟩

theorem mem_fill {f : Nat → Nat} {n i v : Nat} : Instr.store i v ∈ fill f n ↔ i < n ∧ v = f i := by
  simp only [fill, List.mem_map, List.mem_range, Instr.store.injEq]
  constructor
  · rintro ⟨a, ha, rfl, rfl⟩; exact ⟨ha, rfl⟩
  · rintro ⟨h, rfl⟩; exact ⟨i, h, rfl, rfl⟩

theorem not_mem_reads_store {js : List Nat} {i v : Nat} : Instr.store i v ∉ reads js := by
  simp [reads]

theorem read_not_mem_fill {f : Nat → Nat} {n j : Nat} : Instr.read j ∉ fill f n := by
  simp [fill]

theorem flagLast_fill (f : Nat → Nat) (n : Nat) (tail : List Instr) (h : FlagLast tail) :
    FlagLast (fill f n ++ tail) := by
  unfold fill
  generalize List.range n = l
  induction l with
  | nil => simpa using h
  | cons a l ih => simpa [FlagLast] using ih

theorem wf_fillThenFlag (f : Nat → Nat) (n : Nat) (js : List Nat) : WellFormed f n (fillThenFlag f n js) where
  stores := fun i v h => by
    simp only [fillThenFlag, reads, List.cons_append, List.mem_cons, List.mem_append, List.mem_map,
      reduceCtorEq, false_or, or_false, and_false, exists_false] at h
    exact mem_fill.mp (by simpa using h)
  flagLast := by
    show FlagLast (.checkFlag :: (fill f n ++ [.setFlag]))
    simp only [FlagLast]
    exact flagLast_fill f n _ (by simp [FlagLast])
  noRead := fun j h => by
    simp only [fillThenFlag, List.mem_cons, List.mem_append, reduceCtorEq, false_or] at h
    rcases h with h | h
    · exact read_not_mem_fill h
    · simp at h
  fills := fun i hi => by
    simp only [fillThenFlag, List.mem_cons, List.mem_append, reduceCtorEq, false_or]
    exact Or.inl (mem_fill.mpr ⟨hi, rfl⟩)
  fresh := rfl

theorem wf_idempotentFill (f : Nat → Nat) (n : Nat) (js : List Nat) : WellFormed f n (idempotentFill f n js) where
  stores := fun i v h => by
    simp only [idempotentFill, List.mem_append] at h
    rcases h with h | h
    · exact mem_fill.mp h
    · exact absurd h not_mem_reads_store
  flagLast := by
    have := flagLast_fill f n [] trivial
    simpa [idempotentFill] using this
  noRead := fun j h => read_not_mem_fill h
  fills := fun i hi => mem_fill.mpr ⟨hi, rfl⟩
  fresh := rfl

/-! ### Every look-up is answered: a finished thread has observed its whole `use` list -/

/-- The slots a list of instructions will still look up. -/
def pending : List Instr → List Nat
  | [] => []
  | .read j :: rest => j :: pending rest
  | _ :: rest => pending rest

/-- Progress relation between a thread as started (`t0`) and as it is now. -/
def Tracks (t0 t : Thread) : Prop :=
  (∀ j, Instr.read j ∉ t.init) ∧ t.obs.map Prod.fst ++ pending t.use = pending t0.use

theorem observe_fst (m : Mem) (ins : Instr) : (observe m ins).map Prod.fst = pending [ins] := by
  cases ins <;> simp [observe, pending]

theorem pending_cons (ins : Instr) (rest : List Instr) : pending (ins :: rest) = pending [ins] ++ pending rest := by
  cases ins <;> simp [pending]

theorem stepThread_tracks {t0 t : Thread} (m : Mem) (h : Tracks t0 t) : Tracks t0 (stepThread m t).2 := by
  obtain ⟨hnr, heq⟩ := h
  unfold stepThread
  split
  · rename_i ins rest hinit
    split
    · exact ⟨by simp, heq⟩
    · refine ⟨fun j hj => hnr j (by rw [hinit]; simp [hj]), ?_⟩
      have : observe m ins = [] := by
        cases ins with
        | read j => exact absurd (by rw [hinit]; simp) (hnr j)
        | checkFlag => rfl
        | setFlag => rfl
        | store i v => rfl
      simpa [this] using heq
  · rename_i hinit
    split
    · rename_i ins rest huse
      refine ⟨by simp [hinit], ?_⟩
      rw [huse, pending_cons] at heq
      simp only [List.map_append, observe_fst, List.append_assoc]
      exact heq
    · exact ⟨hnr, heq⟩

/-- All threads of a system track the pool they were started from. -/
def STracks (ts : List Thread) (s : Sys) : Prop :=
  s.thr.length = ts.length ∧ ∀ (k : Nat) (t0 t : Thread), ts[k]? = some t0 → s.thr[k]? = some t → Tracks t0 t

theorem step_tracks {ts : List Thread} {s : Sys} (h : STracks ts s) (k : Nat) : STracks ts (s.step k) := by
  unfold Sys.step
  split
  · exact h
  · rename_i t hk
    refine ⟨by simp [h.1], ?_⟩
    intro i t0 u h0 hu
    simp only [List.getElem?_set] at hu
    by_cases hik : k = i
    · subst hik
      have hlt : k < s.thr.length := by
        rcases Nat.lt_or_ge k s.thr.length with hlt | hge
        · exact hlt
        · rw [List.getElem?_eq_none hge] at hk; cases hk
      simp [hlt] at hu
      subst hu
      exact stepThread_tracks s.mem (h.2 k t0 t h0 hk)
    · simp [hik] at hu
      exact h.2 i t0 u h0 hu

theorem run_tracks {ts : List Thread} (ks : List Nat) {s : Sys} (h : STracks ts s) : STracks ts (s.run ks) := by
  induction ks generalizing s with
  | nil => exact h
  | cons k ks ih => exact ih (step_tracks h k)

theorem start_tracks {f : Nat → Nat} {n : Nat} {ts : List Thread} (h : ∀ t ∈ ts, WellFormed f n t) :
    STracks ts (start n ts) := by
  refine ⟨rfl, ?_⟩
  intro k t0 t h0 ht
  have : t0 = t := by simp [start] at ht; rw [h0] at ht; exact Option.some.inj ht
  subst this
  exact ⟨(h t0 (List.mem_of_getElem? h0)).noRead, by simp [(h t0 (List.mem_of_getElem? h0)).fresh]⟩

theorem obs_eq_of_ok {f : Nat → Nat} {n : Nat} (obs : List (Nat × Option Nat))
    (h : ∀ p ∈ obs, p.2 = (final f n)[p.1]?) :
    obs = (obs.map Prod.fst).map (fun j => (j, (final f n)[j]?)) := by
  induction obs with
  | nil => rfl
  | cons p ps ih =>
    have hp := h p (by simp)
    simp only [List.map_cons, List.cons.injEq]
    exact ⟨by rw [← hp], ih (fun q hq => h q (by simp [hq]))⟩

theorem pending_reads (js : List Nat) : pending (reads js) = js := by
  induction js with
  | nil => rfl
  | cons j js ih => simpa [reads, pending] using ih

end LA.LazyInit
