/-
Freshly opened seekable sources, the abstraction of a state to the stream view, the abstract
operations on a live stream, a seek callback that fails at its next invocation.
-/
import LA.Lemmas.ReadAheadSeekRefine
namespace LA.RA

/-- What a state must satisfy beyond `Inv` for seeks to make sense: if seeking is possible at
all, the `dataset[]` bookkeeping is sound, there is a seek callback, and the bytes not yet
consumed are the stream from `position` on. -/
def SeekReady (s : State) : Prop :=
  s.canSeek = true → CacheOk s ∧ s.hasSeeker = true ∧ (s.fatal = false → remaining s = (allBytes s).drop s.position)

/-- The abstraction of a state: for a seekable source the concatenation of its nodes; for a
sequential one what was consumed so far (of which nothing can be observed any more) followed
by what remains. -/
def absStream (s : State) : SSpec :=
  { all := if s.canSeek then allBytes s else List.replicate s.position 0 ++ remaining s,
    pos := s.position, term := s.term, fatal := s.fatal, canSeek := s.canSeek, lost := false }

theorem rel_absStream (s : State) (hi : Inv s) (hr : SeekReady s) : Rel s (absStream s) := by
  refine { fatal := rfl, term := rfl, canSeek := rfl, bufLt := hi.bufLt, seekable := ?_, pos := fun _ => rfl,
           sync := fun _ => ⟨hi, fun hf => ?_⟩ }
  · intro hcs
    obtain ⟨a, b, _⟩ := hr hcs
    exact ⟨a, b, by simp [absStream, hcs]⟩
  · by_cases hcs : s.canSeek = true
    · simp only [absStream, hcs, if_true]
      exact (hr hcs).2.2 hf
    · have : s.canSeek = false := by simpa using hcs
      simp only [absStream, this, Bool.false_eq_true, if_false]
      rw [List.drop_append]
      simp

theorem seekReady_of_noseek (s : State) (h : s.canSeek = false) : SeekReady s := by
  intro hc; rw [h] at hc; cases hc

/-- A freshly opened seekable source (`archive_read_open_filenames`, or callbacks with
`archive_read_set_seek_callback`): the data nodes with their contents, the function `blk` by
which the client cuts what it delivers into blocks (it may depend on the node, on the offset
and on how many seeks there were), the skip script, whether a skip callback exists at all.
Nothing is known about node sizes yet (`-1`); the first node begins at 0. -/
def seekable0 (nodes : List (List Nat)) (blk : Nat → Nat → Nat → Nat) (t : Term) (skips : List Int)
    (canSkip : Bool) : State :=
  { nodes := nodes
    blk := blk
    term := t
    skips := skips
    canSkip := canSkip
    canSeek := true
    hasSeeker := true
    begins := 0 :: List.replicate (nodes.length - 1) (-1)
    sizes := List.replicate nodes.length (-1) }

def openSeekable (nodes : List (List Nat)) (blk : Nat → Nat → Nat → Nat) (t : Term) (skips : List Int)
    (canSkip : Bool) : State :=
  place (seekable0 nodes blk t skips canSkip) 0 0 0

section
variable (nodes : List (List Nat)) (blk : Nat → Nat → Nat → Nat) (t : Term) (skips : List Int) (cs : Bool)

theorem cacheOk_open (hne : nodes ≠ []) : CacheOk (openSeekable nodes blk t skips cs) := by
  have hl : 0 < nodes.length := List.length_pos_iff.mpr hne
  refine { ne := hl, lb := by simp [openSeekable, seekable0, place]; omega,
           lz := by simp [openSeekable, seekable0, place],
           b0 := by simp [openSeekable, seekable0, place], bt := ?_, zt := ?_ }
  · intro i b hb h0
    cases i with
    | zero =>
      simp [openSeekable, seekable0, place] at hb
      rw [← hb, prefixLen_zero]; rfl
    | succ n =>
      have hb' : (List.replicate (nodes.length - 1) (-1 : Int))[n]? = some b := by
        simpa [openSeekable, seekable0, place] using hb
      rw [List.getElem?_replicate] at hb'
      split at hb'
      · cases hb'; omega
      · cases hb'
  · intro i z hz h0
    have hz' : (List.replicate nodes.length (-1 : Int))[i]? = some z := by
      simpa [openSeekable, seekable0, place] using hz
    rw [List.getElem?_replicate] at hz'
    split at hz'
    · cases hz'; omega
    · cases hz'

theorem inv_open : Inv (openSeekable nodes blk t skips cs) := by
  have hok := place_srcOk (seekable0 nodes blk t skips cs) 0 0 0
  exact { cbIn := by simp [openSeekable, seekable0, place], bufLt := by simp [openSeekable, seekable0, place],
          clientEq := by simp [openSeekable, seekable0, place],
          prov := ⟨[], [], by simp [openSeekable, seekable0, place]⟩,
          eofSrc := (by simp [openSeekable, seekable0, place]), srcOk := hok.1, laterOk := hok.2 }

theorem remaining_open (hne : nodes ≠ []) : remaining (openSeekable nodes blk t skips cs) = nodes.flatten := by
  have h := place_tail (seekable0 nodes blk t skips cs) 0 0 0
  have hr : remaining (openSeekable nodes blk t skips cs) = tailBytes (openSeekable nodes blk t skips cs) := by
    simp [remaining, tailBytes, openSeekable, seekable0, place]
  rw [hr]
  unfold openSeekable
  rw [h]
  cases nodes with
  | nil => exact absurd rfl hne
  | cons a rest => simp [nodeAt, seekable0]

theorem seekReady_open (hne : nodes ≠ []) : SeekReady (openSeekable nodes blk t skips cs) := by
  intro _
  refine ⟨cacheOk_open nodes blk t skips cs hne, rfl, fun _ => ?_⟩
  rw [remaining_open nodes blk t skips cs hne]
  show nodes.flatten = (nodes.flatten).drop 0
  simp

theorem absStream_open :
    absStream (openSeekable nodes blk t skips cs) = ⟨nodes.flatten, 0, t, false, true, false⟩ := by
  simp [absStream, openSeekable, seekable0, place, allBytes]

end

theorem sspecAhead_live (all : List Nat) (pos : Nat) (t : Term) (cs l : Bool) (min : Nat) :
    sspecAhead ⟨all, pos, t, false, cs, l⟩ min =
      if min ≤ (all.drop pos).length then (.ok ((all.drop pos).take min), ⟨all, pos, t, false, cs, l⟩)
      else match t with
        | .eof => (.short (all.drop pos).length, ⟨all, pos, t, false, cs, l⟩)
        | .err => (.fatal, ⟨all, pos, t, true, cs, l⟩) := by
  unfold sspecAhead specAhead SSpec.toSpec
  simp only [Bool.false_eq_true, if_false]
  split
  · rfl
  · cases t <;> rfl

theorem sspecConsume_live (all : List Nat) (pos : Nat) (t : Term) (cs l : Bool) (n : Int) :
    sspecConsume ⟨all, pos, t, false, cs, l⟩ n =
      if n < 0 then (-30, ⟨all, pos, t, false, cs, l⟩)
      else if n = 0 then (0, ⟨all, pos, t, false, cs, l⟩)
      else if n.toNat ≤ (all.drop pos).length then (n, ⟨all, pos + n.toNat, t, false, cs, l⟩)
      else match t with
        | .eof => (-30, ⟨all, pos + (all.drop pos).length, t, false, cs, l⟩)
        | .err => (-30, ⟨all, pos + (all.drop pos).length, t, true, cs, l⟩) := by
  unfold sspecConsume specConsume SSpec.toSpec
  simp only [Bool.false_eq_true, if_false]
  by_cases h1 : n < 0
  · simp [h1]
  · by_cases h2 : n = 0
    · simp [h2]
    · simp only [h1, h2, if_false]
      by_cases h3 : n.toNat ≤ (all.drop pos).length
      · simp only [h3, if_true]
        congr 2
        simp at h3 ⊢; omega
      · simp only [h3, if_false]
        cases t <;> simp

theorem cons_outcome {ε α : Type} (failed : ε → Bool) (ev : ε) {T F : List ε × Option α}
    (h : T = F ∨ (T.2 = none ∧ ∃ pre last, T.1 = pre ++ [last] ∧ failed last = true ∧ pre <+: F.1)) :
    (ev :: T.1, T.2) = (ev :: F.1, F.2) ∨
    (T.2 = none ∧ ∃ pre last, ev :: T.1 = pre ++ [last] ∧ failed last = true ∧ pre <+: ev :: F.1) := by
  rcases h with rfl | ⟨h1, pre, last, h2, h3, h4⟩
  · exact .inl rfl
  · exact .inr ⟨h1, ev :: pre, last, by rw [h2]; rfl, h3, List.cons_prefix_cons.mpr ⟨rfl, h4⟩⟩

theorem clientSeek_head_fail (s : State) (w : Whence) (off : Int) (a : Int) (hs : s.hasSeeker = true)
    (hh : s.seeks.head? = some a) (ha : a < 0) : (clientSeek s w off).1 = a := by
  unfold clientSeek
  simp [hs, hh, ha]

theorem walkProbe_head_fail (stopAt : Option Int) (left c : Nat) (s : State) (a : Int) (hs : s.hasSeeker = true)
    (hh : s.seeks.head? = some a) (ha : a < 0) : ∃ s', walkProbe stopAt left c s = .fail a s' := by
  have hf := switchTo_filt s c
  have hq := (switchTo_cache s c).2.2
  have h1 := clientSeek_head_fail (switchTo s c) .end_ 0 a (by rw [hf.hasSeeker]; exact hs) (by rw [hq]; exact hh) ha
  cases left <;>
  · unfold walkProbe
    rw [if_pos (by rw [h1]; exact ha), h1]
    exact ⟨_, rfl⟩

end LA.RA
