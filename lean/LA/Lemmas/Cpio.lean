/- The cpio header writers against the cpio reader's field parsers (C10, C02). Core Lean only. -/
import LA.Lemmas.Bytes
import LA.Lemmas.NumFmt
namespace LA.Codec
open LA.NumFmt LA.Gen.CpioLayout

def cpioFieldW (fmt : Int → Nat → Bool × List Nat) (f : CpioNum) : FieldW := ⟨f.off, f.size, (fmt f.v f.size).2⟩

theorem cpioHeaderBytes_eq (fmt : Int → Nat → Bool × List Nat) (total : Nat) (fs : List CpioNum) :
    cpioHeaderBytes fmt total fs = applyWrites (List.replicate total 0) (fieldWrites (fs.map (cpioFieldW fmt))) := by
  unfold cpioHeaderBytes fieldWrites cpioFieldW
  simp only [List.map_map]
  rfl

structure Layout (total maxw : Nat) (fs : List CpioNum) : Prop where
  inside : ∀ f ∈ fs, f.off + f.size ≤ total
  width : ∀ f ∈ fs, f.size ≤ maxw
  disjoint : fs.Pairwise fun a b => a.off + a.size ≤ b.off ∨ b.off + b.size ≤ a.off
  cover : ∀ i, i < total → ∃ f ∈ fs, f.off ≤ i ∧ i < f.off + f.size

/-- `Layout` as a check on the (offset, width) pairs alone. -/
def cutsOK (total maxw : Nat) (cuts : List (Nat × Nat)) : Bool :=
  cuts.all (fun c => c.1 + c.2 ≤ total && c.2 ≤ maxw) &&
  decide (cuts.Pairwise fun a b => a.1 + a.2 ≤ b.1 ∨ b.1 + b.2 ≤ a.1) &&
  (List.range total).all fun i => cuts.any fun c => c.1 ≤ i && i < c.1 + c.2

theorem Layout.of_cuts {total maxw : Nat} {fs : List CpioNum}
    (h : cutsOK total maxw (fs.map fun f => (f.off, f.size)) = true) : Layout total maxw fs := by
  simp only [cutsOK, Bool.and_eq_true, List.all_eq_true, List.any_eq_true, decide_eq_true_eq, List.mem_map,
    List.mem_range, List.pairwise_map, forall_exists_index, and_imp, forall_apply_eq_imp_iff₂] at h
  obtain ⟨⟨h1, h2⟩, h3⟩ := h
  refine ⟨fun f hf => (h1 f hf).1, fun f hf => (h1 f hf).2, h2, fun i hi => ?_⟩
  obtain ⟨_, ⟨f, hf, rfl⟩, hc⟩ := h3 i hi
  exact ⟨f, hf, hc⟩

section header
variable {fmt : Int → Nat → Bool × List Nat} {total maxw : Nat} {fs : List CpioNum}
  (hlen : ∀ v s, (fmt v s).2.length = s) (L : Layout total maxw fs)
include hlen L

theorem cpioTable : FieldTable (List.replicate total 0) (fs.map (cpioFieldW fmt)) where
  disjoint := List.pairwise_map.2 L.disjoint
  fit := by
    intro g hg
    obtain ⟨f, hf, rfl⟩ := List.mem_map.1 hg
    simp only [cpioFieldW, hlen, List.length_replicate]
    exact ⟨Nat.le_refl _, L.inside f hf⟩

theorem cpioHeaderBytes_length : (cpioHeaderBytes fmt total fs).length = total := by
  rw [cpioHeaderBytes_eq, fieldWrites_length (cpioTable hlen L), List.length_replicate]

theorem cpioHeader_slice (f : CpioNum) (hf : f ∈ fs) :
    slice (cpioHeaderBytes fmt total fs) f.off f.size = (fmt f.v f.size).2 := by
  have := field_read (cpioTable hlen L) (cpioFieldW fmt f) (List.mem_map.2 ⟨f, hf, rfl⟩)
  simp only [cpioFieldW, hlen] at this
  rw [cpioHeaderBytes_eq, this, slice_drop_self, List.append_nil]

theorem cpioHeaderBytes_all (P : Nat → Bool) (hP : ∀ v s, (fmt v s).2.all P = true) :
    (cpioHeaderBytes fmt total fs).all P = true := by
  rw [List.all_eq_true]
  intro c hc
  obtain ⟨i, hi, rfl⟩ := List.mem_iff_getElem.1 hc
  rw [cpioHeaderBytes_length hlen L] at hi
  obtain ⟨f, hf, h1, h2⟩ := L.cover i hi
  have hmem : (cpioHeaderBytes fmt total fs)[i] ∈ slice (cpioHeaderBytes fmt total fs) f.off f.size := by
    unfold slice
    rw [List.mem_iff_getElem]
    have hl := cpioHeaderBytes_length hlen L
    refine ⟨i - f.off, by simp only [List.length_take, List.length_drop]; omega, ?_⟩
    simp only [List.getElem_take, List.getElem_drop]
    congr 1; omega
  rw [cpioHeader_slice hlen L f hf] at hmem
  exact List.all_eq_true.1 (hP f.v f.size) _ hmem

end header

theorem odcFormatOctal_ok_iff (v : Int) (d : Nat) : (odcFormatOctal v d).1 = false ↔ 0 ≤ v ∧ v.toNat < 8 ^ d := by
  rw [odcFormatOctal_eq]; split <;> simp [*]

theorem newcFormatHex_ok_iff (v : Int) (d : Nat) : (newcFormatHex v d).1 = false ↔ 0 ≤ v ∧ v.toNat < 16 ^ d := by
  rw [newcFormatHex_eq]; split <;> simp [*]

theorem odcFormatOctal_length (v : Int) (d : Nat) : (odcFormatOctal v d).2.length = d := by
  rw [odcFormatOctal_eq]; split <;> simp [octHead_length]

theorem newcFormatHex_length (v : Int) (d : Nat) : (newcFormatHex v d).2.length = d := by
  rw [newcFormatHex_eq]; split <;> simp [hexHead_length]

/-- The cpio reader's `atol8` returns what `format_octal` stored without complaint
(field of at most 21 digits: no `uint64_t` wrap). -/
theorem cpioAtol8_odcFormatOctal (v : Int) (d : Nat) (tail : List Nat) (hd : d ≤ 21)
    (hok : (odcFormatOctal v d).1 = false)
    (ht : tail = [] ∨ ∃ c r, tail = c :: r ∧ ¬(c0 ≤ c ∧ c ≤ c7)) :
    ((cpioAtol8 ((odcFormatOctal v d).2 ++ tail) 0 : Nat) : Int) = v := by
  have hfit := (odcFormatOctal_ok_iff v d).1 hok
  rw [odcFormatOctal_eq, if_pos hfit]
  have h1 : 8 ^ d ≤ 8 ^ 21 := Nat.pow_le_pow_right (by decide) hd
  have h2 : (8 : Nat) ^ 21 = 9223372036854775808 := by decide
  rw [cpioAtol8_octHead _ _ _ _ (by rw [Nat.mod_eq_of_lt hfit.2]; omega), cpioAtol8_stop _ _ ht,
    Nat.mod_eq_of_lt hfit.2]
  omega

/-- The cpio reader's `atol16` returns what `format_hex` stored without complaint. -/
theorem cpioAtol16_newcFormatHex (v : Int) (d : Nat) (hd : d ≤ 15) (hok : (newcFormatHex v d).1 = false) :
    ((cpioAtol16 (newcFormatHex v d).2 0 : Nat) : Int) = v := by
  have hfit := (newcFormatHex_ok_iff v d).1 hok
  rw [newcFormatHex_eq, if_pos hfit]
  have h1 : 16 ^ d ≤ 16 ^ 15 := Nat.pow_le_pow_right (by decide) hd
  have h2 : (16 : Nat) ^ 15 = 1152921504606846976 := by decide
  have := cpioAtol16_hexHead v.toNat d 0 [] (by rw [Nat.mod_eq_of_lt hfit.2]; omega)
  rw [List.append_nil] at this
  rw [this, Nat.mod_eq_of_lt hfit.2, cpioAtol16]
  omega

theorem hexHead_all (v s : Nat) : (hexHead v s).all (fun c => (hexVal c).isSome) = true := by
  induction s generalizing v with
  | zero => rfl
  | succ s ih =>
    rw [hexHead_snoc, List.all_append, ih]
    simp only [List.all_cons, List.all_nil, Bool.and_true, Bool.true_and]
    rw [hexVal_hexChar _ (Nat.mod_lt _ (by decide))]; rfl

theorem octHead_all (v s : Nat) : (octHead v s).all (fun c => decide (48 ≤ c ∧ c ≤ 55)) = true := by
  rw [List.all_eq_true]
  intro c hc
  have := octHead_digit v s c hc
  simp only [c0, c7] at this
  simpa using this

/-- `format_hex` (newc) or `format_octal` (odc). -/
def cpioFormat : Bool → Int → Nat → Bool × List Nat
  | true => newcFormatHex
  | false => odcFormatOctal

/-- The widest field whose value cannot wrap the reader's `uint64_t`. -/
def cpioMaxw : Bool → Nat
  | true => 15
  | false => 21

theorem cpioFormat_length (newc : Bool) (v : Int) (d : Nat) : (cpioFormat newc v d).2.length = d := by
  cases newc
  · exact odcFormatOctal_length v d
  · exact newcFormatHex_length v d

/-- The header `write_header` builds from a field list. -/
def cpioHdr (newc : Bool) (fs : List CpioNum) : List Nat := cpioHeaderBytes (cpioFormat newc) (cpioHsz newc) fs

section hdr
variable {newc : Bool} {fs : List CpioNum} (L : Layout (cpioHsz newc) (cpioMaxw newc) fs)
include L

theorem cpioHdr_length : (cpioHdr newc fs).length = cpioHsz newc :=
  cpioHeaderBytes_length (cpioFormat_length newc) L

theorem cpioNum_cpioHdr (hok : ∀ f ∈ fs, (cpioFormat newc f.v f.size).1 = false) (f : CpioNum) (hf : f ∈ fs) :
    ((cpioNum newc (cpioHdr newc fs) f.off f.size : Nat) : Int) = f.v := by
  unfold cpioNum cpioHdr
  rw [cpioHeader_slice (cpioFormat_length newc) L f hf]
  cases newc
  · have := cpioAtol8_odcFormatOctal f.v f.size [] (L.width f hf) (hok f hf) (Or.inl rfl)
    rwa [List.append_nil] at this
  · exact cpioAtol16_newcFormatHex f.v f.size (L.width f hf) (hok f hf)

/-- The header starts with the format's magic (its first field) and passes the reader's digits-only test. -/
theorem cpioMagicOk_cpioHdr (m : CpioNum) (hm : m ∈ fs) (hoff : m.off = 0) (hsz : m.size = 6)
    (hv : (cpioFormat newc m.v 6).2 = if newc then [48, 55, 48, 55, 48, 49] else [48, 55, 48, 55, 48, 55]) :
    cpioMagicOk newc (cpioHdr newc fs) = true := by
  have hs := cpioHeader_slice (cpioFormat_length newc) L m hm
  rw [hoff, hsz, hv] at hs
  have ht : (cpioHdr newc fs).take 6 = slice (cpioHdr newc fs) 0 6 := by simp [slice]
  unfold cpioMagicOk
  rw [ht]
  unfold cpioHdr
  rw [hs]
  cases newc
  · have := cpioHeaderBytes_all (cpioFormat_length false) L (fun c => decide (48 ≤ c ∧ c ≤ 55)) (fun v s => by
      show (odcFormatOctal v s).2.all _ = true
      rw [odcFormatOctal_eq]; split
      · exact octHead_all _ _
      · simp [c7])
    simpa using this
  · have := cpioHeaderBytes_all (cpioFormat_length true) L (fun c => (hexVal c).isSome) (fun v s => by
      show (newcFormatHex v s).2.all _ = true
      rw [newcFormatHex_eq]; split
      · exact hexHead_all _ _
      · simp [hexVal])
    simpa using this

end hdr

/-- Fields folded into the overflow flag did not overflow when the flag is down; the others are
checked one by one. -/
theorem cpioOverflow_false {fmt : Int → Nat → Bool × List Nat} {fs : List CpioNum} (h : cpioOverflow fmt fs = false)
    (hu : ∀ f ∈ fs, f.counted = false → (fmt f.v f.size).1 = false) : ∀ f ∈ fs, (fmt f.v f.size).1 = false := by
  intro f hf
  cases hc : f.counted with
  | false => exact hu f hf hc
  | true =>
    have := List.any_eq_false.1 h f hf
    simpa [hc] using this

theorem odcLayout (e : Entry) (ino pl fsz : Int) : Layout (cpioHsz false) (cpioMaxw false) (odcFields e ino pl fsz) :=
  .of_cuts (by simp only [odcFields, List.map_cons, List.map_nil]; decide +kernel)

/-- `write_header` answered plain ARCHIVE_OK: no field complained, and what it wrote. -/
theorem odcCore_ok (st : WState) (e : Entry) (path : List Nat)
    (hok : (odcWriteHeaderCore st e path).st = .ok) :
    ¬ (synthIno st e).1 > 262143 ∧
    (∀ f ∈ odcFields e (synthIno st e).1 ((path.length : Int) + 1) (cpioFilesize e), (odcFormatOctal f.v f.size).1 = false) ∧
    odcWriteHeaderCore st e path
      = ⟨.ok, cpioHdr false (odcFields e (synthIno st e).1 ((path.length : Int) + 1) (cpioFilesize e)) ++ path ++ [0] ++ e.sym,
         { (synthIno st e).2 with remaining := (cpioSize e).toNat, padding := 0 }⟩ := by
  unfold odcWriteHeaderCore at hok ⊢
  simp only [] at hok ⊢
  by_cases h1 : (synthIno st e).1 > 262143
  · rw [if_pos h1] at hok; cases hok
  rw [if_neg h1] at hok ⊢
  by_cases h2 : (odcFormatOctal ((path.length : Int) + 1) odcw_namesize_size).1 = true
  · rw [if_pos h2] at hok; cases hok
  rw [if_neg h2] at hok ⊢
  by_cases h3 : (odcFormatOctal (cpioFilesize e) odcw_filesize_size).1 = true
  · rw [if_pos h3] at hok; cases hok
  rw [if_neg h3] at hok ⊢
  cases hc : cpioOverflow odcFormatOctal (odcFields e (synthIno st e).1 ((path.length : Int) + 1) (cpioFilesize e)) with
  | true => rw [hc] at hok; cases hok
  | false =>
    refine ⟨h1, cpioOverflow_false hc ?_, rfl⟩
    -- magic, the inode number masked to 18 bits, and the two sizes checked above
    have h18 : (8 : Nat) ^ odcw_ino_size = 262144 := by decide
    have hino : (odcFormatOctal ((synthIno st e).1 % 262144) odcw_ino_size).1 = false :=
      (odcFormatOctal_ok_iff _ _).2 (by omega)
    simp only [odcFields, List.forall_mem_cons, List.not_mem_nil, false_imp_iff, implies_true, and_true,
      true_imp_iff, true_and, Bool.true_eq_false, hino]
    exact ⟨by decide, by simpa using h2, by simpa using h3⟩

def odcRdev (e : Entry) : Int := if e.ftype = .blk ∨ e.ftype = .chr then makedev e.rdevmajor e.rdevminor else 0

/-- The entry `header_odc` builds from an accepted header. -/
def odcRB (e : Entry) (ino : Int) : RB :=
  rbSetMode (rdevSplit { ({} : RB) with
    dev := e.dev, ino := ino % 262144, uid := e.uid, gid := e.gid, nlink := e.nlink.toNat
    mtime := some e.mtime } (odcRdev e).toNat) e.mode

theorem odcParse_hdr (e : Entry) (ino pl fsz : Int)
    (hok : ∀ f ∈ odcFields e ino pl fsz, (odcFormatOctal f.v f.size).1 = false) :
    odcParse (cpioHdr false (odcFields e ino pl fsz)) = (odcRB e ino, pl.toNat, fsz.toNat) := by
  have hx := cpioNum_cpioHdr (odcLayout e ino pl fsz) hok
  generalize cpioHdr false (odcFields e ino pl fsz) = H at hx ⊢
  simp only [odcFields, List.forall_mem_cons, List.not_mem_nil, false_imp_iff, implies_true, and_true] at hx
  obtain ⟨-, h_dev, h_ino, h_mode, h_uid, h_gid, h_nl, h_rdev, h_mt, h_ns, h_fs⟩ := hx
  unfold odcParse odcRB
  simp only []
  -- the reader's offsets are the writer's
  rw [show ((cpioNum false H odcr_dev_offset odcr_dev_size : Nat) : Int) = _ from h_dev,
    show ((cpioNum false H odcr_ino_offset odcr_ino_size : Nat) : Int) = _ from h_ino,
    show ((cpioNum false H odcr_uid_offset odcr_uid_size : Nat) : Int) = _ from h_uid,
    show ((cpioNum false H odcr_gid_offset odcr_gid_size : Nat) : Int) = _ from h_gid,
    show ((cpioNum false H odcr_mtime_offset odcr_mtime_size : Nat) : Int) = _ from h_mt,
    show cpioNum false H odcr_mode_offset odcr_mode_size = e.mode from Int.ofNat_inj.1 h_mode,
    show cpioNum false H odcr_nlink_offset odcr_nlink_size = e.nlink.toNat from congrArg Int.toNat h_nl,
    show cpioNum false H odcr_rdev_offset odcr_rdev_size = (odcRdev e).toNat from congrArg Int.toNat h_rdev,
    show cpioNum false H odcr_namesize_offset odcr_namesize_size = pl.toNat from congrArg Int.toNat h_ns,
    show cpioNum false H odcr_filesize_offset odcr_filesize_size = fsz.toNat from congrArg Int.toNat h_fs]

theorem newcLayout (e : Entry) (dM dm pl fsz : Int) :
    Layout (cpioHsz true) (cpioMaxw true) (newcFields e dM dm pl fsz) :=
  .of_cuts (by simp only [newcFields, List.map_cons, List.map_nil]; decide +kernel)

/-- `write_header` answered plain ARCHIVE_OK: no field complained, and what it wrote.
`hpl`: the C keeps the name length in an `int`. -/
theorem newcCore_ok (st : WState) (e : Entry) (path : List Nat) (dM dm : Int) (hpl : path.length < 2147483647)
    (hok : (newcWriteHeaderCore st e path dM dm).st = .ok) :
    (∀ f ∈ newcFields e dM dm ((path.length : Int) + 1) (cpioFilesize e), (newcFormatHex f.v f.size).1 = false) ∧
    newcWriteHeaderCore st e path dM dm
      = ⟨.ok, cpioHdr true (newcFields e dM dm ((path.length : Int) + 1) (cpioFilesize e)) ++ path ++ [0]
          ++ List.replicate (pad4 (path.length + 1 + newcr_header_size)) 0
          ++ (if e.sym ≠ [] then e.sym ++ List.replicate (pad4 e.sym.length) 0 else []),
         { st with remaining := (cpioSize e).toNat, padding := pad4 (cpioSize e).toNat }⟩ := by
  unfold newcWriteHeaderCore at hok ⊢
  simp only [] at hok ⊢
  by_cases h3 : (newcFormatHex (cpioFilesize e) newcw_filesize_size).1 = true
  · rw [if_pos h3] at hok; cases hok
  rw [if_neg h3] at hok ⊢
  cases hc : cpioOverflow newcFormatHex (newcFields e dM dm ((path.length : Int) + 1) (cpioFilesize e)) with
  | true => rw [hc] at hok; cases hok
  | false =>
    rw [hc] at hok
    by_cases hi : e.ino > 4294967295
    · simp only [Bool.false_or, decide_eq_true_eq, if_pos hi] at hok; cases hok
    refine ⟨cpioOverflow_false hc ?_, by simp only [Bool.false_or, decide_eq_true_eq, if_neg hi]; rfl⟩
    -- magic, the inode number masked to 32 bits, the name length, the zero checksum, the size checked above
    have h32 : (16 : Nat) ^ 8 = 4294967296 := by decide
    have hino : (newcFormatHex (e.ino % 4294967296) newcw_ino_size).1 = false :=
      (newcFormatHex_ok_iff _ _).2 (by simp only [newcw_ino_size]; omega)
    have hns : (newcFormatHex ((path.length : Int) + 1) newcw_namesize_size).1 = false :=
      (newcFormatHex_ok_iff _ _).2 (by simp only [newcw_namesize_size]; omega)
    simp only [newcFields, List.forall_mem_cons, List.not_mem_nil, false_imp_iff, implies_true, and_true,
      true_imp_iff, true_and, Bool.true_eq_false, hino, hns]
    exact ⟨by decide, by decide, by simpa using h3⟩

/-- The entry `header_newc` builds from an accepted header. -/
def newcRB (e : Entry) (dM dm : Int) : RB :=
  rbSetMode { ({} : RB) with
    dev := makedev dM dm, ino := e.ino % 4294967296, uid := e.uid, gid := e.gid, nlink := e.nlink.toNat
    rdevmajor := if e.ftype = .blk ∨ e.ftype = .chr then e.rdevmajor else 0
    rdevminor := if e.ftype = .blk ∨ e.ftype = .chr then e.rdevminor else 0
    mtime := some e.mtime } e.mode

theorem newcParse_hdr (e : Entry) (dM dm pl fsz : Int)
    (hok : ∀ f ∈ newcFields e dM dm pl fsz, (newcFormatHex f.v f.size).1 = false) :
    newcParse (cpioHdr true (newcFields e dM dm pl fsz)) = (newcRB e dM dm, pl.toNat, fsz.toNat) := by
  have hx := cpioNum_cpioHdr (newcLayout e dM dm pl fsz) hok
  generalize cpioHdr true (newcFields e dM dm pl fsz) = H at hx ⊢
  simp only [newcFields, List.forall_mem_cons, List.not_mem_nil, false_imp_iff, implies_true, and_true,
    decide_eq_true_eq] at hx
  obtain ⟨-, h_dM, h_dm, h_ino, h_mode, h_uid, h_gid, h_nl, h_rM, h_rm, h_mt, h_ns, -, h_fs⟩ := hx
  unfold newcParse newcRB
  simp only []
  -- the reader's offsets are the writer's
  rw [show ((cpioNum true H newcr_devmajor_offset newcr_devmajor_size : Nat) : Int) = dM from h_dM,
    show ((cpioNum true H newcr_devminor_offset newcr_devminor_size : Nat) : Int) = dm from h_dm,
    show ((cpioNum true H newcr_ino_offset newcr_ino_size : Nat) : Int) = _ from h_ino,
    show ((cpioNum true H newcr_uid_offset newcr_uid_size : Nat) : Int) = _ from h_uid,
    show ((cpioNum true H newcr_gid_offset newcr_gid_size : Nat) : Int) = _ from h_gid,
    show ((cpioNum true H newcr_rdevmajor_offset newcr_rdevmajor_size : Nat) : Int) = _ from h_rM,
    show ((cpioNum true H newcr_rdevminor_offset newcr_rdevminor_size : Nat) : Int) = _ from h_rm,
    show ((cpioNum true H newcr_mtime_offset newcr_mtime_size : Nat) : Int) = _ from h_mt,
    show cpioNum true H newcr_mode_offset newcr_mode_size = e.mode from Int.ofNat_inj.1 h_mode,
    show cpioNum true H newcr_nlink_offset newcr_nlink_size = e.nlink.toNat from congrArg Int.toNat h_nl,
    show cpioNum true H newcr_namesize_offset newcr_namesize_size = pl.toNat from congrArg Int.toNat h_ns,
    show cpioNum true H newcr_filesize_offset newcr_filesize_size = fsz.toNat from congrArg Int.toNat h_fs]

end LA.Codec
