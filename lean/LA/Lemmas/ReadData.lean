/-
Specification of `archive_read_data` over block scripts and the simulation
lemmas that tie `LA.RD.readLoop` to it (used by `LA.Props.C06`).

`image pos bl t` is what a reader that is at output offset `pos` still has to
deliver for the block list `bl` and the end offset `t` reported with EOF: every
hole zero-filled, up to the first block whose offset lies below the cursor
(`Ending.disorder`) or to the end (`Ending.eof`).
-/
import LA.Model.ReadData
namespace LA.RD

abbrev Block := Int × List Nat

/-- A well-behaved `read_data` result: ARCHIVE_OK with a block stored. -/
def evOfBlock (b : Block) : Ev := { st := .ok, out := some b }

def zeros (n : Nat) : List Nat := List.replicate n 0

@[simp] theorem zeros_length (n : Nat) : (zeros n).length = n := by simp [zeros]

inductive Ending | eof | disorder
  deriving DecidableEq, Repr

def image (pos : Int) : List Block → Option Int → List Nat × Ending
  | [], t => (zeros ((t.getD pos) - pos).toNat, .eof)
  | (o, bs) :: r, t =>
    if o < pos then ([], .disorder)
    else
      let x := image (o + bs.length) r t
      (zeros (o - pos).toNat ++ bs ++ x.1, x.2)

def endCursor (pos : Int) : List Block → Int
  | [] => pos
  | (o, bs) :: r => endCursor (o + bs.length) r

def Ordered (pos : Int) : List Block → Prop
  | [] => True
  | (o, bs) :: r => pos ≤ o ∧ Ordered (o + bs.length) r

theorem image_eof_iff (pos : Int) (bl : List Block) (t : Option Int) :
    (image pos bl t).2 = .eof ↔ Ordered pos bl := by
  induction bl generalizing pos with
  | nil => simp [image, Ordered]
  | cons b r ih =>
    obtain ⟨o, bs⟩ := b
    unfold image Ordered
    by_cases h : o < pos
    · simp [h]; omega
    · simp only [h, if_false]
      rw [ih]
      constructor
      · intro x; exact ⟨by omega, x⟩
      · intro x; exact x.2

/-- What the handle still has to deliver, as seen from its `read_data_*` members
and the blocks `bl` its format will still produce. -/
def pend (h : H) (bl : List Block) : List Nat × Ending :=
  if h.rd.off < h.rd.outOff then ([], .disorder)
  else
    let x := image (h.rd.off + h.rd.blk.length) bl h.term.off
    (zeros (h.rd.off - h.rd.outOff).toNat ++ h.rd.blk ++ x.1, x.2)

/-- The handle is inside the body of an entry whose remaining script is the
error-free block list `bl` followed by EOF, and the end offset reported with
EOF (if any) is not before the end of the data. -/
structure Inv (h : H) (bl : List Block) : Prop where
  st : h.state = .data
  evs : h.evs = bl.map evOfBlock
  term : h.term.st = .eof
  endOk : ∀ t, h.term.off = some t → endCursor (h.rd.off + h.rd.blk.length) bl ≤ t

theorem padLen_spec (rd : RDState) (s : Nat) (h : ¬ rd.off < rd.outOff) :
    padLen rd s ≤ s ∧ (padLen rd s : Int) ≤ rd.off - rd.outOff ∧
    (padLen rd s < s → rd.off = rd.outOff + (padLen rd s : Int)) := by
  unfold padLen
  split
  · omega
  · split <;> omega

structure Took (h : H) (bl : List Block) (h' : H) (bl' : List Block) (out : List Nat) : Prop where
  inv : Inv h' bl'
  pend : pend h bl = (out ++ (pend h' bl').1, (pend h' bl').2)

theorem Took.trans {h h1 h2 : H} {bl bl1 bl2 : List Block} {o1 o2 : List Nat} (t1 : Took h bl h1 bl1 o1)
    (t2 : Took h1 bl1 h2 bl2 o2) : Took h bl h2 bl2 (o1 ++ o2) :=
  ⟨t2.inv, by rw [t1.pend, t2.pend, List.append_assoc]⟩

/-- "Add zeroes": `n` bytes of the hole in front of the current block. -/
theorem took_pad {h : H} {bl : List Block} (hi : Inv h bl) {n : Nat} (hn : (n : Int) ≤ h.rd.off - h.rd.outOff) :
    Took h bl { h with rd := { h.rd with outOff := h.rd.outOff + (n : Int) } } bl (zeros n) := by
  refine ⟨⟨hi.st, hi.evs, hi.term, hi.endOk⟩, ?_⟩
  have hg : (h.rd.off - h.rd.outOff).toNat = n + (h.rd.off - (h.rd.outOff + (n : Int))).toNat := by omega
  simp only [pend]
  rw [if_neg (by omega), if_neg (by omega), hg]
  simp only [zeros, ← List.replicate_append_replicate, List.append_assoc]

/-- "Copy data": with no hole in front, `n` bytes of the current block. -/
theorem took_copy {h : H} {bl : List Block} (hi : Inv h bl) (h0 : h.rd.off = h.rd.outOff) {n : Nat}
    (hn : n ≤ h.rd.blk.length) :
    Took h bl { h with rd := { h.rd with blk := h.rd.blk.drop n, outOff := h.rd.outOff + (n : Int),
                                         off := h.rd.off + (n : Int) } } bl (h.rd.blk.take n) := by
  have hc : h.rd.off + (n : Int) + ((h.rd.blk.drop n).length : Int) = h.rd.off + (h.rd.blk.length : Int) := by
    rw [List.length_drop]; omega
  refine ⟨⟨hi.st, hi.evs, hi.term, fun t ht => hc ▸ hi.endOk t ht⟩, ?_⟩
  have e1 : (h.rd.off - h.rd.outOff).toNat = 0 := by omega
  have e2 : (h.rd.off + (n : Int) - (h.rd.outOff + (n : Int))).toNat = 0 := by omega
  simp only [pend]
  rw [if_neg (by omega), if_neg (by omega), hc, e1, e2, zeros, List.replicate_zero, List.nil_append, List.nil_append,
    ← List.append_assoc, List.take_append_drop]

/-- The second half of a pass: ARCHIVE_RETRY if the block in hand lies below the output offset;
otherwise the hole in front of it, then the block itself, as far as the buffer goes. -/
theorem padCopy_spec {h : H} {bl : List Block} (hi : Inv h bl) (s : Nat) (acc : List Nat) :
    (padCopy h s acc = .done (.err .retry acc) h ∧ pend h bl = ([], .disorder)) ∨
    (∃ h' s' out, padCopy h s acc = .more h' s' (acc ++ out) ∧ out.length + s' = s ∧ Took h bl h' bl out) := by
  unfold padCopy
  by_cases hlt : h.rd.off < h.rd.outOff
  · exact .inl ⟨if_pos hlt, by unfold pend; rw [if_pos hlt]⟩
  · obtain ⟨hp1, hp2, hp3⟩ := padLen_spec h.rd s hlt
    have t1 := took_pad hi hp2
    right
    rw [if_neg hlt]
    simp only []
    by_cases h1 : s - padLen h.rd s > 0
    · rw [if_pos h1]
      generalize hj : Nat.min h.rd.blk.length (s - padLen h.rd s) = j
      have hj1 : j ≤ h.rd.blk.length := hj ▸ Nat.min_le_left _ _
      have hj2 : j ≤ s - padLen h.rd s := hj ▸ Nat.min_le_right _ _
      have t2 := took_copy t1.inv (n := j) (hp3 (by omega)) hj1
      refine ⟨_, _, _, by rw [List.append_assoc]; rfl, ?_, t1.trans t2⟩
      rw [List.length_append, zeros_length, List.length_take, Nat.min_eq_left hj1]
      omega
    · exact ⟨_, _, _, by rw [if_neg h1]; rfl, by rw [zeros_length]; omega, t1⟩

/-- The call of the format's `read_data` when nothing is in hand: end of data (with the end offset,
if one is reported, as an empty block there), or the next block. -/
theorem fetch_spec {h : H} {bl : List Block} (hi : Inv h bl)
    (hc : h.rd.off = h.rd.outOff ∧ h.rd.blk = []) (s : Nat) :
    (bl = [] ∧ ∃ h2, fetch h s = (.eof, h2) ∧ Took h [] h2 [] [] ∧ h2.rd.outOff ≤ h2.rd.off ∧
        pend h2 [] = (zeros (h2.rd.off - h2.rd.outOff).toNat, .eof)) ∨
    (∃ b r, bl = b :: r ∧ ∃ h2, fetch h s = (.ok, h2) ∧ Took h bl h2 r []) := by
  obtain ⟨hc1, hc2⟩ := hc
  have hn : ¬ h.rd.outOff < h.rd.outOff := Int.lt_irrefl _
  cases bl with
  | nil =>
    refine .inl ⟨rfl, ?_⟩
    have hev : h.evs = [] := hi.evs
    cases hto : h.term.off with
    | none =>
      refine ⟨{ h with rd := { h.rd with posix := true, requested := s } }, ?_,
        ⟨⟨hi.st, hi.evs, hi.term, hi.endOk⟩, rfl⟩, Int.le_of_eq hc1.symm, ?_⟩
      · simp [fetch, dataBlock, hi.st, hev, hi.term, TSt.toSt, hto, store]
      · simp [pend, hn, image, hto, hc2, hc1, zeros]
    | some t =>
      have hle := hi.endOk t hto
      simp only [endCursor, hc2, List.length_nil] at hle
      have hn1 : ¬ t < h.rd.outOff := by omega
      refine ⟨{ h with rd := { h.rd with posix := true, requested := s, off := t, blk := [] } }, ?_,
        ⟨⟨hi.st, hi.evs, hi.term, ?_⟩, ?_⟩, by show h.rd.outOff ≤ t; omega, ?_⟩
      · simp [fetch, dataBlock, hi.st, hev, hi.term, TSt.toSt, hto, store]
      · intro t' ht'
        obtain rfl : t = t' := Option.some.inj (hto.symm.trans ht')
        simp [endCursor]
      · simp [pend, hn1, hn, image, hto, hc2, hc1, zeros]
      · simp [pend, hn1, image, hto, zeros]
  | cons b r =>
    obtain ⟨o, bs⟩ := b
    have hev : h.evs = evOfBlock (o, bs) :: r.map evOfBlock := hi.evs
    refine .inr ⟨(o, bs), r, rfl, ?_⟩
    refine ⟨{ h with rd := { h.rd with posix := true, requested := s, off := o, blk := bs },
                     evs := r.map evOfBlock, evpos := h.evpos + 1 }, ?_, ⟨hi.st, rfl, hi.term, ?_⟩, ?_⟩
    · simp [fetch, dataBlock, hi.st, hev, evOfBlock, store]
    · intro t ht
      simpa [endCursor, hc2] using hi.endOk t ht
    · by_cases hlt : o < h.rd.outOff <;> simp [pend, hlt, hn, image, hc2, hc1, zeros]

theorem step_spec {h : H} {bl : List Block} (hi : Inv h bl) (s : Nat) (acc : List Nat) :
    (∃ h' bl' e, step h s acc = .done (if e = .eof then .ok acc else .err .retry acc) h' ∧ Took h bl h' bl' [] ∧
        pend h' bl' = ([], e)) ∨
    (∃ h' s' out bl', step h s acc = .more h' s' (acc ++ out) ∧ out.length + s' = s ∧ Took h bl h' bl' out) := by
  -- the second half, entered from a handle `g` reached without delivering anything
  have pc : ∀ g bl', Took h bl g bl' [] →
      (∃ h' bl' e, padCopy g s acc = .done (if e = .eof then .ok acc else .err .retry acc) h' ∧ Took h bl h' bl' [] ∧
        pend h' bl' = ([], e)) ∨
      (∃ h' s' out bl', padCopy g s acc = .more h' s' (acc ++ out) ∧ out.length + s' = s ∧ Took h bl h' bl' out) := by
    intro g bl' tg
    rcases padCopy_spec tg.inv s acc with ⟨he, hd⟩ | ⟨h', s', out, he, hl, t⟩
    · exact .inl ⟨g, bl', .disorder, he, tg, hd⟩
    · exact .inr ⟨h', s', out, bl', he, hl, tg.trans t⟩
  unfold step
  by_cases hc : h.rd.off = h.rd.outOff ∧ h.rd.blk = []
  · rw [if_pos hc]
    rcases fetch_spec hi hc s with ⟨rfl, h2, hf, t2, hge, hz⟩ | ⟨b, r, rfl, h2, hf, t2⟩
    · rw [hf]
      by_cases hle : h2.rd.off ≤ h2.rd.outOff
      · have : (h2.rd.off - h2.rd.outOff).toNat = 0 := by omega
        rw [this] at hz
        exact .inl ⟨h2, [], .eof, if_pos hle, t2, hz⟩
      · simp only [hle, if_false]
        exact pc h2 [] t2
    · rw [hf]
      exact pc h2 r t2
  · rw [if_neg hc]
    exact pc h bl ⟨hi, rfl⟩

/-- **Exact behaviour of `archive_read_data` on an error-free script.**  With
`(P, e) = pend h bl`: the call delivers the next `s` bytes of `P`; if `P` runs out
first it returns what is left (short count, end of data) when the blocks are in
order, and ARCHIVE_RETRY when a block lies below the output offset. -/
theorem readLoop_spec (h : H) (s : Nat) (acc : List Nat) (bl : List Block) (hi : Inv h bl) :
    ∃ h' bl', Inv h' bl' ∧
      readLoop h s acc =
        ((if s ≤ (pend h bl).1.length ∨ (pend h bl).2 = .eof then Ret.ok (acc ++ (pend h bl).1.take s)
          else Ret.err .retry (acc ++ (pend h bl).1)), h') ∧
      pend h' bl' = ((pend h bl).1.drop s, (pend h bl).2) := by
  fun_induction readLoop h s acc generalizing bl with
  | case1 h acc =>
    exact ⟨{ h with rd := { h.rd with posix := false, requested := 0 } }, bl, ⟨hi.st, hi.evs, hi.term, hi.endOk⟩,
      by rw [if_pos (.inl (Nat.zero_le _)), List.take_zero, List.append_nil], rfl⟩
  | case2 h s acc hs r h' hst =>
    rcases step_spec hi s acc with ⟨g, bl', e, he, t, hp⟩ | ⟨g, s', out, bl', he, _⟩
    · obtain ⟨rfl, rfl⟩ := Step.done.inj (hst.symm.trans he)
      refine ⟨_, bl', t.inv, ?_, by rw [t.pend, hp]; simp only [List.nil_append, List.drop_nil]⟩
      rw [t.pend, hp]
      simp only [List.append_nil, List.length_nil, List.take_nil, Nat.le_zero, hs, false_or]
    · rw [hst] at he; cases he
  | case3 h s acc hs h' s' acc' hst ih =>
    rcases step_spec hi s acc with ⟨g, bl', e, he, _⟩ | ⟨g, s'', out, bl', he, hl, t⟩
    · rw [hst] at he; cases he
    · obtain ⟨rfl, rfl, rfl⟩ := Step.more.inj (hst.symm.trans he)
      obtain ⟨h'', bl'', hi'', hr, hp''⟩ := ih bl' t.inv
      subst hl
      refine ⟨h'', bl'', hi'', ?_, ?_⟩
      · rw [hr, t.pend]
        simp only [List.length_append, Nat.add_le_add_iff_left, List.take_length_add_append, List.append_assoc]
      · rw [hp'', t.pend]
        simp only [List.drop_length_add_append]

end LA.RD
