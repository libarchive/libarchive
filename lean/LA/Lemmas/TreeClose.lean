/-
C12: the fix-up loop of `_archive_write_disk_close` (`closeDisk`).

* `fixup_order`: a directory's fix-up is applied after the fix-ups of all its descendants.
* `closeDisk_spec`: on a `CloseReady` state the loop keeps every name, leaves the
  non-directories alone and gives each directory with a fix-up exactly that fix-up's
  mode / mtime (for root and non-root callers).
-/
import LA.Lemmas.TreeFS
namespace LA.Tree

def modAt (fs : FS) (p : Path) (g : FNode → FNode) : FS :=
  fs.map fun x => if x.1 = p then (x.1, g x.2) else x

theorem modAt_names (fs : FS) (p : Path) (g : FNode → FNode) :
    (modAt fs p g).map (·.1) = fs.map (·.1) :=
  map_keeps_names fs _ fun x => by split <;> rfl

theorem lookup_modAt (fs : FS) (p : Path) (g : FNode → FNode) (q : Path) :
    (modAt fs p g).lookup q = if p = q then (fs.lookup q).map g else fs.lookup q := by
  induction fs with
  | nil => simp [modAt, lookup_nil]
  | cons x fs ih =>
    have hc : modAt (x :: fs) p g = (if x.1 = p then (x.1, g x.2) else x) :: modAt fs p g := rfl
    rw [hc, lookup_cons, lookup_cons, ih]
    by_cases haq : x.1 = q
    · subst haq
      by_cases hap : x.1 = p
      · simp [hap]
      · simp [hap, Ne.symm hap]
    · by_cases hap : x.1 = p
      · subst hap; simp [haq]
      · simp [hap, haq]

theorem mem_modAt {fs : FS} {p : Path} {g : FNode → FNode} {q : Path} {n' : FNode}
    (h : (q, n') ∈ modAt fs p g) : ∃ n, (q, n) ∈ fs ∧ (n' = n ∨ n' = g n) := by
  unfold modAt at h
  obtain ⟨⟨a, m⟩, hm, he⟩ := List.mem_map.mp h
  by_cases hap : a = p
  · simp only [hap, if_true] at he
    cases he
    exact ⟨m, hap ▸ hm, Or.inr rfl⟩
  · simp only [hap, if_false] at he
    cases he
    exact ⟨_, hm, Or.inl rfl⟩

theorem modAt_id (fs : FS) (p : Path) (g : FNode → FNode) (hg : ∀ n, g n = n) :
    modAt fs p g = fs :=
  (List.map_congr_left fun x _ => by simp [hg]).trans (List.map_id fs)

/-- The part of `CloseReady` that makes `FS.update ino` change exactly one directory. -/
structure Good (fs : FS) : Prop where
  nodupPaths : (fs.map (·.1)).Nodup
  dirInoUnique : ∀ p n q m, (p, n) ∈ fs → (q, m) ∈ fs → n.kind = .dir → n.ino = m.ino → p = q

theorem Good.modAt {fs : FS} (h : Good fs) (p : Path) (g : FNode → FNode)
    (hg : ∀ n, (g n).ino = n.ino ∧ (g n).kind = n.kind) : Good (modAt fs p g) := by
  refine ⟨by rw [modAt_names]; exact h.nodupPaths, ?_⟩
  intro a n b m ha hb hk hi
  obtain ⟨n0, hn0, hn⟩ := mem_modAt ha
  obtain ⟨m0, hm0, hm⟩ := mem_modAt hb
  have h1 : n.ino = n0.ino ∧ n.kind = n0.kind := by
    rcases hn with e | e
    · rw [e]; exact ⟨rfl, rfl⟩
    · rw [e]; exact hg n0
  have h2 : m.ino = m0.ino := by
    rcases hm with e | e
    · rw [e]
    · rw [e]; exact (hg m0).1
  exact h.dirInoUnique a n0 b m0 hn0 hm0 (h1.2 ▸ hk) (by rw [← h1.1, hi, h2])

theorem update_eq_modAt {fs : FS} (h : Good fs) {p : Path} {n : FNode}
    (hl : fs.lookup p = some n) (hk : n.kind = .dir) (g : FNode → FNode) :
    fs.update n.ino g = modAt fs p g := by
  unfold FS.update modAt
  apply List.map_congr_left
  rintro ⟨a, m⟩ hx
  have hpn := lookup_some_mem hl
  by_cases hap : a = p
  · subst hap
    have : fs.lookup a = some m := lookup_mem_nodup h.nodupPaths hx
    rw [hl] at this
    cases this
    simp
  · have hne : ¬ m.ino = n.ino := by
      intro e
      exact hap (h.dirInoUnique p n a m hpn hx hk e.symm).symm
    simp [hap, hne]

theorem update_update (fs : FS) (i : Nat) (g1 g2 : FNode → FNode) (hg : ∀ x, (g1 x).ino = x.ino) :
    (fs.update i g1).update i g2 = fs.update i fun x => g2 (g1 x) := by
  unfold FS.update
  rw [List.map_map]
  apply List.map_congr_left
  rintro ⟨a, m⟩ _
  by_cases h : m.ino = i
  · simp [h, hg]
  · simp [h]

/-- What a fix-up does to its directory. -/
def fixNode (f : Fixup) (n : FNode) : FNode :=
  { n with mode := if f.doMode then f.mode &&& 0o7777 else n.mode,
           mtime := if f.doTimes then some f.mtime else n.mtime }

/-- The intended effect of one fix-up. -/
def setAt (fs : FS) (f : Fixup) : FS := modAt fs f.path (fixNode f)

theorem applyFixup_eq (o : Opts) {fs : FS} (h : Good fs) (f : Fixup) {n : FNode}
    (hl : fs.lookup f.path = some n) (hk : n.kind = .dir) (hr : fs.reach o.root f.path = true) :
    applyFixup o fs f = setAt fs f := by
  unfold applyFixup setAt
  rw [hl]
  simp only [hk, hr, beq_self_eq_true, Bool.and_self, if_true]
  cases hT : f.doTimes <;> cases hM : f.doMode
  · simp only [Bool.false_eq_true, if_false]
    rw [modAt_id]
    intro x
    simp [fixNode, hT, hM]
  · simp only [Bool.false_eq_true, if_false, if_true]
    rw [update_eq_modAt h hl hk]
    congr 1
    funext x
    simp [fixNode, hT, hM]
  · simp only [Bool.false_eq_true, if_false, if_true]
    rw [update_eq_modAt h hl hk]
    congr 1
    funext x
    simp [fixNode, hT, hM]
  · simp only [if_true]
    rw [update_update, update_eq_modAt h hl hk]
    · congr 1
      funext x
      simp [fixNode, hT, hM]
    · intro x; rfl

theorem Good.foldl_setAt {fs : FS} (h : Good fs) (l : List Fixup) : Good (l.foldl setAt fs) := by
  induction l generalizing fs with
  | nil => exact h
  | cons a l ih => exact ih (h.modAt a.path (fixNode a) fun _ => ⟨rfl, rfl⟩)

theorem foldl_setAt_names (fs : FS) (l : List Fixup) :
    (l.foldl setAt fs).map (·.1) = fs.map (·.1) := by
  induction l generalizing fs with
  | nil => rfl
  | cons a l ih => rw [List.foldl_cons, ih, setAt, modAt_names]

theorem foldl_setAt_lookup_other (fs : FS) (l : List Fixup) (p : Path)
    (h : ∀ g ∈ l, g.path ≠ p) : (l.foldl setAt fs).lookup p = fs.lookup p := by
  induction l generalizing fs with
  | nil => rfl
  | cons a l ih =>
    rw [List.foldl_cons, ih _ (fun g hg => h g (List.mem_cons_of_mem _ hg)), setAt, lookup_modAt,
      if_neg (h a List.mem_cons_self)]

theorem foldl_setAt_lookup_self (fs : FS) (l : List Fixup) (hn : (l.map (·.path)).Nodup)
    (g : Fixup) (hg : g ∈ l) :
    (l.foldl setAt fs).lookup g.path = (fs.lookup g.path).map (fixNode g) := by
  induction l generalizing fs with
  | nil => cases hg
  | cons a l ih =>
    rw [List.map_cons, List.nodup_cons] at hn
    rw [List.foldl_cons]
    rcases List.mem_cons.mp hg with e | hg'
    · subst e
      rw [foldl_setAt_lookup_other, setAt, lookup_modAt, if_pos rfl]
      intro b hb e
      exact hn.1 (List.mem_map.mpr ⟨b, hb, e⟩)
    · rw [ih _ hn.2 hg', setAt, lookup_modAt, if_neg]
      intro e
      exact hn.1 (List.mem_map.mpr ⟨g, hg', e.symm⟩)

theorem path_split (p : Path) (k : Nat) (hk : k < p.length) :
    p = p.take k ++ p[k] :: p.drop (k + 1) := by
  rw [← List.drop_eq_getElem_cons hk, List.take_append_drop]

theorem foldl_applyFixup_eq (o : Opts) (fs0 : FS) (l : List Fixup) (h : CloseReady o fs0 l) :
    ∀ (todo done : List Fixup), sortDir l = done ++ todo →
      todo.foldl (applyFixup o) (done.foldl setAt fs0) = todo.foldl setAt (done.foldl setAt fs0) := by
  intro todo
  induction todo with
  | nil => intro done _; rfl
  | cons f todo ih =>
    intro done hs
    have hgood : Good (done.foldl setAt fs0) :=
      Good.foldl_setAt ⟨h.nodupPaths, h.dirInoUnique⟩ done
    have hnd : ((done ++ f :: todo).map (·.path)).Nodup := hs ▸ sortDir_nodup l h.fxNodup
    have hfl : f ∈ l := (sortDir_mem l f).mp (by rw [hs]; simp)
    -- `f` has not been processed yet
    have hfresh : ∀ g ∈ done, g.path ≠ f.path := by
      intro g hg e
      rw [List.map_append, List.map_cons] at hnd
      exact (List.nodup_append.mp hnd).2.2 g.path (List.mem_map.mpr ⟨g, hg, rfl⟩) f.path
        List.mem_cons_self e
    obtain ⟨n, hn, hnk⟩ := h.fxDirs f hfl
    have hl : (done.foldl setAt fs0).lookup f.path = some n := by
      rw [foldl_setAt_lookup_other _ _ _ hfresh, hn]
    -- no ancestor of `f` has been processed yet
    have hanc : ∀ k, k < f.path.length → ∀ g ∈ done, g.path ≠ f.path.take k := by
      intro k hk g hg e
      obtain ⟨a, b, hab⟩ := List.append_of_mem hg
      have hs' : sortDir l = a ++ g :: (b ++ f :: todo) := by rw [hs, hab]; simp
      have hsplit : f.path = g.path ++ f.path[k] :: f.path.drop (k + 1) := by
        rw [e]; exact path_split f.path k hk
      exact sortDir_descendants_first l a (b ++ f :: todo) g f hs' _ _ hsplit (by simp)
    have hr : (done.foldl setAt fs0).reach o.root f.path = true := by
      apply reach_of_prefixes
      intro k hk
      obtain ⟨d, hd, hdk⟩ := prefix_dirs h.prefixClosed k hn hnk
      exact ⟨d, by rw [foldl_setAt_lookup_other _ _ _ (hanc k hk), hd], hdk,
        h.dirsOpen _ d (lookup_some_mem hd) hdk⟩
    rw [List.foldl_cons, List.foldl_cons, applyFixup_eq o hgood f hl hnk hr]
    have := ih (done ++ [f]) (by rw [hs]; simp)
    simpa [List.foldl_append] using this

theorem closeDisk_eq (o : Opts) (w : WD) (h : CloseReady o w.fs w.fixups) :
    closeDisk o w = (sortDir w.fixups).foldl setAt w.fs :=
  foldl_applyFixup_eq o w.fs w.fixups h (sortDir w.fixups) [] rfl

/-- The fix-up loop keeps all names, leaves non-directories alone, and gives every directory
that has a fix-up exactly the mode / mtime of that fix-up (a path without fix-up stays as it is),
provided the state left by the entries is `CloseReady`.  This holds for root and non-root:
when the fix-up of a directory runs, none of its ancestors has been fixed up yet (sorted order),
so they are all still searchable. -/
theorem closeDisk_spec (o : Opts) (w : WD) (h : CloseReady o w.fs w.fixups) :
    (closeDisk o w).map (·.1) = w.fs.map (·.1) ∧
    (∀ p, (∀ f ∈ w.fixups, f.path ≠ p) → (closeDisk o w).lookup p = w.fs.lookup p) ∧
    (∀ p n, w.fs.lookup p = some n → n.kind ≠ .dir → (closeDisk o w).lookup p = some n) ∧
    (∀ f ∈ w.fixups, (closeDisk o w).lookup f.path = (w.fs.lookup f.path).map (fixNode f)) := by
  rw [closeDisk_eq o w h]
  have hother : ∀ p, (∀ f ∈ w.fixups, f.path ≠ p) →
      ((sortDir w.fixups).foldl setAt w.fs).lookup p = w.fs.lookup p := fun p hp =>
    foldl_setAt_lookup_other _ _ _ fun g hg => hp g ((sortDir_mem _ g).mp hg)
  refine ⟨foldl_setAt_names _ _, hother, fun p n hl hk => ?_, fun f hf => ?_⟩
  · rw [hother p, hl]
    intro g hg e
    obtain ⟨m, hm, hmk⟩ := h.fxDirs g hg
    rw [e, hl] at hm
    exact hk (Option.some.inj hm ▸ hmk)
  · exact foldl_setAt_lookup_self _ _ (sortDir_nodup w.fixups h.fxNodup) f ((sortDir_mem _ f).mpr hf)

/-- In the order in which `_archive_write_disk_close` applies the fix-ups, the fix-up of a
directory comes strictly after the fix-up of each of its descendants. -/
theorem fixup_order (l : List Fixup) (f g : Fixup) (hf : f ∈ l) (hg : g ∈ l)
    (n : Name) (r : Path) (hd : g.path = f.path ++ n :: r) :
    ∃ a b c, sortDir l = a ++ g :: b ++ f :: c := by
  obtain ⟨pre, post, hs⟩ := List.append_of_mem ((sortDir_mem l f).mpr hf)
  have hnp : g ∉ post := sortDir_descendants_first l pre post f g hs n r hd
  have hne : g ≠ f := by
    intro e
    rw [e] at hd
    have := congrArg List.length hd
    simp at this
  have hgs : g ∈ pre ++ f :: post := hs ▸ (sortDir_mem l g).mpr hg
  have hgp : g ∈ pre := by
    rcases List.mem_append.mp hgs with h1 | h1
    · exact h1
    · rcases List.mem_cons.mp h1 with h2 | h2
      · exact absurd h2 hne
      · exact absurd h2 hnp
  obtain ⟨a, b, hab⟩ := List.append_of_mem hgp
  exact ⟨a, b, post, by rw [hs, hab]⟩

end LA.Tree
