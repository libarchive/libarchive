/- The ustar byte model against the spec-level description (`norm .ustar`). Core Lean only. -/
import LA.Lemmas.UstarCodec
import LA.Lemmas.FmtSpec
namespace LA.Codec
open LA.NumFmt LA.Gen.TarLayout LA.Gen.CodecConsts

def wfEntry (e : Entry) : Prop :=
  (∀ p, e.path = some p → wfStr p) ∧ wfStr e.uname ∧ wfStr e.gname ∧ wfStr e.sym ∧ wfStr e.hard

theorem wfStr_dirSlash (ft : FType) (p : List Nat) (h : wfStr p) : wfStr (dirSlash ft p) := by
  unfold dirSlash
  split
  · intro c hc
    rcases List.mem_append.1 hc with hc | hc
    · exact h c hc
    · simp only [List.mem_singleton] at hc; rw [hc]; decide
  · exact h

theorem dirSlash_reg (p : List Nat) : dirSlash .reg p = p := if_neg (fun h => nomatch h.1)

theorem dirSlash_idem (ft : FType) (p : List Nat) : dirSlash ft (dirSlash ft p) = dirSlash ft p := by
  unfold dirSlash
  by_cases h : ft = .dir ∧ p ≠ [] ∧ p.getLast? ≠ some slash
  · rw [if_pos h]
    have : ¬(ft = .dir ∧ p ++ [slash] ≠ [] ∧ (p ++ [slash]).getLast? ≠ some slash) := by
      intro h'; exact h'.2.2 (by simp)
    rw [if_neg this]
  · rw [if_neg h, if_neg h]

theorem wfStr_tarLink (e : Entry) (h : wfEntry e) : wfStr (tarLink e) := by
  unfold tarLink; split
  · exact h.2.2.2.2
  · exact h.2.2.2.1

/-- The size `archive_write_ustar_header` stores: only regular files that are no links have data. -/
def ustarSize (e : Entry) : Int := if e.hard ≠ [] ∨ e.sym ≠ [] ∨ e.ftype ≠ .reg then 0 else e.sizeV

/-- `archive_write_ustar_header` in terms of `ustarFailed` and `ustarHdr`. -/
theorem ustarWriteHeader_eq (st : WState) (e : Entry) :
    ustarWriteHeader st e = match e.path with
      | none => (.failed, [], st)
      | some p0 =>
        if ustarFailed e (dirSlash e.ftype p0) (ustarSize e) none true then (.failed, [], st)
        else (.ok, ustarHdr e (dirSlash e.ftype p0) (ustarSize e),
              { st with remaining := (ustarSize e).toNat, padding := pad512 (ustarSize e).toNat }) := by
  unfold ustarWriteHeader
  cases e.path <;> rfl

theorem ustarWriteHeader_ok (st : WState) (e : Entry) (b : List Nat) (st' : WState)
    (hok : ustarWriteHeader st e = (.ok, b, st')) :
    ∃ p0, e.path = some p0 ∧
      ustarFailed e (dirSlash e.ftype p0) (ustarSize e) none true = false ∧
      b = ustarHdr e (dirSlash e.ftype p0) (ustarSize e) ∧
      st' = { st with remaining := (ustarSize e).toNat, padding := pad512 (ustarSize e).toNat } := by
  rw [ustarWriteHeader_eq] at hok
  cases hp : e.path with
  | none => rw [hp] at hok; cases hok
  | some p0 =>
    rw [hp] at hok
    cases hf : ustarFailed e (dirSlash e.ftype p0) (ustarSize e) none true with
    | true => simp only [hf, if_true] at hok; cases hok
    | false =>
      simp only [hf, Bool.false_eq_true, if_false, Prod.mk.injEq, true_and] at hok
      exact ⟨p0, rfl, hf, hok.1.symm, hok.2.symm⟩

theorem ustarWriteHeader_refused (st : WState) (e : Entry) (h : (ustarWriteHeader st e).1 ≠ .ok) :
    ustarWriteHeader st e = (.failed, [], st) := by
  rw [ustarWriteHeader_eq] at h ⊢
  cases hp : e.path with
  | none => rfl
  | some p0 =>
    rw [hp] at h
    simp only [] at h ⊢
    cases hf : ustarFailed e (dirSlash e.ftype p0) (ustarSize e) none true with
    | true => rfl
    | false => rw [hf] at h; exact absurd rfl h

theorem ustarWriteHeader_status_indep (st st' : WState) (e : Entry) :
    (ustarWriteHeader st e).1 = (ustarWriteHeader st' e).1 := by
  rw [ustarWriteHeader_eq, ustarWriteHeader_eq]
  cases e.path with
  | none => rfl
  | some p0 => simp only []; cases ustarFailed e (dirSlash e.ftype p0) (ustarSize e) none true <;> rfl

/-- What `header_common` / `header_ustar` make of the header of an accepted `e` with pathname `p`:
a hard link carries neither type nor device numbers, a link target is kept for symbolic links only. -/
def ustarRB (e : Entry) (p : List Nat) : RB :=
  { path := p
    ftype := if e.hard ≠ [] then 0 else e.ftype.bits
    perm := e.perm % 4096, uid := e.uid, gid := e.gid
    size := some (ustarSize e), mtime := some e.mtime
    uname := e.uname, gname := e.gname
    sym := if e.hard = [] ∧ e.ftype = .lnk then e.sym else []
    hard := e.hard
    rdevmajor := if e.hard = [] ∧ (e.ftype = .chr ∨ e.ftype = .blk) then e.rdevmajor else 0
    rdevminor := if e.hard = [] ∧ (e.ftype = .chr ∨ e.ftype = .blk) then e.rdevminor else 0 }

/-- The reader's type switch on the flag the writer chose: it never refuses (it refuses only a hard
link with a non-zero size, and the writer stores size 0 for every link), and a regular file stays
one because its name does not end in '/'. -/
theorem ustarSpecRB_eq (e : Entry) (p : List Nat) (t : Nat) (ht : ustarType e none = some t)
    (hnotrail : e.ftype = .reg → e.hard = [] → p.getLast? ≠ some slash) :
    ustarSpecRB e p (ustarSize e) t = some (ustarRB e p, (ustarSize e).toNat) := by
  unfold ustarType at ht
  simp only [] at ht
  by_cases hh : e.hard = []
  · rw [if_neg (by simp [hh])] at ht
    cases hf : e.ftype <;> rw [hf] at ht <;> cases ht
    · have := hnotrail hf hh
      simp [ustarSpecRB, tarTypeSwitch, tarDirFix, ustarRB, ustarSize, hh, hf, FType.bits, AE_IFREG, this]
    all_goals
      simp [ustarSpecRB, tarTypeSwitch, tarDirFix, ustarRB, ustarSize, tarLink, hh, hf, FType.bits, AE_IFREG, AE_IFLNK,
        AE_IFCHR, AE_IFBLK, AE_IFDIR, AE_IFIFO]
  · rw [if_pos hh] at ht; cases ht
    simp [ustarSpecRB, tarTypeSwitch, tarDirFix, ustarRB, ustarSize, tarLink, hh, AE_IFREG]

/-- Entries for which the ustar theorems speak: C strings of bytes, at most one kind of link, and
outside the two recorded defects (regular file named "…/", name split after a "//"). -/
def UstarEntryOK (e : Entry) : Prop :=
  wfEntry e ∧ (e.hard ≠ [] → e.sym = []) ∧
  (∀ p0, e.path = some p0 → e.ftype = .reg → e.hard = [] → p0.getLast? ≠ some slash) ∧
  (∀ p0 k, e.path = some p0 → ustarSplit (dirSlash e.ftype p0) = .split k →
    ((dirSlash e.ftype p0).take k).getLast? ≠ some slash)

/-- A 512-byte block the tar reader takes for the ustar header of an ordinary entry (no extension
header, not the GNU magic) and decodes to `rb`, with `rem` body bytes to follow. -/
structure UstarBlock (H : List Nat) (rb : RB) (rem : Nat) : Prop where
  length : H.length = 512
  checksum : tarChecksumOk H = true
  magic : slice H rd_magic_offset 8 = [117, 115, 116, 97, 114, 0, 48, 48]
  typeflag : 48 ≤ (slice H rd_typeflag_offset 1).headD 0 ∧ (slice H rd_typeflag_offset 1).headD 0 ≤ 54
  decode : ustarDecode H false = some (rb, rem)

/-- **The header of an accepted entry under the reader**: the checksum verifies and the fields decode
to `ustarRB`, with as many body bytes to follow as the writer declared. -/
theorem ustarHdr_accepted (e : Entry) (p0 : List Nat) (hp : e.path = some p0) (hOK : UstarEntryOK e)
    (hnf : ustarFailed e (dirSlash e.ftype p0) (ustarSize e) none true = false) :
    UstarBlock (ustarHdr e (dirSlash e.ftype p0) (ustarSize e)) (ustarRB e (dirSlash e.ftype p0)) (ustarSize e).toNat := by
  obtain ⟨hwf, -, hnotrail, hnodbl⟩ := hOK
  have hpath := wfStr_dirSlash e.ftype p0 (hwf.1 p0 hp)
  have hlink := wfStr_tarLink e hwf
  obtain ⟨t, ht⟩ := Option.isSome_iff_exists.1 ((ustarFailed_eq_false e _ _).1 hnf).2.2.2.2.2
  refine ⟨ustarHdr_length .., tarChecksumOk_ustarHdr e _ _ hpath hlink hwf.2.1 hwf.2.2.1,
    (ustarHdr_magic e _ _ 8 (Nat.le_refl 8)).trans tpl_magic, ?_, ?_⟩
  · rw [ustarHdr_typeflag e _ _ t ht]; exact ⟨(ustarType_spec e t ht).1, (ustarType_spec e t ht).2.1⟩
  · rw [ustarDecode_ustarHdr e _ _ t hpath hlink hwf.2.1 hwf.2.2.1 hnf ht (fun k hk => hnodbl p0 k hp hk)]
    exact ustarSpecRB_eq e _ t ht fun hf hh => by rw [hf, dirSlash_reg]; exact hnotrail p0 hp hf hh

/-- The record agrees with `norm .ustar` on every field ustar carries (which excludes `dev`,
`ino` and the body, filled in by the reader from elsewhere). -/
theorem ustar_agrees (e : Entry) (p0 : List Nat) (hpath : e.path = some p0) (hhs : e.hard ≠ [] → e.sym = [])
    (d i : Int) (b : List Nat) :
    (norm .ustar e).mismatch { ustarRB e (dirSlash e.ftype p0) with dev := d, ino := i, body := b } 0 = none := by
  rw [Exp.mismatch_eq_none]
  simp [norm, normPath, carriesHard, isTar, carriesIds, carriesNames, carriesRdev, permMask, isCpio, hpath, ustarRB,
    ustarSize]
  -- what is left: type, size, link target and device numbers, which depend on the kind of entry
  refine ⟨?_, ?_, fun hl h => ?_, fun hd hh h => absurd hd (not_or.2 (h hh)), fun hd hh h => absurd hd (not_or.2 (h hh))⟩
  · split <;> simp
  · by_cases hh : e.hard = [] <;> by_cases hs : e.sym = [] <;> by_cases hr : e.ftype = .reg <;> simp [hh, hs, hr]
  · by_cases hh : e.hard = []
    · exact absurd hl (h hh)
    · exact hhs hh

/-- A value below `8 ^ s` (`n` as a literal) passes `format_octal`. -/
theorem ustarOctal_fits (v : Int) (s n : Nat) (hn : 8 ^ s = n) (h : 0 ≤ v ∧ v < n) : (ustarFormatOctal v s).1 = false :=
  (ustarFormatOctal_ok_iff v s).2 ⟨h.1, by omega⟩

/-- What `representable .ustar` admits, the header writer does not refuse. -/
theorem representable_ustar_not_failed (e : Entry) (p0 : List Nat) (hp : e.path = some p0)
    (hr : representable .ustar e = true) :
    ustarFailed e (dirSlash e.ftype p0) (ustarSize e) none true = false := by
  obtain ⟨p, hp', hshape, hranges, hnames⟩ := (representable_iff .ustar e).1 hr
  cases hp.symm.trans hp'
  obtain ⟨-, -, htyp, -, -, -, -⟩ := (reprShape_iff .ustar e p0).1 hshape
  obtain ⟨hids, hmt, hsz, hnm, hrdev⟩ := (reprRanges_iff .ustar e).1 hranges
  obtain ⟨⟨huid0, huid1⟩, hgid0, hgid1⟩ := hids rfl
  obtain ⟨hun, hgn⟩ := hnm ⟨rfl, .inl rfl⟩
  simp only [reprNames, normPath, convertsNames, imp, Bool.not_false, Bool.true_or, Bool.true_and, Bool.and_eq_true,
    decide_eq_true_eq, bne_iff_ne, ne_eq] at hnames
  obtain ⟨⟨⟨hsplit, hsym⟩, hhard⟩, -⟩ := hnames
  simp only [idMax, mtimeRange, sizeMax, rdevMax] at huid1 hgid1 hmt hsz hrdev
  have hsize : 0 ≤ ustarSize e ∧ ustarSize e < 8589934592 := by
    unfold ustarSize Entry.sizeV
    split
    · omega
    · cases hs : e.size with
      | none => simp only [Option.getD_none]; omega
      | some s => rw [hs] at hsz; simp only [Option.getD_some]; omega
  refine (ustarFailed_eq_false _ _ _).2 ⟨hsplit, by unfold tarLink; split <;> assumption, hun, hgn,
    (ustarNumFields_ok e _).2 ⟨ustarOctal_fits _ _ 262144 (by decide) (by omega), ustarOctal_fits _ _ 262144 (by decide) (by omega),
      ustarOctal_fits _ _ 262144 (by decide) (by omega), ustarOctal_fits _ _ 8589934592 (by decide) hsize,
      ustarOctal_fits _ _ 8589934592 (by decide) (by omega), fun hd => ?_⟩, ?_⟩
  · have := hrdev ⟨hd.symm, rfl⟩
    exact ⟨ustarOctal_fits _ _ 262144 (by decide) (by omega), ustarOctal_fits _ _ 262144 (by decide) (by omega)⟩
  · -- every type `typesOf .ustar` lists has a type flag, and so has a hard link
    unfold ustarType
    simp only []
    split
    · rfl
    · next hh =>
      rcases htyp with h | h
      · cases hf : e.ftype <;> simp [hf, typesOf, ustarTypeflag] at h ⊢
      · exact absurd h.1 hh

end LA.Codec
