/-
Unfolding equations for `LA.Pm`: each recursive function equals its body with the `h :`
binders dropped (they exist only for the termination proofs).  Later proofs unfold through
these.  The six equations of the mutual block, statements and proofs, are the text
`tools/dev/pm_eq_gen.py` prints from the model; those of the small loops are written by hand.

Each equation is proved by the function's own case principle: `fun_cases f …` gives one goal
per branch of the definition, with `f …` replaced by the value of that branch and the tests
that select it as hypotheses, and those hypotheses decide every test on the right-hand side.
-/
import LA.Model.Pm
namespace LA.Pm

theorem matchAt_eq (cfg : Cfg) (p s : List Nat) (fl : Flags) (pi si : Nat) :
    matchAt cfg p s fl pi si = (
  match rd p pi with
  | none => .oob
  | some c0 =>
    if c0 = 0 then
      match rd s si with
      | none => .oob
      | some d => .ofBool (d = 0)
    else if c0 = C_CARET then matchBody cfg p s { fl with noStart := false } (pi + 1) si
    else matchBody cfg p s fl pi si) := by
  fun_cases matchAt cfg p s fl pi si
  all_goals simp [*]

theorem matchBody_eq (cfg : Cfg) (p s : List Nat) (fl : Flags) (pi si : Nat) :
    matchBody cfg p s fl pi si = (
  match rd p pi with
  | none => .oob
  | some c =>
    match rd s si with
    | none => .oob
    | some d =>
      if c = C_SLASH ∧ d ≠ C_SLASH then .no
      else if c = C_STAR ∨ c = C_SLASH then
        match skipSlashes p pi, skipSlashes s si with
        | some pi2, some si2 => pm cfg p s fl pi2 si2
        | _, _ => .oob
      else if fl.noStart then unanch cfg p s fl pi si
      else pm cfg p s fl pi si) := by
  fun_cases matchBody cfg p s fl pi si
  all_goals simp [*]

theorem unanch_eq (cfg : Cfg) (p s : List Nat) (fl : Flags) (pi si : Nat) :
    unanch cfg p s fl pi si = (
  match rd s si with
  | none => .oob
  | some d =>
    match pm cfg p s fl pi (if d = C_SLASH then si + 1 else si) with
    | .yes => .yes
    | .oob => .oob
    | .no =>
      match strchrSlash s (if d = C_SLASH then si + 1 else si) with
      | none => .oob
      | some none => .no
      | some (some sj) => unanch cfg p s fl pi sj) := by
  fun_cases unanch cfg p s fl pi si
  all_goals simp [*]

theorem pm_eq (cfg : Cfg) (p s : List Nat) (fl : Flags) (pi si : Nat) :
    pm cfg p s fl pi si = (
  match dotSlash s si with
  | none => .oob
  | some si1 =>
    match dotSlash p pi with
    | none => .oob
    | some pi1 => pmLoop cfg p s fl pi1 si1) := by
  fun_cases pm cfg p s fl pi si
  all_goals simp [*]

theorem pmLoop_eq (cfg : Cfg) (p s : List Nat) (fl : Flags) (pi si : Nat) :
    pmLoop cfg p s fl pi si = (
  match rd p pi with
  | none => .oob
  | some c =>
    if c = 0 then
      match rd s si with
      | none => .oob
      | some d =>
        if d = C_SLASH then
          if fl.noEnd then .yes
          else
            match slashskip s si with
            | none => .oob
            | some sj =>
              match rd s sj with
              | none => .oob
              | some d' => .ofBool (d' = 0)
        else .ofBool (d = 0)
    else if c = C_QUEST then
      match rd s si with
      | none => .oob
      | some d => if d = 0 then .no else pmLoop cfg p s fl (pi + 1) (si + 1)
    else if c = C_STAR then
      match skipStars p pi with
      | none => .oob
      | some pj =>
        match rd p pj with
        | none => .oob
        | some c' =>
          if c' = 0 then .yes else star cfg p s fl pj si
    else if c = C_LBRACK then
      match classEnd p (pi + 1) with
      | none => .oob
      | some e =>
        match rd p e with
        | none => .oob
        | some ce =>
          match rd s si with
          | none => .oob
          | some d =>
            if ce = C_RBRACK then
              if cfg.guardClass ∧ d = 0 then .no
              else
                match pmList cfg p (pi + 1) e d with
                | none => .oob
                | some false => .no
                | some true => pmLoop cfg p s fl (e + 1) (si + 1)
            else
              if c ≠ d then .no else pmLoop cfg p s fl (pi + 1) (si + 1)
    else if c = C_BSL then
      match rd p (pi + 1) with
      | none => .oob
      | some c1 =>
        match rd s si with
        | none => .oob
        | some d =>
          if c1 = 0 then
            if d ≠ C_BSL then .no else pmLoop cfg p s fl (pi + 1) (si + 1)
          else
            if c1 ≠ d then .no else pmLoop cfg p s fl (pi + 2) (si + 1)
    else if c = C_SLASH then
      match rd s si with
      | none => .oob
      | some d =>
        if d ≠ C_SLASH ∧ d ≠ 0 then .no
        else
          match slashskip p pi, slashskip s si with
          | some pj, some sj =>
            match rd p pj with
            | none => .oob
            | some c' =>
              if c' = 0 ∧ fl.noEnd then .yes
              else pmLoop cfg p s fl pj sj
          | _, _ => .oob
    else
      match rd p (pi + 1) with
      | none => .oob
      | some c1 =>
        if c = C_DOLLAR ∧ c1 = 0 ∧ fl.noEnd then
          match slashskip s si with
          | none => .oob
          | some sj =>
            match rd s sj with
            | none => .oob
            | some d' => .ofBool (d' = 0)
        else
          match rd s si with
          | none => .oob
          | some d => if c ≠ d then .no else pmLoop cfg p s fl (pi + 1) (si + 1)) := by
  fun_cases pmLoop cfg p s fl pi si
  all_goals simp [*]

theorem star_eq (cfg : Cfg) (p s : List Nat) (fl : Flags) (pi si : Nat) :
    star cfg p s fl pi si = (
  match rd s si with
  | none => .oob
  | some d =>
    if d = 0 then .no
    else
      match matchAt cfg p s fl pi si with
      | .yes => .yes
      | .oob => .oob
      | .no => star cfg p s fl pi (si + 1)) := by
  fun_cases star cfg p s fl pi si
  all_goals simp [*]

/-! ### the small loops -/

theorem slashskip_eq (s : List Nat) (i : Nat) :
    slashskip s i = (
  match rd s i with
  | none => none
  | some c =>
    if c = C_SLASH then slashskip s (i + 1)
    else if c = C_DOT then
      match rd s (i + 1) with
      | none => none
      | some d => if d = C_SLASH ∨ d = 0 then slashskip s (i + 1) else some i
    else some i) := by
  fun_cases slashskip s i
  all_goals simp [*]

theorem skipStars_eq (p : List Nat) (i : Nat) :
    skipStars p i = (
  match rd p i with
  | none => none
  | some c => if c = C_STAR then skipStars p (i + 1) else some i) := by
  fun_cases skipStars p i
  all_goals simp [*]

theorem skipSlashes_eq (s : List Nat) (i : Nat) :
    skipSlashes s i = (
  match rd s i with
  | none => none
  | some c => if c = C_SLASH then skipSlashes s (i + 1) else some i) := by
  fun_cases skipSlashes s i
  all_goals simp [*]

theorem classEnd_eq (p : List Nat) (i : Nat) :
    classEnd p i = (
  match rd p i with
  | none => none
  | some c =>
    if c = 0 then some i
    else if c = C_RBRACK then some i
    else if c = C_BSL then
      match rd p (i + 1) with
      | none => none
      | some d => if d ≠ 0 then classEnd p (i + 2) else classEnd p (i + 1)
    else classEnd p (i + 1)) := by
  fun_cases classEnd p i
  all_goals simp [*]

theorem strchrSlash_eq (s : List Nat) (i : Nat) :
    strchrSlash s i = (
  match rd s i with
  | none => none
  | some c =>
    if c = C_SLASH then some (some i)
    else if c = 0 then some none
    else strchrSlash s (i + 1)) := by
  fun_cases strchrSlash s i
  all_goals simp [*]

end LA.Pm
