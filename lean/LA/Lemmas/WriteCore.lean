/-
Fault propagation through the write core (`LA.WC`): whenever the client write
callback returns a non-positive value during a call, that call's status is
`≤ ARCHIVE_FATAL` — at every level from `archive_write_client_write` up to the
API functions, for the raw and ustar formats, with or without a b64encode /
uuencode filter.  (`-99`, below `ARCHIVE_FATAL`, is the model's marker for an
out-of-bounds store; `LA.C09.fault_reported` excludes it for the client layer.)
-/
import LA.Lemmas.ClientWrite
import LA.Model.WriteCore
namespace LA.WC
open LA.CW LA.Ustar

def HasBad (evs : List Event) : Prop := ∃ e ∈ evs, e.bad

theorem hasBad_append {a b : List Event} : HasBad (a ++ b) ↔ HasBad a ∨ HasBad b := bad_append

theorem not_hasBad_nil : ¬ HasBad [] := nofun

theorem ite_prop {α : Type} {c : Prop} [Decidable c] {A B : α} (P : α → Prop)
    (h1 : c → P A) (h2 : ¬ c → P B) : P (if c then A else B) := by
  split
  · exact h1 ‹_›
  · exact h2 ‹_›

theorem ite_both {α : Type} {c : Prop} [Decidable c] {A B : α} (P : α → Prop) (h1 : P A) (h2 : P B) :
    P (if c then A else B) := ite_prop P (fun _ => h1) (fun _ => h2)

theorem imin_le_left (a b : Int) : imin a b ≤ a := by unfold imin; split <;> omega
theorem imin_le_right (a b : Int) : imin a b ≤ b := by unfold imin; split <;> omega

section
variable {σ : Type} (W : Writer σ)

-- Each function is opened with `unfold` in its own lemma only; elsewhere the unifier must not
-- compare two result tuples by unfolding the calls inside them.
attribute [local irreducible] clientWrite clientClose clientFilterWrite encWrite output formatHeaderOp formatDataOp
  formatFinishEntry formatClose encClose encCloseStep clientCloseStep filtersClose apiFinishEntry apiClose

/-- "A failing callback invocation is reported", for the integer-status functions of the write core. -/
def Rep (r : Int × Handle × List Event × σ) : Prop := HasBad r.2.2.1 → r.1 ≤ fatal

theorem rep_nil {st : Int} {h : Handle} {w : σ} : Rep (st, h, [], w) :=
  fun hb => absurd hb not_hasBad_nil

theorem clientFilterWrite_rep (w : σ) (h : Handle) (d : List Cell) : Rep (clientFilterWrite W w h d) := by
  unfold clientFilterWrite
  refine ite_both Rep rep_nil (ite_both Rep rep_nil ?_)
  cases h.cs with
  | none => exact rep_nil
  | some cs => exact fun hb => Int.le_of_eq (congrArg stCode ((clientWrite_wrote W w cs d).ran.bad.mpr hb))

theorem encOutLoop_bad (w : σ) (h : Handle) (bs : Nat) (enc : List Nat) :
    HasBad (encOutLoop W w h bs enc).2.2.2.1 → (encOutLoop W w h bs enc).1 ≤ fatal := by
  fun_induction encOutLoop W w h bs enc with
  | case1 w h enc hc r hne => exact clientFilterWrite_rep W w h _
  | case2 w h enc hc r hne t ih =>
    intro hb
    rcases hasBad_append.mp hb with hb | hb
    · exact absurd (Decidable.not_not.mp hne ▸ clientFilterWrite_rep W w h _ hb : ok ≤ fatal) (by decide)
    · exact ih hb
  | case3 w h enc hc => exact fun hb => absurd hb not_hasBad_nil

theorem encWrite_bad (w : σ) (h : Handle) (e : EncState) (p : List Nat) : Rep (encWrite W w h e p) := by
  unfold encWrite
  exact ite_both Rep rep_nil (encOutLoop_bad W w h _ _)

theorem output_bad (w : σ) (h : Handle) (d : List Cell) : Rep (output W w h d) := by
  unfold output
  cases h.enc with
  | none => exact clientFilterWrite_rep W w h d
  | some e =>
    refine ite_both Rep rep_nil (ite_both Rep rep_nil ?_)
    cases readAll d with
    | none => exact rep_nil
    | some p => exact encWrite_bad W w h e p

theorem writeNulls_bad (w : σ) (h : Handle) (n : Nat) : Rep (writeNulls W w h n) := by
  fun_induction writeNulls W w h n with
  | case1 w h => exact rep_nil
  | case2 w h n hl toWrite r hlt => exact output_bad W w h _
  | case3 w h n hl toWrite r hlt hz => exact output_bad W w h _
  | case4 w h n hl toWrite r hlt hz t ih =>
    intro hb
    rcases hasBad_append.mp hb with hb | hb
    · exact absurd (Int.lt_of_le_of_lt (output_bad W w h _ hb) (show fatal < ok by decide)) hlt
    · exact ih hb

theorem formatHeaderOp_bad (w : σ) (h : Handle) (e : Entry) : Rep (formatHeaderOp W w h e) := by
  unfold formatHeaderOp
  cases h.fmt with
  | none => exact rep_nil
  | raw => exact ite_both Rep rep_nil (ite_both Rep rep_nil rep_nil)
  | ustar =>
    dsimp only
    cases formatHeader (prepareEntry e) with
    | none => exact rep_nil
    | some rh =>
      refine ite_both Rep rep_nil (ite_prop Rep (fun _ => output_bad W w h _) fun hnlt hb => ?_)
      exact absurd (Int.lt_of_le_of_lt (output_bad W w h rh.2 hb) (show fatal < warn by decide)) hnlt

theorem formatDataOp_bad (w : σ) (h : Handle) (d : List Cell) : Rep (formatDataOp W w h d) := by
  unfold formatDataOp
  cases h.fmt with
  | none => exact rep_nil
  | raw =>
    intro hb
    have h1 : (output W w h d).1 ≤ fatal := output_bad W w h _ hb
    show (if (output W w h d).1 ≥ 0 then (d.length : Int) else (output W w h d).1) ≤ fatal
    rw [if_neg fun h0 => absurd (Int.le_trans h0 h1) (by decide)]; exact h1
  | ustar =>
    intro hb
    have h1 : (output W w h _).1 ≤ fatal := output_bad W w h _ hb
    show (if (output W w h _).1 ≠ ok then (output W w h _).1 else _) ≤ fatal
    have hne : (output W w h _).1 ≠ ok := fun h0 => absurd (h0 ▸ h1 : ok ≤ fatal) (by decide)
    rw [if_pos hne]; exact h1

/-- Entry padding and the end-of-archive marker are runs of nulls (ustar; raw writes neither). -/
theorem formatNulls_bad (w : σ) (h : Handle) :
    Rep (formatFinishEntry W w h) ∧ Rep (formatClose W w h) := by
  unfold formatFinishEntry formatClose
  cases h.fmt with
  | ustar => exact ⟨writeNulls_bad W w h _, writeNulls_bad W w h _⟩
  | none => exact ⟨rep_nil, rep_nil⟩
  | raw => exact ⟨rep_nil, rep_nil⟩

theorem encCloseStep_bad (w : σ) (h : Handle) : Rep (encCloseStep W w h) := by
  unfold encCloseStep
  cases h.enc with
  | none => exact rep_nil
  | some e =>
    refine ite_both Rep ?_ rep_nil
    unfold encClose
    exact clientFilterWrite_rep W w _ _

theorem clientCloseStep_bad (w : σ) (h : Handle) (ret : Int) :
    Rep (clientCloseStep W w h ret) ∧ (clientCloseStep W w h ret).1 ≤ ret := by
  unfold clientCloseStep
  refine ite_both (fun r : Int × Handle × List Event × σ => Rep r ∧ r.1 ≤ ret) ?_ ⟨rep_nil, Int.le_refl _⟩
  cases h.cs with
  | none => exact ⟨rep_nil, imin_le_right _ _⟩
  | some cs =>
    refine ⟨fun hb => ?_, imin_le_right _ _⟩
    show imin (stCode (clientClose W w cs h.bpb h.bil).1) ret ≤ fatal
    rw [(clientClose_ran W w cs h.bpb h.bil).bad.mpr hb]
    exact imin_le_left _ _

theorem filtersClose_bad (w : σ) (h : Handle) : Rep (filtersClose W w h) := by
  unfold filtersClose
  intro hb
  have h2 := clientCloseStep_bad W (encCloseStep W w h).2.2.2 (encCloseStep W w h).2.1 (imin (encCloseStep W w h).1 ok)
  rcases hasBad_append.mp hb with hb | hb
  · exact Int.le_trans h2.2 (Int.le_trans (imin_le_left _ _) (encCloseStep_bad W w h hb))
  · exact h2.1 hb

theorem apiFinishEntry_bad (w : σ) (h : Handle) : Rep (apiFinishEntry W w h) := by
  unfold apiFinishEntry
  exact ite_both Rep rep_nil (ite_both Rep (formatNulls_bad W w h).1 rep_nil)

theorem apiData_bad (w : σ) (h : Handle) (d : List Cell) : Rep (apiData W w h d) := by
  unfold apiData
  exact ite_both Rep rep_nil (formatDataOp_bad W w h d)

theorem apiHeader_bad (w : σ) (h : Handle) (e : Entry) : Rep (apiHeader W w h e) := by
  unfold apiHeader
  refine ite_both Rep rep_nil (ite_both Rep rep_nil ?_)
  have hf := apiFinishEntry_bad W w h
  generalize apiFinishEntry W w h = r at hf ⊢
  refine ite_prop Rep (fun _ _ => Int.le_refl _) fun hnf => ite_prop Rep (fun _ => hf) fun hcont => ?_
  -- past the two early returns the first stage had no failing invocation
  have hnob : ¬ HasBad r.2.2.1 := fun hb => hcont ⟨Int.lt_of_le_of_lt (hf hb) (by decide),
    fun hw => absurd (hw ▸ hf hb) (by decide)⟩
  have hh := formatHeaderOp_bad W r.2.2.2 r.2.1 e
  generalize formatHeaderOp W r.2.2.2 r.2.1 e = r2 at hh ⊢
  have hr2 : HasBad (r.2.2.1 ++ r2.2.2.1) → r2.1 ≤ fatal := fun hb =>
    hh ((hasBad_append.mp hb).resolve_left hnob)
  refine ite_prop Rep (fun hfail hb => absurd (hfail ▸ hr2 hb) (by decide)) fun _ =>
    ite_both Rep (fun _ => Int.le_refl _) fun hb => Int.le_trans (imin_le_left _ _) (hr2 hb)

theorem apiClose_bad (w : σ) (h : Handle) : Rep (apiClose W w h) := by
  unfold apiClose
  refine ite_both Rep rep_nil ?_
  dsimp only
  have hr : Rep (if h.state = .data ∧ hasFinishEntry h = true then formatFinishEntry W w h else (ok, h, [], w)) :=
    ite_both Rep (formatNulls_bad W w h).1 rep_nil
  generalize (if h.state = .data ∧ hasFinishEntry h = true then formatFinishEntry W w h else (ok, h, [], w)) = r at hr ⊢
  have hr1 := (formatNulls_bad W r.2.2.2 r.2.1).2
  generalize formatClose W r.2.2.2 r.2.1 = r1 at hr1 ⊢
  have hr2 := filtersClose_bad W r1.2.2.2 r1.2.1
  generalize filtersClose W r1.2.2.2 r1.2.1 = r2 at hr2 ⊢
  intro hb
  show imin r2.1 (imin r1.1 r.1) ≤ fatal
  rcases hasBad_append.mp hb with hb | hb
  · rcases hasBad_append.mp hb with hb | hb
    · exact Int.le_trans (imin_le_right _ _) (Int.le_trans (imin_le_right _ _) (hr hb))
    · exact Int.le_trans (imin_le_right _ _) (Int.le_trans (imin_le_left _ _) (hr1 hb))
  · exact Int.le_trans (imin_le_left _ _) (hr2 hb)

/-- `archive_write_free` on a handle that has not failed before is `archive_write_close` and
reports a callback failure like it.  On a handle that is already FATAL the filters are closed
too, but the status of that is deliberately dropped (`(void)__archive_write_filters_close(a)`):
the failure was reported by the call that made the handle fail. -/
theorem apiFree_bad (w : σ) (h : Handle) (hne : h.state ≠ .fatal) : Rep (apiFree W w h) := by
  unfold apiFree
  rw [if_pos hne]
  exact apiClose_bad W w h

end
end LA.WC
