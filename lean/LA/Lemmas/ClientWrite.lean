/-
Lemmas for the client write layer (`LA.CW`): what each loop hands to the
callback, in which order, and what it reports.

Two notions carry the proofs.  `Ran` says that a list of events is what the
callback answered, one invocation after the other, and that the stage failed
exactly when one answer was non-positive; it needs no invariant.  `Stage` says
where in its stream every offer starts and what is left over; the per-call
specifications `WriteSpec`, `CloseSpec` (and `RunSpec`, `SessionSpec` of
`LA.Lemmas.ClientWriteSession`) are stages put one after the other with `Stage.seq`.
-/
import LA.Model.ClientWrite
namespace LA.CW

@[simp] theorem taken_nil : taken [] = [] := rfl
@[simp] theorem taken_cons (e : Event) (l : List Event) : taken (e :: l) = e.taken ++ taken l := by
  simp [taken]
@[simp] theorem taken_append (a b : List Event) : taken (a ++ b) = taken a ++ taken b := by
  simp [taken]

/-- An event with a non-positive return value: the callback failed. -/
def Event.bad (e : Event) : Prop := e.ret ≤ 0

theorem Event.taken_length {e : Event} (h : e.ret ≤ e.offer.length) : e.taken.length = e.ret.toNat := by
  rw [Event.taken, List.length_take, Nat.min_eq_left (Int.toNat_le.mpr h)]

theorem bad_append {a b : List Event} :
    (∃ e ∈ a ++ b, e.bad) ↔ (∃ e ∈ a, e.bad) ∨ ∃ e ∈ b, e.bad := by
  simp only [List.mem_append, or_and_right, exists_or]

/-- Every offer of the list starts exactly where the callback stopped:
relative to a stream `S` and a position `t` (bytes accepted before), each offer
is a prefix of what is left of `S`, and the next offer starts after the bytes
this one took. -/
def Resumes (S : List Cell) : Nat → List Event → Prop
  | _, [] => True
  | t, e :: r => e.offer <+: S.drop t ∧ e.ret ≤ e.offer.length ∧ Resumes S (t + e.ret.toNat) r

theorem prefix_drop {a b : List Cell} (h : a <+: b) (n : Nat) : a.drop n <+: b.drop n := by
  obtain ⟨x, rfl⟩ := h
  exact ⟨_, List.drop_append.symm⟩

theorem Resumes.of_prefix {q S : List Cell} {t : Nat} (h : q <+: S.drop t) :
    ∀ {u l}, Resumes q u l → Resumes S (t + u) l := by
  intro u l
  induction l generalizing u with
  | nil => intro _; trivial
  | cons e r ih =>
    intro ⟨h1, h2, h3⟩
    refine ⟨?_, h2, ?_⟩
    · rw [← List.drop_drop]; exact h1.trans (prefix_drop h u)
    · rw [Nat.add_assoc]; exact ih h3

theorem Resumes.mono {S S' : List Cell} (h : S <+: S') : ∀ {t l}, Resumes S t l → Resumes S' t l := by
  intro t l hl
  have := Resumes.of_prefix (t := 0) h hl
  rwa [Nat.zero_add] at this

theorem Resumes.append {S : List Cell} : ∀ {t a b}, Resumes S t a → Resumes S (t + (taken a).length) b →
    Resumes S t (a ++ b) := by
  intro t a
  induction a generalizing t with
  | nil => intro b _ h; exact h
  | cons e r ih =>
    intro b ⟨h1, h2, h3⟩ hb
    refine ⟨h1, h2, ih h3 ?_⟩
    rwa [taken_cons, List.length_append, Event.taken_length h2, ← Nat.add_assoc] at hb

theorem Resumes.head {S : List Cell} {e : Event} {l : List Event} (h1 : e.offer <+: S)
    (h2 : e.ret ≤ e.offer.length) (h3 : Resumes (S.drop e.ret.toNat) 0 l) : Resumes S 0 (e :: l) :=
  ⟨h1, h2, by rw [Nat.zero_add]; exact Resumes.of_prefix (u := 0) (List.prefix_refl _) h3⟩

theorem Resumes.taken_eq {S : List Cell} : ∀ {t l}, Resumes S t l →
    taken l = (S.drop t).take (taken l).length := by
  intro t l
  induction l generalizing t with
  | nil => intro _; rfl
  | cons e r ih =>
    intro ⟨⟨x, hx⟩, h2, h3⟩
    rw [taken_cons, List.length_append, List.take_add, List.drop_drop, Event.taken_length h2, ← ih h3, ← hx,
      List.take_append_of_le_length (Int.toNat_le.mpr h2)]
    rfl

theorem Resumes.offers {S : List Cell} : ∀ {t l}, Resumes S t l → ∀ e ∈ l, ∀ c ∈ e.offer, c ∈ S := by
  intro t l
  induction l generalizing t with
  | nil => intro _ e he; cases he
  | cons a r ih =>
    intro ⟨h1, _, h3⟩ e he c hc
    rcases List.mem_cons.mp he with rfl | he
    · exact List.mem_of_mem_drop (h1.mem hc)
    · exact ih h3 e he c hc

theorem resumes_at {S : List Cell} : ∀ {t pre e post}, Resumes S t (pre ++ e :: post) →
    e.offer <+: S.drop (t + (taken pre).length) := by
  intro t pre
  induction pre generalizing t with
  | nil => intro e post h; exact h.1
  | cons a r ih =>
    intro e post ⟨_, h2, h3⟩
    rw [taken_cons, List.length_append, Event.taken_length h2, ← Nat.add_assoc]
    exact ih h3

/-- `Threads W w evs w'`: starting from callback state `w`, the events `evs` are
exactly the callback's answers to the successive offers, and `w'` is its state
afterwards (nothing else touches the callback). -/
def Threads {σ : Type} (W : Writer σ) : σ → List Event → σ → Prop
  | w, [], w' => w' = w
  | w, e :: r, w' => e.ret = (W.ask w e.offer).1 ∧ Threads W (W.ask w e.offer).2 r w'

theorem Threads.append {σ : Type} {W : Writer σ} : ∀ {w a w1 b w2}, Threads W w a w1 → Threads W w1 b w2 →
    Threads W w (a ++ b) w2 := by
  intro w a
  induction a generalizing w with
  | nil => intro w1 b w2 h1 h2; cases h1; exact h2
  | cons e r ih => intro w1 b w2 ⟨h1, h2⟩ h3; exact ⟨h1, ih h2 h3⟩

theorem Threads.inv {σ : Type} {W : Writer σ} (P : σ → Prop) (hP : ∀ w o, P w → P (W.ask w o).2) :
    ∀ {w evs w'}, Threads W w evs w' → P w → P w' := by
  intro w evs
  induction evs generalizing w with
  | nil => intro w' h hp; cases h; exact hp
  | cons e r ih => intro w' ⟨_, h2⟩ hp; exact ih h2 (hP _ _ hp)

theorem Ans.ret_le (a : Ans) (n : Nat) : a.ret n ≤ n := by
  cases a with
  | accept k => exact Int.ofNat_le.mpr (Nat.min_le_right k n)
  | zero => exact Int.natCast_nonneg n
  | error => exact Int.le_trans (show (-1 : Int) ≤ 0 by decide) (Int.natCast_nonneg n)

theorem scriptWriter_ask (sc : List Ans) (o : List Cell) :
    scriptWriter.ask sc o = ((sc.head?.elim (o.length : Int) (·.ret o.length)), sc.tail) := by
  unfold Writer.ask
  cases sc with
  | nil => exact Prod.ext (if_neg (Int.lt_irrefl _)) rfl
  | cons a rest => exact Prod.ext (if_neg (Int.not_lt.mpr (a.ret_le _))) rfl

/-- For the scripted callback: the `i`-th event carries the `i`-th answer of the
script, and the script is consumed one answer per invocation. -/
theorem Threads.script : ∀ {sc evs sc'}, Threads scriptWriter sc evs sc' →
    sc' = sc.drop evs.length ∧
    ∀ i (h : i < evs.length) (h2 : i < sc.length),
      evs[i].ret = (sc[i]).ret evs[i].offer.length := by
  intro sc evs
  induction evs generalizing sc with
  | nil => intro sc' h; cases h; exact ⟨rfl, nofun⟩
  | cons e r ih =>
    intro sc' ⟨h1, h2⟩
    rw [scriptWriter_ask] at h1 h2
    obtain ⟨h3, h4⟩ := ih h2
    refine ⟨by rw [h3, List.drop_tail]; rfl, fun i hi hi2 => ?_⟩
    cases sc with
    | nil => cases hi2
    | cons a rest =>
      cases i with
      | zero => exact h1
      | succ j => exact h4 j (Nat.lt_of_succ_lt_succ hi) (Nat.lt_of_succ_lt_succ hi2)

/-- `evs` are the callback's successive answers from state `w` to `w'`, and `failed` holds
exactly when one of them was non-positive. -/
structure Ran {σ : Type} (W : Writer σ) (w : σ) (failed : Prop) (evs : List Event) (w' : σ) : Prop where
  threads : Threads W w evs w'
  bad : failed ↔ ∃ e ∈ evs, e.bad

theorem Ran.nil {σ : Type} {W : Writer σ} {w : σ} {failed : Prop} (h : ¬ failed) : Ran W w failed [] w :=
  ⟨rfl, ⟨fun hf => absurd hf h, nofun⟩⟩

theorem Ran.cons {σ : Type} {W : Writer σ} {w w' : σ} {failed : Prop} {e : Event} {l : List Event}
    (h1 : e.ret = (W.ask w e.offer).1) (hg : ¬ e.bad) (h : Ran W (W.ask w e.offer).2 failed l w') :
    Ran W w failed (e :: l) w' :=
  ⟨⟨h1, h.threads⟩, h.bad.trans ⟨fun ⟨x, hx, hb⟩ => ⟨x, List.mem_cons_of_mem _ hx, hb⟩, fun ⟨x, hx, hb⟩ => by
    rcases List.mem_cons.mp hx with rfl | hx
    · exact absurd hb hg
    · exact ⟨x, hx, hb⟩⟩⟩

theorem Ran.seq {σ : Type} {W : Writer σ} {w w1 w2 : σ} {failed : Prop} {a b : List Event}
    (ha : Ran W w False a w1) (hb : Ran W w1 failed b w2) : Ran W w failed (a ++ b) w2 :=
  ⟨ha.threads.append hb.threads,
    hb.bad.trans ⟨fun h => bad_append.mpr (.inr h), fun h => (bad_append.mp h).resolve_left ha.bad.mpr⟩⟩

/-- What a stage of the layer does with the stream `P` it is to hand over: every offer resumes
within `P`, and if the stage succeeds (`ok`) the accepted bytes followed by what it keeps back
(`rest`) are `P`. -/
structure Stage (P : List Cell) (evs : List Event) (rest : List Cell) (ok : Prop) : Prop where
  resumes : Resumes P 0 evs
  done : ok → taken evs ++ rest = P
  rest_sub : ∀ c ∈ rest, c ∈ P

section
variable {P rest : List Cell} {evs : List Event} {ok : Prop}

theorem Stage.of_done (hr : Resumes P 0 evs) (hd : taken evs ++ rest = P) : Stage P evs rest ok :=
  ⟨hr, fun _ => hd, fun _ hc => hd ▸ List.mem_append_right _ hc⟩

theorem Stage.imp {ok' : Prop} (h : Stage P evs rest ok) (hi : ok' → ok) : Stage P evs rest ok' :=
  ⟨h.resumes, fun hk => h.done (hi hk), h.rest_sub⟩

theorem Stage.pre (h : Stage P evs rest ok) : taken evs <+: P := by
  rw [h.resumes.taken_eq]; exact List.take_prefix _ P

theorem Stage.resumes_at (h : Stage P evs rest ok) {S : List Cell} {t : Nat} (hp : P <+: S.drop t) :
    Resumes S t evs :=
  Resumes.of_prefix hp h.resumes

end

/-- A stage that succeeded, followed by a stage over what it kept back and further bytes `D`. -/
theorem Stage.seq {P D r1 r2 : List Cell} {a b : List Event} {ok : Prop} (ha : Stage P a r1 True)
    (hb : Stage (r1 ++ D) b r2 ok) : Stage (P ++ D) (a ++ b) r2 ok := by
  have hP : P ++ D = taken a ++ (r1 ++ D) := by rw [← List.append_assoc, ha.done trivial]
  refine ⟨?_, fun h => ?_, fun c hc => ?_⟩
  · refine Resumes.append (ha.resumes.mono (List.prefix_append _ _)) ?_
    rw [Nat.zero_add]
    refine Resumes.of_prefix (u := 0) ?_ hb.resumes
    rw [hP, List.drop_left]; exact List.prefix_refl _
  · rw [taken_append, List.append_assoc, hb.done h, hP]
  · rcases List.mem_append.mp (hb.rest_sub c hc) with h | h
    · exact List.mem_append_left _ (ha.rest_sub c h)
    · exact List.mem_append_right _ h

/-- A stage that failed part of the way is a failed stage of any longer stream. -/
theorem Stage.fail {P P' rest : List Cell} {a : List Event} {ok : Prop} (ha : Resumes P 0 a) (hP : P <+: P')
    (hr : ∀ c ∈ rest, c ∈ P') (hno : ¬ ok) : Stage P' a rest ok :=
  ⟨ha.mono hP, fun h => absurd h hno, hr⟩

section
variable {σ : Type} (W : Writer σ) (w : σ)

theorem flushLoop_nil : flushLoop W w [] = (true, [], w) := by
  rw [flushLoop, dif_pos List.length_nil]

theorem flushLoop_ran (p : List Cell) :
    Ran W w ((flushLoop W w p).1 = false) (flushLoop W w p).2.1 (flushLoop W w p).2.2 := by
  fun_induction flushLoop W w p with
  | case1 w p hp => exact Ran.nil nofun
  | case2 w p hp hr => exact ⟨⟨rfl, rfl⟩, fun _ => ⟨_, List.mem_singleton_self _, hr⟩, fun _ => rfl⟩
  | case3 w p hp hr t ih =>
    exact Ran.cons rfl hr ih

theorem flushLoop_stage (p : List Cell) :
    Stage p (flushLoop W w p).2.1 [] ((flushLoop W w p).1 = true) := by
  fun_induction flushLoop W w p with
  | case1 w p hp => exact .of_done trivial (List.length_eq_zero_iff.mp hp).symm
  | case2 w p hp hr => exact ⟨⟨List.prefix_refl p, W.ask_le w p, trivial⟩, nofun, nofun⟩
  | case3 w p hp hr t ih =>
    refine ⟨.head (List.prefix_refl p) (W.ask_le w p) ih.resumes, fun h => ?_, nofun⟩
    · rw [taken_cons, List.append_assoc, ih.done h]; exact List.take_append_drop _ p

/-- When the callback takes everything it is offered the region goes out in one piece. -/
theorem flushLoop_full (p : List Cell) :
    (∀ e ∈ (flushLoop W w p).2.1, e.ret = e.offer.length) →
    (flushLoop W w p).2.1 = if p.length = 0 then [] else [⟨p, p.length⟩] := by
  fun_induction flushLoop W w p with
  | case1 w p hp => intro _; rw [if_pos hp]
  | case2 w p hp hr =>
    intro h
    have := h ⟨p, (W.ask w p).1⟩ (List.mem_singleton_self _)
    simp only [] at this
    omega
  | case3 w p hp hr t ih =>
    intro h
    have h1 : (W.ask w p).1 = p.length := h ⟨p, (W.ask w p).1⟩ List.mem_cons_self
    have h3 : t.2.1 = [] := by
      show (flushLoop W _ (p.drop (W.ask w p).1.toNat)).2.1 = []
      rw [h1, Int.toNat_natCast, List.drop_length, flushLoop_nil]
    rw [h3, if_neg hp, h1]

theorem directLoop_ran (bs : Nat) (d : List Cell) :
    Ran W w ((directLoop W w bs d).1 = false) (directLoop W w bs d).2.2.1 (directLoop W w bs d).2.2.2 := by
  fun_induction directLoop W w bs d with
  | case1 w d hd hr => exact ⟨⟨rfl, rfl⟩, fun _ => ⟨_, List.mem_singleton_self _, hr⟩, fun _ => rfl⟩
  | case2 w d hd hr t ih =>
    exact Ran.cons rfl hr ih
  | case3 w d hd => exact Ran.nil nofun

theorem directLoop_stage (bs : Nat) (d : List Cell) :
    Stage d (directLoop W w bs d).2.2.1 (directLoop W w bs d).2.1 True ∧
    ((directLoop W w bs d).1 = true → (directLoop W w bs d).2.1.length < bs) ∧
    ∀ e ∈ (directLoop W w bs d).2.2.1, e.offer.length = bs := by
  fun_induction directLoop W w bs d with
  | case1 w d hd hr =>
    refine ⟨.of_done ⟨List.take_prefix _ _, W.ask_le w _, trivial⟩ ?_, nofun, ?_⟩
    · rw [taken_cons, Event.taken, Int.toNat_eq_zero.mpr hr]; rfl
    · intro e he; rw [List.mem_singleton.mp he]; exact List.length_take_of_le hd
  | case2 w d hd hr t ih =>
    have hk : (W.ask w (d.take bs)).1.toNat ≤ bs := by
      have := W.ask_le w (d.take bs); rw [List.length_take_of_le hd] at this; omega
    refine ⟨.of_done (.head (List.take_prefix _ _) (W.ask_le w _) ih.1.resumes) ?_, ih.2.1, ?_⟩
    · rw [taken_cons, List.append_assoc, ih.1.done trivial, Event.taken, List.take_take, Nat.min_eq_left hk]
      exact List.take_append_drop _ d
    · intro e he
      rcases List.mem_cons.mp he with rfl | he
      · exact List.length_take_of_le hd
      · exact ih.2.2 e he
  | case3 w d hd => exact ⟨.of_done trivial rfl, fun _ => Nat.lt_of_not_le hd, nofun⟩

end

theorem poke_eq_some {buf : List Cell} {i : Nat} {d : List Cell} (h : i + d.length ≤ buf.length) :
    poke buf i d = some (buf.take i ++ d ++ buf.drop (i + d.length)) := if_pos h

theorem poke_some {buf b : List Cell} {i : Nat} {d : List Cell} (h : poke buf i d = some b) :
    i + d.length ≤ buf.length ∧ b.length = buf.length ∧ b.take (i + d.length) = buf.take i ++ d := by
  unfold poke at h
  split at h
  · next hle =>
    cases h
    have hl : (buf.take i ++ d).length = i + d.length := by
      rw [List.length_append, List.length_take]; omega
    refine ⟨hle, ?_, List.take_left' hl⟩
    rw [List.length_append, hl, List.length_drop]; omega
  · cases h

/-- Weak representation invariant: `state->next` lies inside the buffer.  Holds
after every call, successful or not. -/
def WInv (s : CState) : Prop := s.fill ≤ s.bufSize

/-- Invariant between successful calls: a non-empty buffer is never left full. -/
def Inv (s : CState) : Prop := s.fill ≤ s.bufSize ∧ (0 < s.bufSize → s.fill < s.bufSize)

/-- Bytes buffered but not yet handed to the callback. -/
def pending (s : CState) : List Cell := s.buf.take s.fill

theorem Inv.winv {s : CState} (h : Inv s) : WInv s := h.1

theorem clientOpen_inv (bpb : Nat) : Inv (clientOpen bpb) := by
  simp [Inv, clientOpen, CState.bufSize]

@[simp] theorem pending_clientOpen (bpb : Nat) : pending (clientOpen bpb) = [] := rfl

/-- What one `archive_write_client_write` call guarantees. -/
structure WriteSpec {σ : Type} (s : CState) (d : List Cell) (r : St × CState × List Event × σ) : Prop where
  not_oob : r.1 ≠ .oob
  winv : WInv r.2.1
  size : r.2.1.bufSize = s.bufSize
  ok : r.1 = .ok → Inv r.2.1 ∧ taken r.2.2.1 ++ pending r.2.1 = pending s ++ d
  pre : taken r.2.2.1 <+: pending s ++ d
  status : r.1 = .fatal ↔ ∃ e ∈ r.2.2.1, e.bad
  resumes : ∀ S t, pending s ++ d <+: S.drop t → Resumes S t r.2.2.1
  offers : ∀ e ∈ r.2.2.1, ∀ c ∈ e.offer, c ∈ pending s ++ d
  pend : ∀ c ∈ pending r.2.1, c ∈ pending s ++ d
  full : 0 < s.bufSize → (∀ e ∈ r.2.2.1, e.ret = e.offer.length) → ∀ e ∈ r.2.2.1, e.offer.length = s.bufSize

/-- The call is a stage over the pending bytes followed by the new data; it keeps back what is pending afterwards. -/
theorem WriteSpec.stage {σ : Type} {s : CState} {d : List Cell} {r : St × CState × List Event × σ}
    (h : WriteSpec s d r) : Stage (pending s ++ d) r.2.2.1 (pending r.2.1) (r.1 = .ok) :=
  ⟨h.resumes _ 0 (List.prefix_refl _), fun hk => (h.ok hk).2, h.pend⟩

theorem WriteSpec.of_stage {σ : Type} {s : CState} {d : List Cell} {r : St × CState × List Event × σ}
    (hst : Stage (pending s ++ d) r.2.2.1 (pending r.2.1) (r.1 = .ok))
    (not_oob : r.1 ≠ .oob) (winv : WInv r.2.1) (size : r.2.1.bufSize = s.bufSize) (inv : r.1 = .ok → Inv r.2.1)
    (status : r.1 = .fatal ↔ ∃ e ∈ r.2.2.1, e.bad)
    (full : 0 < s.bufSize → (∀ e ∈ r.2.2.1, e.ret = e.offer.length) → ∀ e ∈ r.2.2.1, e.offer.length = s.bufSize) :
    WriteSpec s d r :=
  ⟨not_oob, winv, size, fun h => ⟨inv h, hst.done h⟩, hst.pre, status, fun _ _ => hst.resumes_at,
    hst.resumes.offers, hst.rest_sub, full⟩

/-- What a call on the write path does: unconditionally, its events are the callback's answers and it
is fatal exactly when one of them is non-positive; on a well-formed buffer it meets `WriteSpec`. -/
structure Wrote {σ : Type} (W : Writer σ) (w : σ) (s : CState) (d : List Cell)
    (r : St × CState × List Event × σ) : Prop where
  ran : Ran W w (r.1 = .fatal) r.2.2.1 r.2.2.2
  spec : WInv s → WriteSpec s d r

theorem stOfBool (b : Bool) : ((if b then St.ok else St.fatal) = .fatal ↔ b = false) ∧
    ((if b then St.ok else St.fatal) = .ok ↔ b = true) ∧ (if b then St.ok else St.fatal) ≠ .oob := by
  cases b <;> decide

section
variable {σ : Type} (W : Writer σ) (w : σ) (s : CState) (d : List Cell)

theorem writeTail_nil (hb : 0 < s.bufSize) : writeTail W w s [] = (.ok, s, [], w) := by
  have h : directLoop W w s.bufSize [] = (true, [], [], w) := by
    rw [directLoop, dif_neg (show ¬ ([] : List Cell).length ≥ s.bufSize from Nat.not_le.mpr hb)]
  rw [writeTail, h]; rfl

/-- With nothing pending, the full blocks go out directly and the rest (less than a block) is stored. -/
theorem writeTail_wrote (h0 : s.fill = 0) : Wrote W w s d (writeTail W w s d) := by
  have hR := directLoop_ran W w s.bufSize d
  obtain ⟨hS, hlt, hlen⟩ := directLoop_stage W w s.bufSize d
  have hp : pending s = [] := by rw [pending, h0]; rfl
  unfold writeTail
  generalize directLoop W w s.bufSize d = r at hR hS hlt hlen ⊢
  obtain ⟨ok, rem, evs, w'⟩ := r
  dsimp only at hR hS hlt hlen ⊢
  cases ok with
  | false =>
    have hbad := hR.bad.mp rfl
    rw [if_pos rfl]
    refine ⟨⟨hR.threads, fun _ => hbad, fun _ => rfl⟩, fun hw =>
      .of_stage ?_ nofun hw rfl nofun ⟨fun _ => hbad, fun _ => rfl⟩ fun _ _ => hlen⟩
    show Stage (pending s ++ d) evs (pending s) _
    rw [hp]; exact ⟨hS.resumes, nofun, fun _ h => (List.not_mem_nil h).elim⟩
  | true =>
    have hlt : rem.length < s.buf.length := hlt rfl
    have hst : St.ok = .fatal ↔ ∃ e ∈ evs, e.bad := ⟨nofun, fun h => Bool.noConfusion (hR.bad.mpr h)⟩
    -- whichever way the rest is stored, the state `s'` afterwards holds it as its pending bytes
    have fin : ∀ s' : CState, pending s' = rem → s'.buf.length = s.buf.length → s'.fill < s.buf.length →
        Wrote W w s d (.ok, s', evs, w') := fun s' hpend hsz hfill =>
      have hfill : s'.fill < s'.buf.length := hsz ▸ hfill
      ⟨⟨hR.threads, hst⟩, fun _ => .of_stage (by rw [hp, hpend]; exact hS.imp fun _ => trivial) nofun
        (Nat.le_of_lt hfill) hsz (fun _ => ⟨Nat.le_of_lt hfill, fun _ => hfill⟩) hst fun _ _ => hlen⟩
    rw [if_neg Bool.noConfusion]
    split
    · obtain ⟨_, p2, p3⟩ := poke_some (poke_eq_some (show s.fill + rem.length ≤ s.buf.length by omega))
      rw [poke_eq_some (by omega)]
      exact fin _ (by rw [pending]; dsimp only; rw [p3, h0]; rfl) p2 (by dsimp only; omega)
    · have : rem = [] := List.eq_nil_of_length_eq_zero (by omega)
      exact fin s (this ▸ hp) rfl (by omega)

theorem clientWrite_wrote : Wrote W w s d (clientWrite W w s d) := by
  unfold clientWrite
  by_cases hb : s.bufSize = 0
  · -- pass-through
    rw [if_pos hb]
    dsimp only
    have hR := flushLoop_ran W w d
    have hS := flushLoop_stage W w d
    obtain ⟨b1, b2, b3⟩ := stOfBool (flushLoop W w d).1
    refine ⟨⟨hR.threads, b1.trans hR.bad⟩, fun hw => ?_⟩
    have hp : pending s = [] := by rw [pending, show s.fill = 0 by unfold WInv at hw; omega]; rfl
    refine .of_stage ?_ b3 hw rfl (fun _ => ⟨hw, fun (h : 0 < s.bufSize) => absurd h (by omega)⟩) (b1.trans hR.bad)
      (fun h => absurd h (by omega))
    show Stage (pending s ++ d) _ (pending s) _
    rw [hp]; exact hS.imp b2.mp
  · rw [if_neg hb]
    by_cases hf : s.bufSize - s.fill < s.bufSize
    · rw [if_pos hf]
      dsimp only
      -- `k` bytes of `d` are copied behind the pending bytes
      generalize htc : (if d.length > s.bufSize - s.fill then s.bufSize - s.fill else d.length) = k
      obtain ⟨k1, k2, k3⟩ : k ≤ s.bufSize - s.fill ∧ k ≤ d.length ∧ (s.bufSize - s.fill - k ≠ 0 → k = d.length) := by
        subst htc; split <;> omega
      cases hpk : poke s.buf s.fill (d.take k) with
      | none =>
        refine ⟨Ran.nil nofun, fun hw => ?_⟩
        rw [poke_eq_some (by rw [List.length_take_of_le k2]; unfold WInv CState.bufSize at *; omega)] at hpk
        cases hpk
      | some b =>
        obtain ⟨p1, p2, p3⟩ := poke_some hpk
        rw [List.length_take_of_le k2] at p1 p3
        have hP : pending s ++ d = b.take (s.fill + k) ++ d.drop k := by
          rw [p3, List.append_assoc, List.take_append_drop]; rfl
        dsimp only
        by_cases hfull : s.bufSize - s.fill - k = 0
        · -- the buffer is full: flush it, then go on with the rest of `d`
          rw [if_pos hfull]
          have hk : s.fill + k = b.length := by unfold CState.bufSize at hfull k1 hf; omega
          rw [hk, List.take_length] at hP
          dsimp only [CState.bufSize]
          rw [List.take_length]
          have hR := flushLoop_ran W w b
          have hS := flushLoop_stage W w b
          have hfl : (∀ e ∈ (flushLoop W w b).2.1, e.ret = e.offer.length) →
              ∀ e ∈ (flushLoop W w b).2.1, e.offer.length = s.bufSize := by
            intro hall e he
            rw [flushLoop_full W w b hall] at he
            split at he
            · cases he
            · rw [List.mem_singleton.mp he]; exact p2
          by_cases hok : (flushLoop W w b).1 = false
          · rw [if_pos hok]
            have hst : St.fatal = .fatal ↔ ∃ e ∈ (flushLoop W w b).2.1, e.bad := ⟨fun _ => hR.bad.mp hok, fun _ => rfl⟩
            refine ⟨⟨hR.threads, hst⟩, fun _ => .of_stage ?_ nofun (Nat.le_of_eq hk) p2 nofun hst fun _ => hfl⟩
            rw [hP]
            refine Stage.fail hS.resumes (List.prefix_append _ _) (fun c hc => List.mem_append_left _ ?_) nofun
            exact List.mem_of_mem_take hc
          · rw [if_neg hok]
            have hT := writeTail_wrote W (flushLoop W w b).2.2 ⟨b, 0⟩ (d.drop k) rfl
            have hW := hT.spec (Nat.zero_le _)
            have hran := Ran.seq ⟨hR.threads, iff_of_false nofun fun h => hok (hR.bad.mpr h)⟩ hT.ran
            refine ⟨hran, fun _ => .of_stage ?_ hW.not_oob hW.winv (hW.size.trans p2) (fun h => (hW.ok h).1) hran.bad ?_⟩
            · rw [hP]
              exact (hS.imp fun _ => eq_true_of_ne_false hok).seq hW.stage
            · intro hpos hall e he
              rcases List.mem_append.mp he with he | he
              · exact hfl (fun e he => hall e (List.mem_append_left _ he)) e he
              · exact (hW.full (Nat.lt_of_lt_of_eq hpos p2.symm) (fun e he => hall e (List.mem_append_right _ he)) e he).trans p2
        · -- the data ran out first
          rw [if_neg hfull]
          cases k3 hfull
          rw [List.take_length] at p3
          have hlt : s.fill + d.length < b.length := by unfold CState.bufSize at hfull; omega
          rw [List.drop_length, writeTail_nil W w _ (show 0 < b.length by omega)]
          exact ⟨Ran.nil nofun, fun _ => .of_stage (.of_done trivial p3) nofun (Nat.le_of_lt hlt) p2
            (fun _ => ⟨Nat.le_of_lt hlt, fun _ => hlt⟩) (Ran.nil (W := W) (w := w) nofun).bad nofun⟩
    · rw [if_neg hf]
      exact writeTail_wrote W w s d (by omega)

end

/-- Number of zero bytes `archive_write_client_close` appends to `fill` pending bytes. -/
def padLen (bpb : Nat) (bil : Int) (fill : Nat) : Nat :=
  if fill = 0 then 0 else lastBlockLen bpb bil fill - fill

theorem lastBlockTarget_le (bpb : Nat) (bil : Int) (n : Nat) : lastBlockTarget bpb bil n ≤ bpb := by
  unfold lastBlockTarget; dsimp only; split <;> split <;> omega

theorem lastBlockLen_ge (bpb : Nat) (bil : Int) (n : Nat) : n ≤ lastBlockLen bpb bil n := by
  unfold lastBlockLen; split <;> omega

theorem lastBlockLen_le (bpb : Nat) (bil : Int) (n : Nat) (h : n ≤ bpb) : lastBlockLen bpb bil n ≤ bpb := by
  unfold lastBlockLen; have := lastBlockTarget_le bpb bil n; split <;> omega

/-- The last block as handed to the callback: the pending bytes and the zero fill. -/
def lastBlock (s : CState) (bpb : Nat) (bil : Int) : List Cell :=
  pending s ++ List.replicate (padLen bpb bil s.fill) (some 0)

/-- What `archive_write_client_close` guarantees. -/
structure CloseSpec {σ : Type} (s : CState) (bpb : Nat) (bil : Int) (r : St × List Event × σ) : Prop where
  not_oob : r.1 ≠ .oob
  ok : r.1 = .ok → taken r.2.1 = lastBlock s bpb bil
  pre : taken r.2.1 <+: lastBlock s bpb bil
  status : r.1 = .fatal ↔ ∃ e ∈ r.2.1, e.bad
  resumes : ∀ S t, lastBlock s bpb bil <+: S.drop t → Resumes S t r.2.1
  offers : ∀ e ∈ r.2.1, ∀ c ∈ e.offer, c ∈ lastBlock s bpb bil
  full : (∀ e ∈ r.2.1, e.ret = e.offer.length) →
    r.2.1 = if s.fill = 0 then [] else [⟨lastBlock s bpb bil, (lastBlock s bpb bil).length⟩]
  none : s.fill = 0 → r.2.1 = []

/-- The padded buffer, if the `memset` stayed inside it, starts with the last block. -/
theorem padded_take {s : CState} {bpb : Nat} {bil : Int} {b : List Cell} (hf : s.fill ≠ 0)
    (h : (if s.fill < lastBlockTarget bpb bil s.fill then
        poke s.buf s.fill (List.replicate (lastBlockTarget bpb bil s.fill - s.fill) (some 0))
      else some s.buf) = some b) :
    b.length = s.buf.length ∧ b.take (lastBlockLen bpb bil s.fill) = lastBlock s bpb bil := by
  rw [lastBlock, padLen, if_neg hf, lastBlockLen]
  split at h
  · next hlt =>
    obtain ⟨_, p2, p3⟩ := poke_some h
    rw [List.length_replicate] at p3
    rw [if_pos hlt, pending, ← p3, Nat.add_sub_cancel' (Nat.le_of_lt hlt)]
    exact ⟨p2, rfl⟩
  · next hlt =>
    cases h
    rw [if_neg hlt, Nat.sub_self]
    exact ⟨rfl, (List.append_nil _).symm⟩

section
variable {σ : Type} (W : Writer σ) (w : σ) (s : CState) (bpb : Nat) (bil : Int)

/-- The three ways `archive_write_client_close` can go: nothing pending; a store or the final read
outside the buffer (only when `bytes_per_block` is not the buffer size); the last block is flushed. -/
theorem clientClose_cases :
    (s.fill = 0 ∧ clientClose W w s bpb bil = (.ok, [], w)) ∨
    s.fill ≠ 0 ∧ ((clientClose W w s bpb bil = (.oob, [], w) ∧ (WInv s → bpb ≠ s.bufSize)) ∨
      ∃ q, (WInv s → q = lastBlock s bpb bil) ∧ clientClose W w s bpb bil =
        (if (flushLoop W w q).1 then .ok else .fatal, (flushLoop W w q).2.1, (flushLoop W w q).2.2)) := by
  unfold clientClose
  by_cases hf : s.fill = 0
  · exact .inl ⟨hf, if_neg (not_not_intro hf)⟩
  · refine .inr ⟨hf, ?_⟩
    rw [if_pos hf]
    dsimp only
    have hbl : WInv s → s.bufSize - (s.bufSize - s.fill) = s.fill := fun hw => by unfold WInv at hw; omega
    split
    · next hpad =>
      refine .inl ⟨rfl, fun hw hbpb => ?_⟩
      rw [hbl hw] at hpad
      have := lastBlockTarget_le bpb bil s.fill
      split at hpad
      · rw [poke_eq_some (by rw [List.length_replicate]; unfold CState.bufSize at hbpb; omega)] at hpad
        cases hpad
      · cases hpad
    · next b hpad =>
      split
      · refine .inr ⟨_, fun hw => ?_, rfl⟩
        rw [hbl hw] at hpad ⊢
        exact (padded_take hf hpad).2
      · next hlen =>
        refine .inl ⟨rfl, fun hw hbpb => hlen ?_⟩
        rw [hbl hw] at hpad ⊢
        rw [(padded_take hf hpad).1, ← CState.bufSize, ← hbpb]
        exact lastBlockLen_le bpb bil s.fill (hbpb ▸ hw)

theorem clientClose_ran : Ran W w ((clientClose W w s bpb bil).1 = .fatal) (clientClose W w s bpb bil).2.1
    (clientClose W w s bpb bil).2.2 := by
  rcases clientClose_cases W w s bpb bil with ⟨_, h⟩ | ⟨_, ⟨h, _⟩ | ⟨q, _, h⟩⟩ <;> rw [h]
  · exact Ran.nil nofun
  · exact Ran.nil nofun
  · exact ⟨(flushLoop_ran W w q).threads, (stOfBool _).1.trans (flushLoop_ran W w q).bad⟩

/-- On a well-formed buffer the close is a stage over the last block, whatever `bytes_per_block` is. -/
theorem clientClose_stage (hw : WInv s) :
    Stage (lastBlock s bpb bil) (clientClose W w s bpb bil).2.1 [] ((clientClose W w s bpb bil).1 = .ok) := by
  rcases clientClose_cases W w s bpb bil with ⟨hf, h⟩ | ⟨_, ⟨h, _⟩ | ⟨q, hq, h⟩⟩ <;> rw [h]
  · exact .of_done trivial (by rw [lastBlock, padLen, if_pos hf, pending, hf]; rfl)
  · exact ⟨trivial, nofun, fun _ h => (List.not_mem_nil h).elim⟩
  · have hS := flushLoop_stage W w q
    rw [← hq hw]
    exact hS.imp (stOfBool _).2.1.mp

theorem clientClose_spec (hw : WInv s) (hbpb : bpb = s.bufSize) :
    CloseSpec s bpb bil (clientClose W w s bpb bil) := by
  have hS := clientClose_stage W w s bpb bil hw
  have hR := (clientClose_ran W w s bpb bil).bad
  have hC := clientClose_cases W w s bpb bil
  generalize clientClose W w s bpb bil = r at hS hR hC ⊢
  -- the three fields that say which way the close went
  obtain ⟨h1, h2, h3⟩ : r.1 ≠ .oob ∧
      ((∀ e ∈ r.2.1, e.ret = e.offer.length) →
        r.2.1 = if s.fill = 0 then [] else [⟨lastBlock s bpb bil, (lastBlock s bpb bil).length⟩]) ∧
      (s.fill = 0 → r.2.1 = []) := by
    rcases hC with ⟨hf, rfl⟩ | ⟨hf, ⟨_, hne⟩ | ⟨q, hq, rfl⟩⟩
    · exact ⟨nofun, fun _ => (if_pos hf).symm, fun _ => rfl⟩
    · exact absurd hbpb (hne hw)
    · refine ⟨(stOfBool _).2.2, fun hall => ?_, fun h => absurd h hf⟩
      have hne : (lastBlock s bpb bil).length ≠ 0 := by
        rw [lastBlock, List.length_append, pending, List.length_take]; unfold WInv CState.bufSize at hw; omega
      rw [flushLoop_full W w q hall, hq hw, if_neg hne, if_neg hf]
  exact ⟨h1, fun h => by simpa using hS.done h, hS.pre, hR, fun _ _ => hS.resumes_at, hS.resumes.offers, h2, h3⟩

end

end LA.CW
