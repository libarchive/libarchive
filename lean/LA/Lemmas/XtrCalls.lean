/-
Helper lemmas for C04: what each procedure of the writer calls, stated
once for an arbitrary class of calls or an arbitrary assertion carried along
(`spec_createObject`, `spec_createDir`, `restoreEntry_inv`,
`applyFixup_inv`); then the family calls (`QCall Q`) of an entry, and the two
calls that are not family calls (`chmod`, `link`), safe under what has been checked.
-/
import LA.Lemmas.XtrCheck
namespace LA.Xtr
open LA.FS LA.PathClean

def Anc (name p : List Nat) : Prop := p = name ∨ ∃ rest, name = p ++ SLASH :: rest

theorem anc_parent {name p d b : List Nat} (h : Anc name p) (hp : p = d ++ SLASH :: b) : Anc name d := by
  rcases h with rfl | ⟨rest, rfl⟩
  · exact Or.inr ⟨b, hp⟩
  · exact Or.inr ⟨b ++ SLASH :: rest, by rw [hp]; simp⟩

theorem anc_dirBase {name d b : List Nat} (h : dirBase name = (some d, b)) : Anc name d := by
  have := dirBase_eq name
  rw [h] at this
  exact Or.inr ⟨b, this.1⟩

/-- What makes the calls on the checked path `name`, its ancestors and its temporary name
family calls of `Q`. -/
structure FamCtx (Q name : List Nat) : Prop where
  anc : ∀ p, Anc name p → Fam Q p
  tmp : Fam Q (tmpName name)

theorem FamCtx.self {Q name : List Nat} (h : FamCtx Q name) : Fam Q name := h.anc name (Or.inl rfl)

theorem FamCtx.dirCalls {Q name : List Nat} (h : FamCtx Q name) :
    ∀ p, Anc name p → QCall Q (.stat p) ∧ QCall Q (.unlink p) ∧ ∀ m, QCall Q (.mkdir p m) :=
  fun p hp => ⟨trivial, h.anc p hp, fun _ => h.anc p hp⟩

/-- A call on the entry's own pathname (or its temporary name), or on a descriptor the writer holds. -/
def OwnCall (name : List Nat) : Sys → Prop
  | .lstat p | .stat p | .mkdir p _ | .openCreat p _ | .openTrunc p | .mkstemp p _ | .unlink p | .rmdir p
  | .mkfifo p _ | .unlinkTmp p | .lchmod p _ | .utimens p _ | .xOpen p _ => p = name
  | .fwrite _ | .ftruncate _ | .fchmod _ | .futimens _ | .fclose | .xFstat | .xChmod _ | .xUtimens _ | .xClose => True
  | _ => False

theorem ownCall_qcall {Q name : List Nat} (hF : FamCtx Q name) {s : Sys} (h : OwnCall name s) : QCall Q s := by
  cases s <;> first | trivial | exact h.elim | exact h ▸ hF.self | exact h ▸ hF.tmp

/-- The per-entry state `es'` is `es` later in the same `restore_entry`: the same queued fix-ups,
`todoMode` at most cleared, `hasFd` at most set. -/
def ES.Later (es es' : ES) : Prop :=
  es'.fix = es.fix ∧ (es'.todoMode = true → es.todoMode = true) ∧ (es'.hasFd = false → es.hasFd = false)

theorem ES.Later.refl (es : ES) : es.Later es := ⟨rfl, id, id⟩

/-- `create_filesystem_object` calls on the entry's own name; a symlink entry also makes the
link, a hard-link entry checks the link target first and then links to it.  The state it returns is
a later one. -/
theorem spec_createObject {P : Sys → Prop} (fl : XFlags) (um : Nat) (e : Entry) (name : List Nat) (es : ES)
    (hown : ∀ s, OwnCall name s → P s) (hsym : e.kind = .symlink → P (.symlink e.link name))
    (hlnk : e.kind = .hardlink → P (.link e.link name) ∧ ∀ lc, AllCalls P (checkSymlinks fl true lc)) :
    Spec P (fun r => es.Later r.2) (createObject fl um e name es) := by
  -- "if (a->flags & ARCHIVE_EXTRACT_SAFE_WRITES) unlink(a->name);" in front of `k`
  have hunl : ∀ {k : PUnit → Prog (Option Err × ES)}, Spec P (fun r => es.Later r.2) (k ⟨⟩) →
      Spec P (fun r => es.Later r.2)
        (if fl.safeWrites = true then sys (.unlink name) >>= fun _ => k ⟨⟩ else k ⟨⟩) :=
    fun hk => spec_ite (spec_sys_bind (hown _ rfl) fun _ => hk) hk
  have hclr : es.Later { es with todoMode := false, todoTimes := false, defMode := false, defTimes := false } :=
    ⟨rfl, nofun, id⟩
  unfold createObject
  split
  · rename_i hk
    split
    · refine spec_bind (spec_of_allCalls ((hlnk hk).2 _)) (fun r _ => spec_ite (.refl es) ?_)
      extract_lets k
      refine hunl ?_
      refine spec_sys_bind (hlnk hk).1 (fun r => ?_)
      split
      · exact .refl es
      · refine spec_ite hclr (spec_sys_bind (hown _ rfl) fun r2 => ?_)
        split
        · refine spec_sys_bind (hown _ rfl) (fun r3 => ?_)
          split
          · exact .refl es
          · exact ⟨rfl, id, nofun⟩
        · exact hclr
        · exact .refl es
        · exact .refl es
    · exact .refl es
  · rename_i hk
    extract_lets k
    refine hunl ?_
    exact spec_sys_bind (hsym hk) fun _ => .refl es
  · split
    · refine spec_sys_bind (hown _ rfl) (fun r => ?_)
      split
      · exact .refl es
      · exact ⟨by split <;> rfl, nofun, by split <;> exact id⟩
    · refine spec_sys_bind (hown _ rfl) (fun r => ?_)
      split
      · exact .refl es
      · show es.Later (if _ then _ else _)
        split
        · exact ⟨rfl, nofun, id⟩
        · exact .refl es
    · refine spec_sys_bind (hown _ rfl) (fun r => ?_)
      split
      · exact ⟨rfl, id, id⟩
      · show es.Later (if _ then _ else _)
        split
        · exact ⟨rfl, nofun, nofun⟩
        · exact ⟨rfl, id, nofun⟩

/-- `create_dir(p)` works on `p` and its ancestors only: `stat`, `unlink`, `mkdir`; the fix-ups it
queues are for such directories. -/
theorem spec_createDir {P : Sys → Prop} (name : List Nat)
    (hP : ∀ p, Anc name p → P (.stat p) ∧ P (.unlink p) ∧ ∀ m, P (.mkdir p m)) (fl : XFlags) (um : Nat) :
    ∀ (n : Nat) (p : List Nat), p.length = n → Anc name p →
      Spec P (fun r => ∀ f ∈ r.2, Anc name f.name) (createDir fl um p) := by
  intro n
  induction n using Nat.strongRecOn with
  | _ n ih =>
    intro p hn ha
    obtain ⟨hstat, hunl, hmk⟩ := hP p ha
    have hnil : ∀ f ∈ ([] : List Fixup), Anc name f.name := nofun
    rw [createDir]
    split
    rename_i slash base hdbe
    have hrec : ∀ d, slash = some d → Spec P (fun r => ∀ f ∈ r.2, Anc name f.name) (createDir fl um d) := by
      intro d hd
      subst hd
      exact ih d.length (hn ▸ dirBase_lt p d base hdbe) d rfl (anc_parent ha (by have := dirBase_eq p; rw [hdbe] at this; exact this.1))
    split
    · split
      · exact hrec _ rfl
      · exact hnil
    · refine spec_sys_bind hstat (fun r => spec_bind (Q' := fun r => ∀ f ∈ r.2, Anc name f.name) ?_ (fun a ha' => ?_))
      · split
        · exact hnil
        · refine spec_ite hnil (spec_sys_bind hunl fun r2 => ?_)
          split <;> exact hnil
        · refine spec_ite hnil ?_
          split
          · exact hrec _ rfl
          · exact hnil
        · exact hnil
      · split
        split
        · exact ha'
        · refine spec_sys_bind (hmk _) (fun r3 => ?_)
          split
          · refine spec_sys_bind hstat (fun r4 => ?_)
            split <;> exact ha'
          · refine spec_ite (fun f hf => ?_) ha'
            rcases List.mem_cons.mp hf with rfl | hf
            · exact ha
            · exact ha' f hf
        · exact ha'

theorem spec_createParentDir {P : Sys → Prop} (name : List Nat)
    (hP : ∀ p, Anc name p → P (.stat p) ∧ P (.unlink p) ∧ ∀ m, P (.mkdir p m)) (fl : XFlags) (um : Nat) :
    Spec P (fun r => ∀ f ∈ r.2, Anc name f.name) (createParentDir fl um name) := by
  unfold createParentDir
  split
  · exact nofun
  · rename_i d hd
    exact spec_createDir name hP fl um _ d rfl (anc_dirBase (b := (dirBase name).2) (Prod.ext hd rfl))

/-- `restore_entry` around its calls of `create_filesystem_object` and `create_parent_dir`: an
assertion `I` on the per-entry state and the process is carried through when those two carry it,
the calls on the entry's own name keep it, and it survives clearing `todoMode`, setting `hasFd`
and any change of the other fields but `fix`. -/
theorem restoreEntry_inv {I : ES → Proc → Prop} (fl : XFlags) (um : Nat) (e : Entry) (name : List Nat)
    (hown : ∀ s, OwnCall name s → ∀ es, Triple (I es) (sys s) (fun _ => I es))
    (hco : ∀ es, Triple (I es) (createObject fl um e name es) (fun r => I r.2))
    (hcp : ∀ es, Triple (I es) (createParentDir fl um name) (fun r => I { es with fix := r.2 ++ es.fix }))
    (hmono : ∀ es es' pr, es.Later es' → I es pr → I es' pr)
    (es : ES) : Triple (I es) (restoreEntry fl um e name es) (fun r => I r.2) := by
  have hunl : ∀ es, Triple (I es) (sys (.unlink name)) (fun _ => I es) := hown (.unlink name) rfl
  have hrmd : ∀ es, Triple (I es) (sys (.rmdir name)) (fun _ => I es) := hown (.rmdir name) rfl
  have hcoPure : ∀ es, Triple (I es)
      (do let x ← createObject fl um e name es; pure ((none : Option St), x.1, x.2))
      (fun r => I r.2.2) :=
    fun es => triple_bind (hco es) (fun x => triple_skip)
  unfold restoreEntry
  refine triple_bind (Q := fun _ => I es) ?_ ?_
  · refine triple_ite (fun _ => ?_) (fun _ => triple_skip)
    refine triple_bind (hunl es) (fun r => ?_)
    split
    · exact triple_skip
    · refine triple_bind (hrmd es) (fun r2 => ?_)
      split <;> exact triple_skip
    · exact triple_skip
  · intro b
    refine triple_ite (fun _ => triple_skip) (fun _ => ?_)
    refine triple_bind (hco es) (fun x1 => ?_)
    refine triple_bind (Q := fun x => I x.2) ?_ ?_
    · refine triple_ite (fun _ => ?_) (fun _ => triple_skip)
      exact triple_bind (hcp x1.2) (fun x2 => hco _)
    · intro x3
      refine triple_ite (fun _ => triple_skip) (fun _ => ?_)
      refine triple_ite (fun _ => triple_pure (fun pr hp => ?_)) (fun _ => ?_)
      · split
        · exact hmono x3.2 _ pr ⟨rfl, nofun, id⟩ hp
        · exact hp
      refine triple_bind (Q := fun x => I x.2.2) ?_ ?_
      · refine triple_ite (fun _ => ?_) (fun _ => ?_)
        · refine triple_bind (hrmd x3.2) (fun r => ?_)
          split
          · exact triple_skip
          · exact hcoPure x3.2
        · refine triple_ite (fun _ => ?_) (fun _ => triple_skip)
          refine triple_bind (Q := fun _ => I x3.2) ?_ (fun r1 => ?_)
          · refine triple_ite (fun _ => hown (.stat name) rfl _) (fun _ => triple_skip)
          refine triple_bind (Q := fun _ => I x3.2) ?_ (fun r => ?_)
          · split
            · exact triple_skip
            · exact hown (.lstat name) rfl _
          · split
            · rename_i s
              refine triple_ite (fun _ => ?_) (fun _ => ?_)
              · refine triple_ite (fun _ => ?_) (fun _ => ?_)
                · refine triple_bind (hown (.mkstemp name _) rfl x3.2) (fun r2 => ?_)
                  split
                  · exact triple_skip
                  · exact triple_pure (fun pr hp => hmono x3.2 _ pr ⟨rfl, id, nofun⟩ hp)
                · refine triple_bind (hunl x3.2) (fun r2 => ?_)
                  split
                  · exact triple_skip
                  · exact hcoPure x3.2
              · refine triple_ite (fun _ => ?_) (fun _ => ?_)
                · refine triple_bind (hrmd x3.2) (fun r2 => ?_)
                  split
                  · exact triple_skip
                  · exact hcoPure x3.2
                · exact triple_pure (fun pr hp => hmono x3.2 _ pr
                    ⟨by split <;> rfl, by split <;> exact id, by split <;> exact id⟩ hp)
            · exact triple_skip
      · intro x4
        obtain ⟨early, en4, es4⟩ := x4
        cases early with
        | some s => exact triple_skip
        | none => exact triple_ite (fun _ => triple_skip) (fun _ => triple_skip)

/-- The case of an assertion on the process alone that a class `C` of calls keeps. -/
theorem restoreEntry_keeps {J : Proc → Prop} {C : Sys → Prop} (hC : ∀ s pr, C s → J pr → J (exec s pr).2)
    (fl : XFlags) (um : Nat) (e : Entry) (name : List Nat) (hown : ∀ s, OwnCall name s → C s)
    (hco : ∀ es, AllCalls C (createObject fl um e name es)) (hcp : AllCalls C (createParentDir fl um name))
    (es : ES) : Triple J (restoreEntry fl um e name es) (fun _ => J) :=
  restoreEntry_inv (I := fun _ => J) fl um e name (fun s hs _ => triple_sys_keep (fun pr => hC s pr (hown s hs)))
    (fun es => triple_of_allCalls hC (hco es)) (fun _ => triple_of_allCalls hC hcp) (fun _ _ _ _ h => h) es

/-- One fix-up at close: `J` holds between fix-ups; `K name` is what the clean-up and the symlink
check establish about the name they pass on, and the calls on that name keep it. -/
theorem applyFixup_inv {J : Proc → Prop} {K : List Nat → Proc → Prop} (fl : XFlags) (p : Fixup)
    (hchk : ∀ q, cleanup fl.clean (stripTrailingSlashes p.name) = .ok q →
      Triple J (checkSymlinks { fl with unlink := false } true q) (fun r pr' => J pr' ∧ (r = .ok → K q pr')))
    (hraw : fl.secureSymlinks = false → ∀ pr, J pr → K (stripTrailingSlashes p.name) pr)
    (hown : ∀ name s, OwnCall name s → Triple (K name) (sys s) (fun _ => K name))
    (hKJ : ∀ name pr, K name pr → J pr) : Triple J (applyFixup fl p) (fun _ => J) := by
  unfold applyFixup
  refine triple_ite (fun _ => triple_skip) (fun _ => ?_)
  refine triple_bind (Q := fun o pr' => J pr' ∧ ∀ q, o = some q → K q pr') ?_ (fun o => ?_)
  · refine triple_ite (fun _ => ?_) (fun h => triple_pure fun pr hp => ⟨hp, fun q hq => ?_⟩)
    · split
      · rename_i q hq
        refine triple_bind (hchk q hq) (fun r => triple_ite (fun hr => ?_) (fun _ => ?_))
        · exact triple_pure fun pr hp => ⟨hp.1, fun q' hq' => Option.some.inj hq' ▸ hp.2 hr⟩
        · exact triple_pure fun pr hp => ⟨hp.1, fun q' hq' => nomatch hq'⟩
      · exact triple_pure fun pr hp => ⟨hp, fun q' hq' => nomatch hq'⟩
    · exact Option.some.inj hq ▸ hraw (by simpa using h) pr hp
  · cases o with
    | none => exact triple_pure (fun _ h => h.1)
    | some name =>
      refine triple_conseq (P := K name) (Q := fun _ => K name) (fun pr h => h.2 name rfl) ?_ (fun _ => hKJ name)
      refine triple_bind (hown name _ rfl) (fun ro => ?_)
      refine triple_bind (Q := fun _ => K name) ?_ (fun v => ?_)
      · refine triple_ite (fun _ => triple_skip) (fun _ => triple_ite (fun _ => ?_) (fun _ => ?_))
        · refine triple_bind (hown name _ trivial) (fun s => ?_)
          split <;> exact triple_skip
        · refine triple_bind (hown name _ rfl) (fun s => ?_)
          split <;> exact triple_skip
      · have hmode : ∀ {k : Prog Unit}, Triple (K name) k (fun _ => K name) →
            Triple (K name) (if p.doMode = true then
                (if (errOf ro).isNone = true then sys (.xChmod (p.mode &&& 4095)) else sys (.lchmod name (p.mode &&& 4095)))
                  >>= fun _ => k
              else k) (fun _ => K name) :=
          fun hk => triple_ite (fun _ => triple_bind
            (triple_ite (fun _ => hown name (.xChmod _) trivial) (fun _ => hown name (.lchmod name _) rfl)) (fun _ => hk))
            (fun _ => hk)
        have hclose : Triple (K name) (if (errOf ro).isNone = true then do let _ ← sys .xClose; pure () else pure ())
            (fun _ => K name) :=
          triple_ite (fun _ => triple_bind (hown name _ trivial) (fun _ => triple_skip)) (fun _ => triple_skip)
        refine triple_ite (fun _ => hclose) (fun _ => triple_ite (fun _ => ?_) (fun _ => hmode hclose))
        exact triple_bind (triple_ite (fun _ => hown name (.xUtimens _) trivial) (fun _ => hown name (.utimens name _) rfl))
          (fun _ => hmode hclose)

/-- `q ++ "/x"`: a path whose leading components are all the components of `q`. -/
def qx (q : List Nat) : List Nat := q ++ [SLASH, 120]

theorem initOf_qx {q : List Nat} (h : Good q) : initOf (qx q) = compsOf q := by
  unfold initOf qx
  have hs : splitSlash (q ++ [SLASH, 120]) = splitSlash q ++ [[120]] := by
    have := splitSlash_append q [120]
    rw [this]; rfl
  have hg : Good (q ++ [SLASH, 120]) := by
    intro c hc
    rw [hs] at hc
    simp only [List.mem_append, List.mem_singleton] at hc
    rcases hc with hc | rfl
    · exact h c hc
    · decide
  rw [compsOf_good hg, hs, compsOf_good h]
  simp

theorem sem_weaken {c : Ctx} {q q2 : List Nat} {pr : Proc} (h : Sem c q pr) (hp : initOf q2 <+: initOf q) :
    Sem c q2 pr := ⟨h.inv, h.wf, noLinkAt_prefix hp h.nl⟩

theorem sem_of_full {c : Ctx} {q : List Nat} {pr : Proc} (hq : Good q) (h : Sem c (qx q) pr) : Sem c q pr :=
  sem_weaken h (by rw [initOf_qx hq]; exact List.dropLast_prefix _)

theorem sem_base {c : Ctx} {q : List Nat} {pr : Proc} (h : Sem c q pr) : Sem c [] pr :=
  sem_weaken h (by simp [initOf, compsOf, splitSlash])

/-- `chmod(name)` (which follows a final symlink) when no component of `name`, the last one included, is a symlink. -/
theorem sem_exec_chmod {c : Ctx} {q name : List Nat} {pr : Proc} (hS : Sem c q pr) (hn : Good name)
    (hfull : NoLinkAt pr.fs c.T (compsOf name)) (m : Nat) : Sem c q (exec (.chmod name m) pr).2 := by
  simp only [exec]
  split
  · exact hS
  · rename_i pos t hl
    split
    · rename_i fs' he
      refine sem_chmodH hS ?_ he
      obtain ⟨tT, hT, hTd⟩ := hS.inv.tdir
      replace hl := (lookupFollow_ok hl).1
      unfold lookupFollow0 at hl
      simp only [hn.ne_nil, if_false, isAbs_good hn, Bool.false_eq_true, hS.inv.cwd] at hl
      split at hl
      · simp at hl
      · rename_i pos' hw
        have hp := (walk_noLink pr.fs maxLinks (compsOf name) c.T tT (rel_good hn).noDots hT (hfull tT hT) pos' hw).1
        subst hp
        split at hl
        · rename_i t' hg
          split at hl
          · simp at hl
          · simp only [Except.ok.injEq, Prod.mk.injEq] at hl
            obtain ⟨rfl, rfl⟩ := hl
            cases t' with
            | dir => exact List.prefix_append _ _
            | file i =>
              apply hS.inv.refs tT hT (compsOf name) i
              rw [get_append, hT] at hg; exact hg
        · simp at hl
    · exact hS

/-- `chmod(".")` in the target directory. -/
theorem sem_exec_chmod_dot {c : Ctx} {q : List Nat} {pr : Proc} (hS : Sem c q pr) (m : Nat) :
    Sem c q (exec (.chmod [DOT] m) pr).2 := by
  simp only [exec]
  split
  · exact hS
  · rename_i pos t hl
    split
    · rename_i fs' he
      refine sem_chmodH hS ?_ he
      obtain ⟨tT, hT, hTd⟩ := hS.inv.tdir
      replace hl := (lookupFollow_ok hl).1
      unfold lookupFollow0 at hl
      have e : compsOf [DOT] = [DOTN] := by decide
      simp only [show ([DOT] : List Nat) ≠ [] by decide, if_false, show isAbs [DOT] = false by decide,
        Bool.false_eq_true, hS.inv.cwd, e] at hl
      rw [walk] at hl
      simp only [hT] at hl
      cases tT with
      | file i => simp [Tree.isDir] at hTd
      | dir mm mt es =>
        simp only [↓reduceIte] at hl
        rw [walk] at hl
        simp only [hT, show trailingSlash [DOT] = false by decide, Bool.false_and, Bool.false_eq_true, if_false,
          Except.ok.injEq, Prod.mk.injEq] at hl
        obtain ⟨rfl, rfl⟩ := hl
        exact List.prefix_refl _
    · exact hS

theorem keep_eq_filter (p : List Nat) :
    keep (splitSlash p) = (compsOf p).filter (fun c => !(c == DOTN)) := by
  unfold keep compsOf
  rw [List.filter_filter]
  congr 1
  funext c
  simp [DOTN, Bool.and_comm]

/-- What a successful `cleanup_pathname_fsobj` under NODOTDOT|NOABSOLUTEPATHS says about the *input* string
and how the result's components relate to it. -/
theorem cleanup_rel {old lc : List Nat} (hn : ∀ x ∈ old, x ≠ 0)
    (h : cleanup { nodotdot := true, noabs := true } old = .ok lc) :
    old ≠ [] ∧ isAbs old = false ∧ (∀ c ∈ compsOf old, c ≠ DOTDOTN) ∧
    ((lc = [DOT] ∧ keep (splitSlash old) = []) ∨
     (Good lc ∧ compsOf lc = (compsOf old).filter (fun c => !(c == DOTN)))) := by
  obtain ⟨hne, habs, hdd, hq⟩ := cleanup_secure_ok hn h
  refine ⟨hne, by simp [isAbs, habs], fun c hc hcd => hdd (by rw [← show c = [DOT, DOT] from hcd]; exact (List.mem_filter.mp hc).1), ?_⟩
  rcases hq with hq | ⟨hk, rfl, hsj⟩
  · exact Or.inl hq
  · have hg : Good (joinSlash (keep (splitSlash old))) := by
      intro c hc
      rw [hsj] at hc
      obtain ⟨h1, h2, h3⟩ := keep_mem hc
      exact ⟨h2, h3, fun e => hdd (by rw [← show c = [DOT, DOT] from e]; exact h1)⟩
    exact Or.inr ⟨hg, by rw [compsOf_good hg, hsj, keep_eq_filter]⟩

theorem filter_snoc_keep (l : List Name) (a : Name) (ha : a ≠ DOTN) :
    (l ++ [a]).filter (fun c => !(c == DOTN)) = l.filter (fun c => !(c == DOTN)) ++ [a] := by
  rw [List.filter_append]
  have : (a == DOTN) = false := by simpa using ha
  simp [List.filter, this]

/-- The object an *uncleaned* hard-link target names is inside the target directory, when its
cleaned form passed the symlink check. -/
theorem lookup_raw_inside {c : Ctx} {q old lc : List Nat} {pr : Proc} (hS : Sem c q pr)
    (hn : ∀ x ∈ old, x ≠ 0) (hcl : cleanup { nodotdot := true, noabs := true } old = .ok lc)
    (hnl : Good lc → NoLinkAt pr.fs c.T (initOf lc)) {pos : List Name} {i : Nat}
    (h : lookupNoFollow pr.fs pr.cwd old = .ok (pos, .file i)) : c.inS i ∧ i < pr.fs.next := by
  obtain ⟨hne, habs, hndd, hrel⟩ := cleanup_rel hn hcl
  obtain ⟨tT, hT, hTd⟩ := hS.inv.tdir
  unfold lookupNoFollow at h
  split at h
  · simp at h
  · -- the path named an object by ".", ".." or a trailing '/': that is a directory
    rename_i pos' hl
    exfalso
    replace hl := (locate_ok hl).1
    unfold locate0 at hl
    simp only [hne, if_false, habs, Bool.false_eq_true, hS.inv.cwd] at hl
    split at hl
    · simp only [Except.ok.injEq, Loc.obj.injEq] at hl
      subst hl
      simp only [hT] at h
      simp only [Except.ok.injEq, Prod.mk.injEq] at h
      rw [h.2] at hTd; simp [Tree.isDir] at hTd
    · split at hl
      · split at hl
        · simp at hl
        · split at hl
          · rename_i m mt es hg
            simp only [Except.ok.injEq, Loc.obj.injEq] at hl
            subst hl
            simp only [hg, Except.ok.injEq, Prod.mk.injEq] at h
            exact absurd h.2 (by simp)
          · simp at hl
          · simp at hl
      · split at hl
        · simp at hl
        · split at hl
          · split at hl <;> simp at hl
          · simp at hl
          · simp at hl
  · rename_i d n hl
    replace hl := (locate_ok hl).1
    unfold locate0 at hl
    simp only [hne, if_false, habs, Bool.false_eq_true, hS.inv.cwd] at hl
    split at hl
    · simp at hl
    · rename_i last hlast
      split at hl
      · split at hl
        · simp at hl
        · split at hl <;> simp at hl
      · rename_i hcond
        have hl1 : last ≠ DOTN := fun e => hcond (Or.inl e)
        have hsplit := dropLast_getLast? _ _ hlast
        split at hl
        · simp at hl
        · rename_i d' hw
          split at hl
          · split at hl
            · simp at hl
            · simp only [Except.ok.injEq, Loc.entry.injEq] at hl
              obtain ⟨rfl, rfl⟩ := hl
              -- the cleaned form is not "." here: `last` survives the clean-up
              rcases hrel with ⟨_, hk⟩ | ⟨hg, hcomps⟩
              · exfalso
                have : last ∈ keep (splitSlash old) := by
                  rw [keep_eq_filter, hsplit, filter_snoc_keep _ _ hl1]; simp
                rw [hk] at this; simp at this
              · have hinit : initOf lc = (compsOf old).dropLast.filter (fun c => !(c == DOTN)) := by
                  unfold initOf
                  rw [hcomps, hsplit, filter_snoc_keep _ _ hl1]
                  simp
                have hnd : ∀ c ∈ (compsOf old).dropLast, c ≠ DOTDOTN :=
                  fun c hc => hndd c ((List.dropLast_sublist _).subset hc)
                have hd := (walk_noLink_dots pr.fs maxLinks _ c.T tT hnd hT
                  (by rw [← hinit]; exact hnl hg tT hT) d' hw).1
                subst hd
                split at h
                · rename_i t ht
                  simp only [Except.ok.injEq, Prod.mk.injEq] at h
                  obtain ⟨_, rfl⟩ := h
                  have hg2 : get pr.fs.root (c.T ++ (initOf lc ++ [last])) = some (.file i) := by
                    rw [← List.append_assoc, get_snoc, hinit]; exact ht
                  refine ⟨?_, hS.wf _ i hg2⟩
                  apply hS.inv.refs tT hT (initOf lc ++ [last]) i
                  rw [get_append, hT] at hg2; exact hg2
                · simp at h
          · simp at hl
          · simp at hl

end LA.Xtr
