/-
Declarative facts about the matcher model (`LA.Pm`): what `*`, `?`, literals,
the unanchored start and the end of the pattern mean, stated without
reference to the control flow of the C.
-/
import LA.Lemmas.Pm
namespace LA.Pm

/-- The C-string invariant: no NUL inside the string. -/
def NoNul (s : List Nat) : Prop := ∀ c ∈ s, c ≠ 0

theorem rd_of_lt {s : List Nat} {i : Nat} (h : i < s.length) : rd s i = some s[i] := by
  simp [rd, h]

theorem rd_cases {s : List Nat} {i : Nat} (h : i ≤ s.length) :
    (i = s.length ∧ rd s i = some 0 ∧ s.drop i = []) ∨
    ∃ c, c ∈ s ∧ rd s i = some c ∧ s.drop i = c :: s.drop (i + 1) ∧ i < s.length := by
  rcases Nat.eq_or_lt_of_le h with rfl | hl
  · exact .inl ⟨rfl, rd_len s, List.drop_length⟩
  · exact .inr ⟨s[i], List.getElem_mem hl, rd_of_lt hl, List.drop_eq_getElem_cons hl, hl⟩

theorem rd_eq_some_iff {s : List Nat} {i c : Nat} (hc : c ≠ 0) :
    rd s i = some c ↔ ∃ h : i < s.length, s[i] = c := by
  constructor
  · intro h
    have hl := rd_lt h hc
    exact ⟨hl, by rw [rd_of_lt hl] at h; exact Option.some.inj h⟩
  · rintro ⟨hl, rfl⟩; exact rd_of_lt hl

theorem rd_ne_of_forall {s : List Nat} {x : Nat} (hs : ∀ c ∈ s, c ≠ x) (hx : x ≠ 0) {i d : Nat}
    (h : rd s i = some d) : d ≠ x := by
  rintro rfl
  obtain ⟨hl, hd⟩ := (rd_eq_some_iff hx).mp h
  exact hs _ (List.getElem_mem hl) hd

theorem rd_zero {s : List Nat} (hs : NoNul s) {i : Nat} (h : rd s i = some 0) : i = s.length := by
  rcases rd_cases (rd_le h) with ⟨hi, _, _⟩ | ⟨c, hcs, hc, _, _⟩
  · exact hi
  · rw [h] at hc; cases hc; exact absurd rfl (hs 0 hcs)

theorem rd_append_left {s : List Nat} {i : Nat} (h : i < s.length) (t : List Nat) : rd (s ++ t) i = rd s i := by
  rw [rd_of_lt h, rd_of_lt (by simp; omega), List.getElem_append_left h]

theorem rd_append_length (s : List Nat) (c : Nat) (t : List Nat) : rd (s ++ c :: t) s.length = some c := by
  rw [rd_of_lt (by simp)]; simp

variable {cfg : Cfg} {p s : List Nat} {fl : Flags} {pi si : Nat}

theorem pmLoop_end {d : Nat} (hp : rd p pi = some 0) (hd : rd s si = some d) (hne : d ≠ C_SLASH) :
    pmLoop cfg p s fl pi si = .ofBool (d = 0) := by
  rw [pmLoop_eq]; simp [hp, hd, hne]

theorem pmLoop_end_noEnd (hp : rd p pi = some 0) (hd : rd s si = some C_SLASH) (hf : fl.noEnd = true) :
    pmLoop cfg p s fl pi si = .yes := by
  rw [pmLoop_eq]; simp [hp, hd, hf]

theorem pm_question' (cfg : Cfg) (p s : List Nat) (fl : Flags) (pi si : Nat) (hs : NoNul s)
    (hq : rd p pi = some C_QUEST) (hsi : si < s.length) :
    pmLoop cfg p s fl pi si = pmLoop cfg p s fl (pi + 1) (si + 1) := by
  rw [pmLoop_eq]; simp [hq, rd_of_lt hsi, hs _ (List.getElem_mem hsi)]

theorem pm_question_at_end' (cfg : Cfg) (p s : List Nat) (fl : Flags) (pi : Nat)
    (hq : rd p pi = some C_QUEST) :
    pmLoop cfg p s fl pi s.length = .no := by
  rw [pmLoop_eq]; simp [hq, rd_len]

/-- A character with no special meaning in `pm()`. -/
def Lit (c : Nat) : Prop :=
  c ≠ 0 ∧ c ≠ C_STAR ∧ c ≠ C_QUEST ∧ c ≠ C_LBRACK ∧ c ≠ C_BSL ∧ c ≠ C_SLASH ∧ c ≠ C_DOLLAR

theorem pmLoop_lit {c d : Nat} (hc : Lit c) (hp : rd p pi = some c) (hd : rd s si = some d) :
    pmLoop cfg p s fl pi si = if c = d then pmLoop cfg p s fl (pi + 1) (si + 1) else .no := by
  obtain ⟨c1, hc1⟩ := rd_isSome (rd_lt hp hc.1)
  obtain ⟨h0, h1, h2, h3, h4, h5, h6⟩ := hc
  rw [pmLoop_eq]; simp only [hp, hc1, hd, h0, h1, h2, h3, h4, h5, h6, if_false, false_and, ne_eq, ite_not]

theorem dotSlash_of_ne {s : List Nat} {i c : Nat} (hc : rd s i = some c) (hne : c ≠ C_DOT) : dotSlash s i = some i := by
  simp [dotSlash, hc, hne]

theorem dotSlash_noSlash {s : List Nat} (hs : ∀ c ∈ s, c ≠ C_SLASH) (i : Nat) (hi : i ≤ s.length) :
    dotSlash s i = some i := by
  unfold dotSlash
  obtain ⟨c, hc⟩ := rd_isSome hi
  simp only [hc]
  split
  · rename_i hd; subst hd
    obtain ⟨d, hd⟩ := rd_isSome (rd_lt hc (by decide))
    simp [hd, rd_ne_of_forall hs (by decide) hd]
  · rfl

theorem pm_of_dotSlash {pj sj : Nat} (hs : dotSlash s si = some sj) (hp : dotSlash p pi = some pj) :
    pm cfg p s fl pi si = pmLoop cfg p s fl pj sj := by
  rw [pm_eq, hs, hp]

theorem matchAt_ordinary {c : Nat} (hc : rd p pi = some c) (h0 : c ≠ 0) (hcar : c ≠ C_CARET) (hst : c ≠ C_STAR)
    (hsl : c ≠ C_SLASH) (hsi : si ≤ s.length) :
    matchAt cfg p s fl pi si = if fl.noStart then unanch cfg p s fl pi si else pm cfg p s fl pi si := by
  obtain ⟨d, hd⟩ := rd_isSome hsi
  rw [matchAt_eq]; simp only [hc, h0, hcar, if_false]
  rw [matchBody_eq]; simp only [hc, hd, hst, hsl, false_and, false_or, if_false]

/-- The `while (*s)` loop of the `*` case succeeds iff the rest of the pattern
matches at some position of the subject **before its terminator**. -/
theorem star_yes_iff (cfg : Cfg) (hg : cfg.guardClass = true) (p s : List Nat) (hs : NoNul s) (fl : Flags)
    (pj : Nat) (hpj : pj ≤ p.length) (si : Nat) (hsi : si ≤ s.length) :
    star cfg p s fl pj si = .yes ↔
      ∃ sj, si ≤ sj ∧ sj < s.length ∧ matchAt cfg p s fl pj sj = .yes := by
  induction hn : s.length - si generalizing si with
  | zero =>
    have : si = s.length := by omega
    subst this
    rw [star_eq]; simp [rd_len]; intro sj h1 h2; omega
  | succ n ih =>
    have hlt : si < s.length := by omega
    rw [star_eq]; simp only [rd_of_lt hlt, hs _ (List.getElem_mem hlt), if_false]
    have hsafe := (safe_all cfg hg p s).1 fl pj si hpj hsi
    cases hm : matchAt cfg p s fl pj si with
    | oob => exact absurd hm hsafe
    | yes => simp; exact ⟨si, Nat.le_refl _, hlt, hm⟩
    | no =>
      rw [ih (si + 1) (by omega) (by omega)]
      constructor
      · rintro ⟨sj, h1, h2, h3⟩; exact ⟨sj, by omega, h2, h3⟩
      · rintro ⟨sj, h1, h2, h3⟩
        rcases Nat.eq_or_lt_of_le h1 with rfl | h
        · rw [hm] at h3; cases h3
        · exact ⟨sj, h, h2, h3⟩

theorem pmLoop_star_iff (cfg : Cfg) (hg : cfg.guardClass = true) (p s : List Nat) (hs : NoNul s) (fl : Flags)
    (pi si pj : Nat) (hstar : rd p pi = some C_STAR) (hpj : skipStars p pi = some pj)
    (hsi : si ≤ s.length) :
    pmLoop cfg p s fl pi si = .yes ↔
      rd p pj = some 0 ∨ ∃ sj, si ≤ sj ∧ sj < s.length ∧ matchAt cfg p s fl pj sj = .yes := by
  have hle := skipStars_le hpj
  obtain ⟨c', hc'⟩ := rd_isSome hle
  rw [pmLoop_eq]; simp only [hstar, hpj, hc']
  by_cases h0 : c' = 0
  · subst h0; simp
  · have : (42 : Nat) ≠ 0 := by decide
    simp only [h0, if_false, Option.some.injEq, false_or, this, (by decide : (42 : Nat) ≠ 63), if_true]
    exact star_yes_iff cfg hg p s hs fl pj hle si hsi

theorem pmLoop_literal (cfg : Cfg) (p s : List Nat) (fl : Flags) (hp : ∀ c ∈ p, Lit c) (hs : NoNul s)
    (hns : ∀ c ∈ s, c ≠ C_SLASH) (pi si : Nat) (hpi : pi ≤ p.length) (hsi : si ≤ s.length) :
    pmLoop cfg p s fl pi si = .ofBool (p.drop pi = s.drop si) := by
  induction hn : p.length - pi generalizing pi si with
  | zero =>
    rcases rd_cases hpi with ⟨_, hc, hpd⟩ | ⟨_, _, _, _, hlt⟩
    · rcases rd_cases hsi with ⟨_, hd, hsd⟩ | ⟨d, hds, hd, hsd, _⟩
      · rw [pmLoop_end hc hd (by decide), hpd, hsd]; rfl
      · rw [pmLoop_end hc hd (hns d hds), hpd, hsd]; simp [hs d hds]
    · omega
  | succ n ih =>
    rcases rd_cases hpi with ⟨_, _, _⟩ | ⟨c, hcp, hc, hpd, hlt⟩
    · omega
    · rcases rd_cases hsi with ⟨_, hd, hsd⟩ | ⟨d, hds, hd, hsd, _⟩
      · rw [pmLoop_lit (hp c hcp) hc hd, hpd, hsd]; simp [(hp c hcp).1]
      · rw [pmLoop_lit (hp c hcp) hc hd, hpd, hsd]
        by_cases h : c = d
        · simp [h, ih (pi + 1) (si + 1) (by omega) (by omega) (by omega)]
        · simp [h]

/-- A literal pattern followed in the subject by `/…`: with `PATHMATCH_NO_ANCHOR_END` it matches. -/
theorem pmLoop_literal_dir (cfg : Cfg) (p rest : List Nat) (fl : Flags) (hf : fl.noEnd = true)
    (hp : ∀ c ∈ p, Lit c) (pi : Nat) (hpi : pi ≤ p.length) :
    pmLoop cfg p (p ++ C_SLASH :: rest) fl pi pi = .yes := by
  induction hn : p.length - pi generalizing pi with
  | zero =>
    have : pi = p.length := by omega
    subst this
    exact pmLoop_end_noEnd (rd_len p) (rd_append_length p _ rest) hf
  | succ n ih =>
    have hlt : pi < p.length := by omega
    rw [pmLoop_lit (hp _ (List.getElem_mem hlt)) (rd_of_lt hlt) ((rd_append_left hlt _).trans (rd_of_lt hlt)),
      if_pos rfl]
    exact ih (pi + 1) (by omega) (by omega)

/-- `strchr` skips what is not a `/`: no index from `i` on, before the `/` found if one was found,
holds a `/`. -/
theorem strchrSlash_skips {s : List Nat} (hs : NoNul s) {i k : Nat} {o : Option Nat}
    (h : strchrSlash s i = some o) (hik : i ≤ k) (hk : ∀ j, o = some j → k < j) : rd s k ≠ some C_SLASH := by
  fun_induction strchrSlash s i with
  | case1 => cases h
  | case2 i hc => cases h; have := hk i rfl; omega
  | case3 i hc =>
    -- the scan ended at the terminator: from there on no read gives a character
    have hi := rd_zero hs hc
    exact fun hr => by have := rd_lt hr (by decide); omega
  | case4 i c hc hsl _ ih =>
    rcases Nat.eq_or_lt_of_le hik with rfl | hlt
    · rw [hc]; exact fun h => hsl (Option.some.inj h)
    · exact ih h hlt

/-- Start of the first path element tried by the unanchored loop: a leading '/' is skipped. -/
def firstStart (s : List Nat) (si : Nat) : Nat :=
  if rd s si = some C_SLASH then si + 1 else si

/-- `k` is a position the unanchored loop tries: the first start, or just after a '/' at or behind it. -/
def ElemStart (s : List Nat) (si k : Nat) : Prop :=
  k = firstStart s si ∨ ∃ j, firstStart s si ≤ j ∧ ∃ h : j < s.length, s[j] = C_SLASH ∧ k = j + 1

theorem elemStart_iff {s : List Nat} {si k : Nat} :
    ElemStart s si k ↔ k = firstStart s si ∨ ∃ j, firstStart s si ≤ j ∧ rd s j = some C_SLASH ∧ k = j + 1 := by
  simp only [ElemStart, rd_eq_some_iff (by decide : C_SLASH ≠ 0), exists_and_right]

/-- The loop moves on to the next `/`: the positions tried from there are the remaining ones. -/
theorem elemStart_next {s : List Nat} (hs : NoNul s) {si sj k : Nat}
    (hc : strchrSlash s (firstStart s si) = some (some sj)) :
    ElemStart s si k ↔ k = firstStart s si ∨ ElemStart s sj k := by
  have hsl := strchrSlash_at hc
  have hge := strchrSlash_ge hc
  have hfs : firstStart s sj = sj + 1 := by simp [firstStart, hsl]
  simp only [elemStart_iff, hfs]
  constructor
  · rintro (h | ⟨j, hj, hr, rfl⟩)
    · exact .inl h
    · rcases Nat.lt_trichotomy j sj with hlt | rfl | hgt
      · exact absurd hr (strchrSlash_skips hs hc hj fun _ h => by cases h; exact hlt)
      · exact .inr (.inl rfl)
      · exact .inr (.inr ⟨j, hgt, hr, rfl⟩)
  · rintro (h | h | ⟨j, hj, hr, rfl⟩)
    · exact .inl h
    · exact .inr ⟨sj, hge, hsl, h⟩
    · exact .inr ⟨j, by omega, hr, rfl⟩

theorem elemStart_last {s : List Nat} (hs : NoNul s) {si k : Nat}
    (hc : strchrSlash s (firstStart s si) = some none) : ElemStart s si k ↔ k = firstStart s si := by
  rw [elemStart_iff]
  exact ⟨fun h => h.elim id fun ⟨j, hj, hr, _⟩ => absurd hr (strchrSlash_skips hs hc hj nofun), .inl⟩

/-- With `PATHMATCH_NO_ANCHOR_START` the matcher succeeds iff `pm()` succeeds at the start
of some path element (the position after any '/', or the very beginning). -/
theorem unanch_yes_iff (cfg : Cfg) (hg : cfg.guardClass = true) (p s : List Nat) (hs : NoNul s) (fl : Flags)
    (pi : Nat) (hpi : pi ≤ p.length) (si : Nat) (hsi : si ≤ s.length) :
    unanch cfg p s fl pi si = .yes ↔ ∃ k, ElemStart s si k ∧ pm cfg p s fl pi k = .yes := by
  induction hn : s.length - si using Nat.strongRecOn generalizing si with
  | _ n ih =>
    obtain ⟨d, hd⟩ := rd_isSome hsi
    have hk0 : (if d = C_SLASH then si + 1 else si) = firstStart s si := by simp [firstStart, hd]
    have hk0le : firstStart s si ≤ s.length := by
      rw [← hk0]; split
      · rename_i h; subst h; exact rd_lt hd (by decide)
      · exact hsi
    rw [unanch_eq]; simp only [hd, hk0]
    cases hm : pm cfg p s fl pi (firstStart s si) with
    | oob => exact absurd hm ((safe_all cfg hg p s).2.2.2.1 fl pi _ hpi hk0le)
    | yes => simp; exact ⟨_, .inl rfl, hm⟩
    | no =>
      cases hc : strchrSlash s (firstStart s si) with
      | none => exact absurd (strchrSlash_none hc) (Nat.not_lt.mpr hk0le)
      | some o =>
        cases o with
        | none => simp [elemStart_last hs hc, hm]
        | some sj =>
          -- the next `/` is behind `si`: at `si` itself only if `si` held a `/`, which was skipped
          have hsisj : si < sj := by
            have hge := strchrSlash_ge hc
            rw [← hk0] at hge
            split at hge
            · omega
            · rcases Nat.eq_or_lt_of_le hge with rfl | hlt
              · rw [strchrSlash_at hc] at hd; cases hd; contradiction
              · exact hlt
          have hsj := rd_le (strchrSlash_at hc)
          rw [ih (s.length - sj) (by omega) sj hsj rfl]
          simp [elemStart_next hs hc, or_and_right, exists_or, hm]

end LA.Pm
