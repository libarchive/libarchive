/-
C12 helper: the entry phase of `archive_write_disk` over the tar-linkified capture of a
tree.  `P1` is the invariant that holds after each `restoreEntry`; `restoreAll_tar`
carries it through the whole entry list.
-/
import LA.Lemmas.TreeFS
namespace LA.Tree

/-- What the proofs need to know about the captured entry list (`capture t` of a `TreeOk`
tree satisfies it). -/
structure EntriesOk (es : List Entry) : Prop where
  nodup : (es.map (·.path)).Nodup
  fresh : ∀ e ∈ es, e.hardlink = none
  leaves : ∀ e ∈ es, e.ftype ≠ .dir →
    (e.ftype = .reg ∨ e.ftype = .lnk ∨ e.ftype = .fifo) ∧
      (e.ftype = .lnk → e.mode = 0o777 ∧ kindOf e ≠ .lnk [])
  modes : ∀ e ∈ es, e.mode < 4096
  links : ∀ a ∈ es, ∀ b ∈ es, a.ftype ≠ .dir → b.ftype ≠ .dir → a.ino = b.ino →
    a.ftype = b.ftype ∧ a.mode = b.mode ∧ a.mtime = b.mtime ∧ a.payload = b.payload ∧ a.nlink = b.nlink
  counts : ∀ a ∈ es, a.ftype ≠ .dir →
    (es.filter fun b => b.ftype != .dir && b.ino == a.ino).length ≤ a.nlink ∧ a.nlink < 4294967296

theorem pt_false_not_dir {e : Entry} (h : e.pt = false) : e.ftype ≠ .dir := by
  intro hd; simp [Entry.pt, hd] at h

theorem EntriesOk.linkOk {es : List Entry} (h : EntriesOk es) : LinkOk es := by
  intro e he hp
  have hnd := pt_false_not_dir hp
  have hc := h.counts e he hnd
  refine ⟨hc.2, ?_, ?_⟩
  · refine Nat.le_trans ?_ hc.1
    rw [← List.countP_eq_length_filter, ← List.countP_eq_length_filter]
    apply List.countP_mono_left
    intro x _ hx
    simp only [Bool.and_eq_true, Bool.not_eq_true', beq_iff_eq, bne_iff_ne, ne_eq] at hx ⊢
    exact ⟨pt_false_not_dir hx.1, hx.2⟩
  · intro x hx hxp hi
    exact (h.links x hx e he (pt_false_not_dir hxp) hnd hi).2.2.2.2

/-- Members of one inode agree on being passed through by the resolver. -/
theorem EntriesOk.pt_agree {es : List Entry} (h : EntriesOk es) {a b : Entry} (ha : a ∈ es) (hb : b ∈ es)
    (han : a.ftype ≠ .dir) (hbn : b.ftype ≠ .dir) (hi : a.ino = b.ino) : a.pt = b.pt := by
  have := h.links a ha b hb han hbn hi
  simp [Entry.pt, this.1, this.2.2.2.2]

/-- An entry with `nlink = 1` is the only name of its inode. -/
theorem EntriesOk.single {es : List Entry} (h : EntriesOk es) {a b : Entry} (ha : a ∈ es) (hb : b ∈ es)
    (han : a.ftype ≠ .dir) (hbn : b.ftype ≠ .dir) (hi : a.ino = b.ino) (h1 : a.nlink = 1) : a = b := by
  have hc := (h.counts a ha han).1
  have ha' : a ∈ es.filter fun x => x.ftype != .dir && x.ino == a.ino := by simp [ha, han]
  have hb' : b ∈ es.filter fun x => x.ftype != .dir && x.ino == a.ino := by simp [hb, hbn, hi]
  -- a list of length at most one has at most one member
  generalize es.filter (fun x => x.ftype != .dir && x.ino == a.ino) = l at hc ha' hb'
  match l, hc, ha', hb' with
  | [x], _, ha', hb' => exact (List.mem_singleton.mp ha').trans (List.mem_singleton.mp hb').symm
  | _ :: _ :: _, hc, _, _ => rw [h1] at hc; simp at hc

theorem kindOf_ne_dir {e : Entry} (h : e.ftype ≠ .dir) : kindOf e ≠ .dir := by
  unfold kindOf
  cases hf : e.ftype <;> cases hp : e.payload <;> simp_all

theorem kindOf_dir {e : Entry} (h : e.ftype = .dir) : kindOf e = .dir := by
  unfold kindOf; simp [h]

theorem kindOf_lnk {e : Entry} (h : e.ftype = .lnk) : ∃ t, kindOf e = .lnk t := by
  unfold kindOf
  cases e.payload <;> simp [h]

theorem kindOf_not_lnk {e : Entry} (h : e.ftype ≠ .lnk) : ∀ t, kindOf e ≠ .lnk t := by
  unfold kindOf
  intro t
  cases hf : e.ftype <;> cases hp : e.payload <;> simp_all

theorem and_or_self_right (a b : Nat) : (a &&& b) ||| b = b := by
  apply Nat.eq_of_testBit_eq
  intro i
  simp only [Nat.testBit_or, Nat.testBit_and]
  cases a.testBit i <;> cases b.testBit i <;> rfl

/-- A permission bit that both `MINIMUM_DIR_MODE` and `MAXIMUM_DIR_MODE` have is set in the mode a new
directory is created with. -/
theorem tmpDirMode_bit (m b : Nat) (hmin : minimumDirMode &&& b = b) (hmax : maximumDirMode &&& b = b) :
    ((m ||| minimumDirMode) &&& maximumDirMode) &&& b = b := by
  rw [Nat.and_assoc, hmax, Nat.and_or_distrib_right, hmin, and_or_self_right]

theorem tmpDirMode_wx (m : Nat) :
    ((m ||| minimumDirMode) &&& maximumDirMode) &&& 0o200 ≠ 0 ∧
      ((m ||| minimumDirMode) &&& maximumDirMode) &&& 0o100 ≠ 0 := by
  rw [tmpDirMode_bit m 0o200 (by decide) (by decide), tmpDirMode_bit m 0o100 (by decide) (by decide)]
  decide

theorem mode_mask (m : Nat) (h : m < 4096) : m &&& 0o7777 = m := by
  have : (0o7777 : Nat) = 2 ^ 12 - 1 := by decide
  rw [this, Nat.and_two_pow_sub_one_eq_mod]
  exact Nat.mod_eq_of_lt (by simpa using h)

def fixupOf (o : Opts) (rootMode : Nat) (e : Entry) : Fixup :=
  { path := e.path, mode := e.mode, mtime := e.mtime,
    doMode := if e.path = [] then (e.mode != rootMode && o.perm) else true, doTimes := true }

structure P1 (o : Opts) (dstMode : Nat) (seen : List Entry) (w : WD) : Prop where
  names : w.fs.map (·.1) = [] :: (seen.drop 1).map (·.path)
  nd : (w.fs.map (·.1)).Nodup
  root : w.fs.lookup [] = some { ino := 0, kind := .dir, mode := dstMode, mtime := none }
  dirs : ∀ x ∈ w.fs, x.2.kind = .dir →
    x.2.mtime = none ∧ (o.root = true ∨ (x.2.mode &&& 0o200 ≠ 0 ∧ x.2.mode &&& 0o100 ≠ 0))
  closed : ∀ p n, (p, n) ∈ w.fs → p ≠ [] → ∃ d, w.fs.lookup p.dropLast = some d ∧ d.kind = .dir
  inoLt : ∀ x ∈ w.fs, x.2.ino < w.next
  dirIno : ∀ p n q m, (p, n) ∈ w.fs → (q, m) ∈ w.fs → n.kind = .dir → n.ino = m.ino → p = q
  seenDir : ∀ e ∈ seen, e.ftype = .dir → ∃ n, w.fs.lookup e.path = some n ∧ n.kind = .dir
  seenLeaf : ∀ e ∈ seen, e.ftype ≠ .dir →
    ∃ n, w.fs.lookup e.path = some n ∧ n.kind = kindOf e ∧ n.mode = e.mode ∧ n.mtime = some e.mtime
  inos : ∀ a ∈ seen, ∀ b ∈ seen, a.ftype ≠ .dir → b.ftype ≠ .dir → ∀ n m,
    w.fs.lookup a.path = some n → w.fs.lookup b.path = some m → (n.ino = m.ino ↔ a.ino = b.ino)
  fxNodup : (w.fixups.map (·.path)).Nodup
  fxFrom : ∀ f ∈ w.fixups, ∃ e ∈ seen, e.ftype = .dir ∧ f = fixupOf o dstMode e
  fxAll : ∀ e ∈ seen, e.ftype = .dir → fixupOf o dstMode e ∈ w.fixups

set_option linter.unusedVariables false in
theorem P1.nodupNames {o : Opts} {dm : Nat} {seen : List Entry} {w : WD} (h : P1 o dm seen w)
    (es : List Entry) (rest : List Entry) (hes : es = seen ++ rest) (hn : (es.map (·.path)).Nodup)
    (hroot : ∀ r s, seen = r :: s → r.path = []) (hfirst : seen = [] → ∀ e ∈ rest.drop 1, e.path ≠ []) :
    (w.fs.map (·.1)).Nodup :=
  h.nd

theorem forall_mem_snoc {α : Type} {p : α → Prop} {l : List α} {a : α} :
    (∀ x ∈ l ++ [a], p x) ↔ (∀ x ∈ l, p x) ∧ p a := by
  rw [List.forall_mem_append, List.forall_mem_singleton]

theorem lookup_snoc_old {fs : FS} {x : Path × FNode} {p : Path} {n : FNode} (h : fs.lookup p = some n) :
    FS.lookup (fs ++ [x]) p = some n := by
  rw [lookup_append, h]

theorem lookup_snoc_new {fs : FS} {p : Path} {n : FNode} (h : p ∉ fs.map (·.1)) :
    FS.lookup (fs ++ [(p, n)]) p = some n := by
  rw [lookup_append, lookup_none_iff.mpr h, lookup_cons, if_pos rfl]

theorem lookup_snoc_ne {fs : FS} {x : Path × FNode} {p : Path} (h : x.1 ≠ p) :
    FS.lookup (fs ++ [x]) p = fs.lookup p := by
  rw [lookup_append, lookup_cons, if_neg h, lookup_nil]
  cases fs.lookup p <;> rfl

/-- Appending one object keeps the invariant: a new directory, a new non-directory (no earlier name of its
inode), or one more name of an object that is there (`node` is the node of the earlier name). -/
theorem P1_add {o : Opts} {dm : Nat} {seen : List Entry} {w : WD} (h : P1 o dm seen w) (hs : seen ≠ [])
    (e : Entry) (node : FNode) (nx : Nat) (fx : List Fixup)
    (hnew : e.path ∉ w.fs.map (·.1)) (hdiff : ∀ b ∈ seen, b.path ≠ e.path)
    (hpar : ∃ d, w.fs.lookup e.path.dropLast = some d ∧ d.kind = .dir)
    (hnx : w.next ≤ nx) (hino : node.ino < nx)
    (hfx : fx = if e.ftype = .dir then fixupOf o dm e :: w.fixups else w.fixups)
    (hdir : e.ftype = .dir → node.kind = .dir ∧ node.mtime = none ∧
      (o.root = true ∨ (node.mode &&& 0o200 ≠ 0 ∧ node.mode &&& 0o100 ≠ 0)) ∧ w.next ≤ node.ino)
    (hleaf : e.ftype ≠ .dir → node.kind = kindOf e ∧ node.mode = e.mode ∧ node.mtime = some e.mtime ∧
      (w.next ≤ node.ino ∨ ∃ q, (q, node) ∈ w.fs) ∧
      ∀ b ∈ seen, b.ftype ≠ .dir → ∀ m, w.fs.lookup b.path = some m → (node.ino = m.ino ↔ e.ino = b.ino)) :
    P1 o dm (seen ++ [e]) { fs := w.fs ++ [(e.path, node)], fixups := fx, next := nx } := by
  have hkind : node.kind = .dir ↔ e.ftype = .dir :=
    ⟨fun hk => Classical.byContradiction fun hd => kindOf_ne_dir hd ((hleaf hd).1 ▸ hk), fun hd => (hdir hd).1⟩
  have hold : ∀ b ∈ seen, FS.lookup (w.fs ++ [(e.path, node)]) b.path = w.fs.lookup b.path :=
    fun b hb => lookup_snoc_ne (hdiff b hb).symm
  have hnewlk : FS.lookup (w.fs ++ [(e.path, node)]) e.path = some node := lookup_snoc_new hnew
  -- no directory shares its inode number with the new object
  have hnewino : ∀ p n, (p, n) ∈ w.fs → n.kind = .dir ∨ node.kind = .dir → n.ino ≠ node.ino := by
    intro p n hpn hk hi
    have hlt : n.ino < w.next := h.inoLt _ hpn
    have hfresh : ¬ w.next ≤ node.ino := by omega
    by_cases hd : e.ftype = .dir
    · exact hfresh (hdir hd).2.2.2
    · obtain ⟨q, hq⟩ := (hleaf hd).2.2.2.1.resolve_left hfresh
      have hnk : n.kind = .dir := hk.resolve_right (mt hkind.mp hd)
      obtain rfl := h.dirIno p n q node hpn hq hnk hi
      have := (lookup_mem_nodup h.nd hpn).symm.trans (lookup_mem_nodup h.nd hq)
      obtain rfl := Option.some.inj this
      exact hd (hkind.mp hnk)
  refine
    { names := ?_, nd := ?_, root := lookup_snoc_old h.root, dirs := ?_, closed := ?_, inoLt := ?_,
      dirIno := ?_, seenDir := ?_, seenLeaf := ?_, inos := ?_, fxNodup := ?_, fxFrom := ?_, fxAll := ?_ }
  · simp only [List.map_append, List.map_cons, List.map_nil, h.names]
    cases seen with
    | nil => exact absurd rfl hs
    | cons r s => simp
  · simp only [List.map_append, List.map_cons, List.map_nil]
    rw [List.nodup_append]
    exact ⟨h.nd, by simp, fun a ha b hb hab => hnew (List.mem_singleton.mp hb ▸ hab ▸ ha)⟩
  · exact forall_mem_snoc.mpr ⟨h.dirs, fun hk => have hd := hdir (hkind.mp hk); ⟨hd.2.1, hd.2.2.1⟩⟩
  · intro p n hpn hp
    rcases List.mem_append.mp hpn with hx | hx
    · obtain ⟨d, hd, hk⟩ := h.closed p n hx hp
      exact ⟨d, lookup_snoc_old hd, hk⟩
    · obtain ⟨d, hd, hk⟩ := hpar
      obtain ⟨rfl, -⟩ := Prod.mk.inj (List.mem_singleton.mp hx)
      exact ⟨d, lookup_snoc_old hd, hk⟩
  · exact forall_mem_snoc.mpr ⟨fun x hx => Nat.lt_of_lt_of_le (h.inoLt x hx) hnx, hino⟩
  · intro p n q m hpn hqm hk hi
    rcases List.mem_append.mp hpn with h1 | h1 <;> rcases List.mem_append.mp hqm with h2 | h2
    · exact h.dirIno p n q m h1 h2 hk hi
    · obtain ⟨rfl, rfl⟩ := Prod.mk.inj (List.mem_singleton.mp h2)
      exact absurd hi (hnewino p n h1 (.inl hk))
    · obtain ⟨rfl, rfl⟩ := Prod.mk.inj (List.mem_singleton.mp h1)
      exact absurd hi.symm (hnewino q m h2 (.inr hk))
    · rw [(Prod.mk.inj (List.mem_singleton.mp h1)).1, (Prod.mk.inj (List.mem_singleton.mp h2)).1]
  · refine forall_mem_snoc.mpr ⟨fun b hb hbd => ?_, fun hd => ⟨node, hnewlk, (hdir hd).1⟩⟩
    rw [hold b hb]; exact h.seenDir b hb hbd
  · refine forall_mem_snoc.mpr ⟨fun b hb hbd => ?_, fun hd => ?_⟩
    · rw [hold b hb]; exact h.seenLeaf b hb hbd
    · exact ⟨node, hnewlk, (hleaf hd).1, (hleaf hd).2.1, (hleaf hd).2.2.1⟩
  · -- an earlier name against the new one
    have hmix : ∀ b ∈ seen, b.ftype ≠ .dir → e.ftype ≠ .dir → ∀ n m,
        FS.lookup (w.fs ++ [(e.path, node)]) e.path = some n →
        FS.lookup (w.fs ++ [(e.path, node)]) b.path = some m → (n.ino = m.ino ↔ e.ino = b.ino) := by
      intro b hb hbd hed n m hn hm
      rw [hold b hb] at hm
      obtain rfl := Option.some.inj (hnewlk.symm.trans hn)
      exact (hleaf hed).2.2.2.2 b hb hbd m hm
    refine forall_mem_snoc.mpr ⟨fun a ha => forall_mem_snoc.mpr ⟨fun b hb had hbd n m hn hm => ?_, ?_⟩,
      forall_mem_snoc.mpr ⟨fun b hb hed hbd n m hn hm => hmix b hb hbd hed n m hn hm, ?_⟩⟩
    · rw [hold a ha] at hn; rw [hold b hb] at hm
      exact h.inos a ha b hb had hbd n m hn hm
    · intro had hed n m hn hm
      rw [eq_comm, eq_comm (a := a.ino)]
      exact hmix a ha had hed m n hm hn
    · intro _ _ n m hn hm
      rw [Option.some.inj (hn.symm.trans hm)]
      exact ⟨fun _ => rfl, fun _ => rfl⟩
  · by_cases hd : e.ftype = .dir
    · rw [hfx, if_pos hd, List.map_cons, List.nodup_cons]
      refine ⟨fun hm => ?_, h.fxNodup⟩
      obtain ⟨f, hf, hfp⟩ := List.mem_map.mp hm
      obtain ⟨b, hb, _, rfl⟩ := h.fxFrom f hf
      exact hdiff b hb hfp
    · rw [hfx, if_neg hd]; exact h.fxNodup
  · intro f hf
    have hold : f ∈ w.fixups → ∃ b ∈ seen ++ [e], b.ftype = .dir ∧ f = fixupOf o dm b := fun hf =>
      let ⟨b, hb, hbd, hfb⟩ := h.fxFrom f hf
      ⟨b, List.mem_append_left _ hb, hbd, hfb⟩
    by_cases hd : e.ftype = .dir
    · rw [hfx, if_pos hd] at hf
      rcases List.mem_cons.mp hf with hf | hf
      · exact ⟨e, by simp, hd, hf⟩
      · exact hold hf
    · rw [hfx, if_neg hd] at hf
      exact hold hf
  · refine forall_mem_snoc.mpr ⟨fun b hb hbd => ?_, fun hd => by rw [hfx, if_pos hd]; exact List.mem_cons_self⟩
    rw [hfx]
    split
    · exact List.mem_cons_of_mem _ (h.fxAll b hb hbd)
    · exact h.fxAll b hb hbd

/-- "Matching options": permissions and times are restored, by the owner of the files. -/
structure OptsOk (o : Opts) : Prop where
  perm : o.perm = true
  time : o.time = true
  same : o.sameOwner = true

theorem canCreate_of {root : Bool} {fs : FS} {p : Path} (hp : p ≠ []) (hnone : fs.lookup p = none)
    (hreach : fs.reach root p = true) {d : FNode} (hd : fs.lookup p.dropLast = some d) (hk : d.kind = .dir)
    (hw : root = true ∨ d.mode &&& 0o200 ≠ 0) : fs.canCreate root p = true := by
  unfold FS.canCreate
  simp only [hd, hnone, hreach, hk]
  rcases hw with hw | hw <;> simp [hp, hw]

/-- The entry for the extraction root itself ("." — a directory in the way of a directory). -/
theorem restoreEntry_root (o : Opts) (ho : OptsOk o) (w : WD) (e : Entry) (dm : Nat)
    (hh : e.hardlink = none) (hd : e.ftype = .dir) (hp : e.path = [])
    (hroot : w.fs.lookup [] = some { ino := 0, kind := .dir, mode := dm, mtime := none }) :
    restoreEntry o w e = ({ w with fixups := fixupOf o dm e :: w.fixups }, .ok) := by
  unfold restoreEntry
  simp only [hh, hd, hp, hroot]
  have hreach : w.fs.reach o.root [] = true := by simp [FS.reach]
  simp [hreach, ho.time, ho.perm, Opts.entryMode, fixupOf, hp]

theorem restoreEntry_mkdir (o : Opts) (ho : OptsOk o) (w : WD) (e : Entry) (dm : Nat)
    (hh : e.hardlink = none) (hd : e.ftype = .dir) (hp : e.path ≠ [])
    (hnone : w.fs.lookup e.path = none) (hcan : w.fs.canCreate o.root e.path = true) :
    restoreEntry o w e =
      (WD.mk (w.fs.add e.path (FNode.mk w.next .dir
            ((andNot (e.mode &&& 0o777) o.umask ||| minimumDirMode) &&& maximumDirMode) none))
         (fixupOf o dm e :: w.fixups) (w.next + 1), .ok) := by
  unfold restoreEntry
  simp only [hh, hd, hnone, hcan]
  simp [ho.time, ho.perm, Opts.entryMode, fixupOf, hp]

theorem restoreEntry_create (o : Opts) (ho : OptsOk o) (w : WD) (e : Entry)
    (hh : e.hardlink = none) (hl : (e.ftype = .reg ∨ e.ftype = .lnk ∨ e.ftype = .fifo))
    (hlm : e.ftype = .lnk → e.mode = 0o777 ∧ kindOf e ≠ .lnk [])
    (hnone : w.fs.lookup e.path = none) (hcan : w.fs.canCreate o.root e.path = true) :
    restoreEntry o w e =
      (WD.mk (w.fs.add e.path (FNode.mk w.next (kindOf e) e.mode (some e.mtime))) w.fixups (w.next + 1), .ok) := by
  have hm : o.finalFileMode (o.entryMode e.mode) = e.mode := by
    simp [Opts.finalFileMode, Opts.entryMode, ho.perm, ho.same]
  have hk0 : (kindOf e == .lnk []) = false := by
    by_cases hl' : e.ftype = .lnk
    · simpa using (hlm hl').2
    · simpa using kindOf_not_lnk hl' []
  unfold restoreEntry
  simp only [hh]
  split
  · next hdir => rcases hl with h | h | h <;> rw [h] at hdir <;> cases hdir
  · simp only [hnone, hcan, hk0, ho.time, Option.isSome_none, Bool.not_true, Bool.or_self,
      Bool.false_eq_true, if_false, if_true]
    congr 4
    -- `symlink(2)` makes 0777, which is what a captured symlink has; everything else gets its archived mode
    split
    · next t ht =>
      by_cases hl' : e.ftype = .lnk
      · exact (hlm hl').1.symm
      · exact absurd ht (kindOf_not_lnk hl' t)
    · exact hm

theorem restoreEntry_link (o : Opts) (w : WD) (e : Entry) (q : Path) (n : FNode)
    (hh : e.hardlink = some q) (hs : e.sizeSet = false)
    (hq : w.fs.lookup q = some n) (hk : n.kind ≠ .dir)
    (hcan : w.fs.canCreate o.root e.path = true) (hreach : w.fs.reach o.root q = true) :
    restoreEntry o w e = ({ w with fs := w.fs.add e.path n }, .ok) := by
  unfold restoreEntry
  simp only [hh, hq]
  have : (n.kind == .dir) = false := by simpa using hk
  simp [this, hcan, hreach, hs]

theorem kindOf_congr {a b : Entry} (h1 : a.ftype = b.ftype) (h2 : a.payload = b.payload) : kindOf a = kindOf b := by
  unfold kindOf; rw [h1, h2]

/-- Every directory still has the clock mtime it was created with, so adding a name touches nothing. -/
theorem add_eq_snoc {o : Opts} {dm : Nat} {seen : List Entry} {w : WD} (h : P1 o dm seen w) (p : Path) (node : FNode)
    {d : FNode} (hd : w.fs.lookup p.dropLast = some d) (hk : d.kind = .dir) :
    w.fs.add p node = w.fs ++ [(p, node)] := by
  unfold FS.add
  rw [touch_id]
  intro x hx hxp
  have := (lookup_mem_nodup h.nd (p := x.1) (n := x.2) hx).symm.trans (hxp ▸ hd)
  rw [Option.some.inj this]
  exact (h.dirs _ (lookup_some_mem hd) hk).1

/-- One entry (not the first) of the tar-linkified list keeps the invariant and succeeds. -/
theorem step_tar (o : Opts) (ho : OptsOk o) (dm : Nat) (es : List Entry) (hes : EntriesOk es)
    (seen : List Entry) (e : Entry) (rest : List Entry) (hsplit : es = seen ++ e :: rest) (hs : seen ≠ [])
    (w : WD) (h : P1 o dm seen w) (hp : e.path ≠ [])
    (hpar : ∃ d, w.fs.lookup e.path.dropLast = some d ∧ d.kind = .dir) :
    ∃ w' node, restoreEntry o w (tarHead seen e) = (w', .ok) ∧ w'.fs = w.fs ++ [(e.path, node)] ∧
      P1 o dm (seen ++ [e]) w' := by
  have he : e ∈ es := by rw [hsplit]; simp
  have hseen : ∀ b ∈ seen, b ∈ es := fun b hb => by rw [hsplit]; exact List.mem_append_left _ hb
  have hdiff : ∀ b ∈ seen, b.path ≠ e.path := by
    have hnd := hes.nodup
    rw [hsplit, List.map_append, List.map_cons] at hnd
    exact fun b hb => (List.nodup_append.mp hnd).2.2 b.path (List.mem_map_of_mem hb) e.path (by simp)
  have hnew : e.path ∉ w.fs.map (·.1) := by
    rw [h.names]
    intro hm
    rcases List.mem_cons.mp hm with hm | hm
    · exact hp hm
    · obtain ⟨b, hb, hbe⟩ := List.mem_map.mp hm
      exact hdiff b (List.mem_of_mem_drop hb) hbe
  have hnone := lookup_none_iff.mpr hnew
  obtain ⟨d, hd, hdk⟩ := hpar
  have hsearch : ∀ p n, (p, n) ∈ w.fs → n.kind = .dir → o.root = true ∨ n.mode &&& 0o100 ≠ 0 :=
    fun p n hpn hk => (h.dirs (p, n) hpn hk).2.imp_right And.right
  have hcan : w.fs.canCreate o.root e.path = true :=
    canCreate_of hp hnone (reach_of_parent o.root w.fs h.closed hsearch e.path (.inr ⟨d, hd, hdk⟩)) hd hdk
      ((h.dirs (_, d) (lookup_some_mem hd) hdk).2.imp_right And.left)
  have hfresh := hes.fresh e he
  rcases tarHead_cases seen e with ⟨hth, hfirst⟩ | ⟨hpt, c, hfw, hth⟩
  · rw [hth]
    by_cases hdir : e.ftype = .dir
    · -- a new directory
      rw [restoreEntry_mkdir o ho w e dm hfresh hdir hp hnone hcan, add_eq_snoc h _ _ hd hdk]
      refine ⟨_, _, rfl, rfl, ?_⟩
      exact P1_add h hs e _ _ _ hnew hdiff ⟨d, hd, hdk⟩ (Nat.le_succ _) (Nat.lt_succ_self _) (if_pos hdir).symm
        (fun _ => ⟨rfl, rfl, .inr (tmpDirMode_wx _), Nat.le_refl _⟩) (fun hc => absurd hdir hc)
    · -- no earlier name of the same inode: a new object
      have hl := hes.leaves e he hdir
      have hno : ∀ b ∈ seen, b.ftype ≠ .dir → e.ino ≠ b.ino := by
        intro b hb hbd hi
        by_cases hpt : e.pt = true
        · -- passed through although it is no directory: `nlink = 1`, so it is the only name
          have hn1 : e.nlink = 1 := by
            rcases hl.1 with h1 | h1 | h1 <;> simpa [Entry.pt, h1] using hpt
          exact hdiff b hb (hes.single he (hseen b hb) hdir hbd hi hn1 ▸ rfl)
        · have := List.find?_eq_none.mp (hfirst.resolve_left hpt) b hb
          rw [← hes.pt_agree he (hseen b hb) hdir hbd hi] at this
          simp [hpt, hi] at this
      rw [restoreEntry_create o ho w e hfresh hl.1 hl.2 hnone hcan, add_eq_snoc h _ _ hd hdk]
      refine ⟨_, _, rfl, rfl, ?_⟩
      refine P1_add h hs e _ _ _ hnew hdiff ⟨d, hd, hdk⟩ (Nat.le_succ _) (Nat.lt_succ_self _) (if_neg hdir).symm
        (fun hc => absurd hc hdir) (fun _ => ⟨rfl, rfl, rfl, .inl (Nat.le_refl _), fun b hb hbd m hm => ?_⟩)
      have hlt : m.ino < w.next := h.inoLt _ (lookup_some_mem hm)
      exact ⟨fun hh => absurd hh (Nat.ne_of_gt hlt), fun hh => absurd hh (hno b hb hbd)⟩
  · -- a later name: link to the first one
    obtain ⟨hc, hcp, hci⟩ := firstWith_some seen e.ino c hfw
    have hcd := pt_false_not_dir hcp
    have hdir := pt_false_not_dir hpt
    obtain ⟨n, hn, hnk, hnm, hnt⟩ := h.seenLeaf c hc hcd
    have hagree := hes.links c (hseen c hc) e he hcd hdir hci
    have hnkd : n.kind ≠ .dir := hnk ▸ kindOf_ne_dir hcd
    have hreachq : w.fs.reach o.root c.path = true := by
      apply reach_of_parent o.root w.fs h.closed hsearch
      by_cases hcp' : c.path = []
      · exact .inl hcp'
      · exact .inr (h.closed _ _ (lookup_some_mem hn) hcp')
    rw [hth, restoreEntry_link o w { e with hardlink := some c.path, sizeSet := false } c.path n rfl rfl hn hnkd hcan
      hreachq]
    dsimp only
    rw [add_eq_snoc h _ _ hd hdk]
    refine ⟨_, _, rfl, rfl, ?_⟩
    refine P1_add h hs e n w.next w.fixups hnew hdiff ⟨d, hd, hdk⟩ (Nat.le_refl _)
      (h.inoLt _ (lookup_some_mem hn)) (if_neg hdir).symm (fun hc' => absurd hc' hdir)
      (fun _ => ⟨?_, hnm.trans hagree.2.1, by rw [hnt, hagree.2.2.1], .inr ⟨c.path, lookup_some_mem hn⟩, ?_⟩)
    · rw [hnk]; exact kindOf_congr hagree.1 hagree.2.2.2.1
    · intro b hb hbd m hm
      rw [← hci]
      exact h.inos c hc b hb hcd hbd n m hn hm

theorem restoreAll_cons (o : Opts) (w : WD) (e : Entry) (es : List Entry) :
    restoreAll o w (e :: es) =
      ((restoreAll o (restoreEntry o w e).1 es).1, (restoreEntry o w e).2 :: (restoreAll o (restoreEntry o w e).1 es).2) := by
  simp [restoreAll]

theorem run_tar_rest (o : Opts) (ho : OptsOk o) (dm : Nat) (es : List Entry) (hes : EntriesOk es) :
    ∀ (todo seen : List Entry) (w : WD) (ds : List Path), es = seen ++ todo → seen ≠ [] → P1 o dm seen w →
      ParentsOk ds todo → (∀ d ∈ ds, ∃ n, w.fs.lookup d = some n ∧ n.kind = .dir) →
      P1 o dm es (restoreAll o w (tarGo seen todo)).1 ∧ ∀ s ∈ (restoreAll o w (tarGo seen todo)).2, s = .ok := by
  intro todo
  induction todo with
  | nil =>
    intro seen w ds hsplit _ h _ _
    rw [List.append_nil] at hsplit
    subst hsplit
    exact ⟨h, nofun⟩
  | cons e rest ih =>
    intro seen w ds hsplit hs h ⟨hp, hin, hrest⟩ hds
    obtain ⟨w', node, hstep, hfs, h'⟩ :=
      step_tar o ho dm es hes seen e rest hsplit hs w h hp (hds _ hin)
    rw [tarGo_cons, restoreAll_cons, hstep]
    have hds' : ∀ d ∈ (if e.ftype = .dir then e.path :: ds else ds),
        ∃ n, w'.fs.lookup d = some n ∧ n.kind = .dir := by
      intro d hd
      split at hd
      · next hdir =>
        rcases List.mem_cons.mp hd with rfl | hd
        · exact h'.seenDir e (by simp) hdir
        · exact hfs ▸ (hds d hd).imp fun n hn => ⟨lookup_snoc_old hn.1, hn.2⟩
      · exact hfs ▸ (hds d hd).imp fun n hn => ⟨lookup_snoc_old hn.1, hn.2⟩
    have := ih (seen ++ [e]) w' _ (by rw [hsplit]; simp) (by simp) h' hrest hds'
    exact ⟨this.1, List.forall_mem_cons.mpr ⟨rfl, this.2⟩⟩

/-- The state after the first entry, the extraction root itself. -/
theorem P1_root (o : Opts) (dm : Nat) (hdst : o.root = true ∨ (dm &&& 0o200 ≠ 0 ∧ dm &&& 0o100 ≠ 0))
    (r : Entry) (hp : r.path = []) (hd : r.ftype = .dir) :
    P1 o dm [r] { emptyDst dm with fixups := [fixupOf o dm r] } :=
  { names := rfl
    nd := by simp [emptyDst]
    root := rfl
    dirs := fun x hx _ => by rw [List.mem_singleton.mp hx]; exact ⟨rfl, hdst⟩
    closed := fun p n hpn hp => absurd (Prod.mk.inj (List.mem_singleton.mp hpn)).1 hp
    inoLt := fun x hx => by rw [List.mem_singleton.mp hx]; exact Nat.zero_lt_one
    dirIno := fun p n q m h1 h2 _ _ => by
      rw [(Prod.mk.inj (List.mem_singleton.mp h1)).1, (Prod.mk.inj (List.mem_singleton.mp h2)).1]
    seenDir := fun e he _ => by rw [List.mem_singleton.mp he, hp]; exact ⟨_, rfl, rfl⟩
    seenLeaf := fun e he hnd => absurd (List.mem_singleton.mp he ▸ hd) hnd
    inos := fun a ha _ _ had => absurd (List.mem_singleton.mp ha ▸ hd) had
    fxNodup := by simp
    fxFrom := fun f hf => ⟨r, List.mem_singleton_self r, hd, List.mem_singleton.mp hf⟩
    fxAll := fun e he _ => by rw [List.mem_singleton.mp he]; exact List.mem_singleton_self _ }

/-- The entry phase over the whole tar-linkified list: every entry succeeds and the invariant
holds at the end. -/
theorem restoreAll_tar (o : Opts) (ho : OptsOk o) (dm : Nat)
    (hdst : o.root = true ∨ (dm &&& 0o200 ≠ 0 ∧ dm &&& 0o100 ≠ 0))
    (r : Entry) (rest : List Entry) (hes : EntriesOk (r :: rest)) (hp : r.path = []) (hd : r.ftype = .dir)
    (hpo : ParentsOk [[]] rest) :
    P1 o dm (r :: rest) (restoreAll o (emptyDst dm) (tarSpec (r :: rest))).1 ∧
      ∀ s ∈ (restoreAll o (emptyDst dm) (tarSpec (r :: rest))).2, s = .ok := by
  have h1 := P1_root o dm hdst r hp hd
  have hth : tarHead [] r = r := by simp [tarHead, Entry.pt, hd]
  unfold tarSpec
  rw [tarGo_cons, restoreAll_cons, hth, restoreEntry_root o ho (emptyDst dm) r dm (hes.fresh r (by simp)) hd hp rfl]
  have := run_tar_rest o ho dm (r :: rest) hes rest [r] _ [[]] rfl (by simp) h1 hpo
    (fun d hd' => by rw [List.mem_singleton.mp hd']; exact ⟨_, h1.root, rfl⟩)
  exact ⟨this.1, List.forall_mem_cons.mpr ⟨rfl, this.2⟩⟩

/-- After the entry phase the fix-up loop may run. -/
theorem P1.closeReady {o : Opts} {dm : Nat} {es : List Entry} {w : WD} (h : P1 o dm es w) :
    CloseReady o w.fs w.fixups :=
  { nodupPaths := h.nd
    prefixClosed := h.closed
    dirInoUnique := h.dirIno
    dirsOpen := fun p n hpn hk => (h.dirs (p, n) hpn hk).2.imp_right And.right
    fxNodup := h.fxNodup
    fxDirs := fun f hf => by
      obtain ⟨e, he, hd, rfl⟩ := h.fxFrom f hf
      exact h.seenDir e he hd }

end LA.Tree
