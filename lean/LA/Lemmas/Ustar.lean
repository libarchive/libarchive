/-
Lemmas for the ustar header writer model (`LA.Ustar`): every store preserves
definedness, the template copy defines all 512 cells.
-/
import LA.Lemmas.ClientWrite
import LA.Model.Ustar
namespace LA.Ustar
open LA.CW LA.Gen.WriteLayout

/-- The extracted `memcpy(h, &template_header, N)` covers the whole header. -/
theorem template_covers : (templateHeader.take templateCopyLen).length = 512 := by decide +kernel

theorem store_defined {h h' : List Cell} {off : Nat} {bs : List Nat} (hs : store h off bs = some h')
    (hd : ∀ c ∈ h, c.isSome = true) : h'.length = h.length ∧ ∀ c ∈ h', c.isSome = true := by
  refine ⟨(poke_some hs).2.1, ?_⟩
  unfold store poke at hs
  split at hs
  · injection hs with hs; subst hs
    intro c hc
    rcases List.mem_append.mp hc with hc | hc
    · rcases List.mem_append.mp hc with hc | hc
      · exact hd c (List.mem_of_mem_take hc)
      · obtain ⟨b, _, rfl⟩ := List.mem_map.mp hc; rfl
    · exact hd c (List.mem_of_mem_drop hc)
  · cases hs

theorem applyStores_defined : ∀ {ss : List Store} {h h' : List Cell}, applyStores h ss = some h' →
    (∀ c ∈ h, c.isSome = true) → h'.length = h.length ∧ ∀ c ∈ h', c.isSome = true := by
  intro ss
  induction ss with
  | nil =>
    intro h h' hs hd
    simp only [applyStores, Option.some.injEq] at hs
    subst hs
    exact ⟨rfl, hd⟩
  | cons s r ih =>
    intro h h' hs hd
    obtain ⟨off, bs⟩ := s
    simp only [applyStores] at hs
    cases hst : store h off bs with
    | none => rw [hst] at hs; cases hs
    | some h1 =>
      rw [hst] at hs
      have h1d := store_defined hst hd
      have := ih hs h1d.2
      exact ⟨by rw [this.1, h1d.1], this.2⟩

/-- The template copy into the fresh array, followed by any stores, leaves no cell undefined. -/
theorem applyStores_template {n : Nat} {T : List Nat} {fs : List Store} {h1 : List Cell} (hT : T.length = n)
    (hs : applyStores (List.replicate n none) ((0, T) :: fs) = some h1) :
    h1.length = n ∧ ∀ c ∈ h1, c.isSome = true := by
  have h0 : store (List.replicate n none) 0 T = some (T.map some) := by
    simp only [store, poke, List.length_map, hT, List.length_replicate, Nat.zero_add, Nat.le_refl, if_true,
      List.take_zero, List.nil_append]
    rw [List.drop_of_length_le (by simp)]; simp
  have hdef0 : ∀ c ∈ T.map some, c.isSome = true := by
    intro c hc; obtain ⟨b, _, rfl⟩ := List.mem_map.mp hc; rfl
  simp only [applyStores, h0] at hs
  have := applyStores_defined hs hdef0
  exact ⟨by rw [this.1, List.length_map, hT], this.2⟩

theorem formatHeader_defined (e : Entry) (st : Int) (h : List Cell) (hh : formatHeader e = some (st, h)) :
    h.length = 512 ∧ ∀ c ∈ h, c.isSome = true := by
  unfold formatHeader at hh
  dsimp only at hh
  split at hh
  · cases hh
  · next h1 h1s =>
    have h1d := applyStores_template template_covers h1s
    split at hh
    · cases hh
    · split at hh
      · cases hh
      · next h2 h2s =>
        cases hh
        have := applyStores_defined h2s h1d.2
        exact ⟨this.1.trans h1d.1, this.2⟩

end LA.Ustar
