/-
`__archive_read_filter_consume` / `advance_file_pointer`: the two buffers, the skip callback
and the reading loop each consume a number of bytes of the abstract stream (`Dropped`); the
call as a whole consumes `min request (bytes left)` or fails (`GoodAdv`).
-/
import LA.Lemmas.ReadAheadSpec
namespace LA.RA

theorem dropBytes_flatten (src : List (List Nat)) (k : Nat) :
    (dropBytes src k).flatten = src.flatten.drop k := by
  induction src generalizing k with
  | nil => exact List.drop_nil.symm
  | cons b rest ih =>
    unfold dropBytes
    by_cases h0 : k = 0
    · rw [if_pos h0, h0]; rfl
    · rw [if_neg h0]
      by_cases hl : k < b.length
      · rw [if_pos hl, List.flatten_cons, List.flatten_cons, List.drop_append_of_le_length (Nat.le_of_lt hl)]
      · rw [if_neg hl, ih, List.flatten_cons, List.drop_append, List.drop_of_length_le (Nat.le_of_not_lt hl),
          List.nil_append]

theorem dropBytes_ok (src : List (List Nat)) (k : Nat) (h : SrcOk src) : SrcOk (dropBytes src k) := by
  induction src generalizing k with
  | nil => exact h
  | cons b rest ih =>
    unfold dropBytes
    by_cases h0 : k = 0
    · rw [if_pos h0]; exact h
    · rw [if_neg h0]
      by_cases hl : k < b.length
      · rw [if_pos hl]
        intro x hx
        rcases List.mem_cons.mp hx with rfl | hm
        · exact fun hn => by
            have := congrArg List.length hn
            rw [List.length_drop, List.length_nil] at this; omega
        · exact h.tail x hm
      · rw [if_neg hl]; exact ih _ h.tail

theorem drop_drop_eq (l : List Nat) (a b : Nat) : (l.drop a).drop b = l.drop (a + b) := by
  rw [List.drop_drop]

/-- All skip answers come from a well-behaved skipper (no error codes). -/
def SkipsOk (sk : List Int) : Prop := ∀ g ∈ sk, 0 ≤ g

theorem SkipsOk.drop {sk : List Int} (h : SkipsOk sk) (k : Nat) : SkipsOk (sk.drop k) :=
  fun g hg => h g (List.mem_of_mem_drop hg)

/-- All entries of the seek script are "behave". -/
def SeeksOk (l : List Int) : Prop := ∀ a ∈ l, a = 0

theorem SeeksOk.drop {l : List Int} (h : SeeksOk l) (k : Nat) : SeeksOk (l.drop k) :=
  fun a ha => h a (List.mem_of_mem_drop ha)

theorem SeeksOk.tail {l : List Int} (h : SeeksOk l) : SeeksOk l.tail :=
  fun a ha => h a (List.mem_of_mem_tail ha)

theorem seeksOk_head {l : List Int} (h : SeeksOk l) : (l.head?).getD 0 = 0 := by
  cases l with
  | nil => rfl
  | cons a t => exact h a List.mem_cons_self

/-! ### What the call leaves alone -/

/-- `skipLoop` only touches `src` and `skips`: it drops `j ≤ request` bytes from the source and
uses up a prefix of the script; it reports `total + j` unless the callback fails or misbehaves. -/
theorem skipLoop_spec (s : State) (request total : Nat) (sk : List Int) :
    let r := skipLoop s request total sk
    (∃ j, j ≤ request ∧ j ≤ srcLen s.src ∧ r.2.src.flatten = s.src.flatten.drop j ∧
        (r.1 = ((total + j : Nat) : Int) ∨ (r.1 < 0 ∧ ¬ SkipsOk sk))) ∧
    (SrcOk s.src → SrcOk r.2.src) ∧ (∃ k, r.2.skips = sk.drop k) ∧
    r.2 = { s with src := r.2.src, skips := r.2.skips } := by
  induction sk generalizing s request total with
  | nil => exact ⟨⟨0, Nat.zero_le _, Nat.zero_le _, rfl, Or.inl rfl⟩, id, ⟨0, rfl⟩, rfl⟩
  | cons get rest ih =>
    have hbad : get < 0 → ¬ SkipsOk (get :: rest) := fun hg h => by
      have := h get List.mem_cons_self; omega
    simp only [skipLoop]
    by_cases h1 : get = -999
    · rw [if_pos h1]
      exact ⟨⟨0, Nat.zero_le _, Nat.zero_le _, rfl, Or.inr ⟨by omega, hbad (by omega)⟩⟩, id, ⟨1, rfl⟩, rfl⟩
    · rw [if_neg h1]
      by_cases h2 : get < 0
      · rw [if_pos h2]
        exact ⟨⟨0, Nat.zero_le _, Nat.zero_le _, rfl, Or.inr ⟨h2, hbad h2⟩⟩, id, ⟨1, rfl⟩, rfl⟩
      · rw [if_neg h2]
        generalize hg : Nat.min (Nat.min get.toNat request) (srcLen s.src) = g
        have hg1 : g ≤ request := by
          rw [← hg]; exact Nat.le_trans (Nat.min_le_left _ _) (Nat.min_le_right _ _)
        have hg2 : g ≤ srcLen s.src := by rw [← hg]; exact Nat.min_le_right _ _
        by_cases h3 : g = 0 ∨ g = request
        · rw [if_pos h3]
          exact ⟨⟨g, hg1, hg2, dropBytes_flatten _ _, Or.inl rfl⟩, dropBytes_ok _ _, ⟨1, rfl⟩, rfl⟩
        · rw [if_neg h3]
          obtain ⟨⟨j, j1, j2, j3, j4⟩, k1, ⟨k, k3⟩, k2⟩ := ih { s with src := dropBytes s.src g } (request - g) (total + g)
          refine ⟨⟨g + j, by omega, ?_, ?_, ?_⟩, fun hok => k1 (dropBytes_ok s.src g hok), ⟨k + 1, k3⟩, ?_⟩
          · simp only [srcLen, dropBytes_flatten, List.length_drop] at j2 hg2 ⊢
            omega
          · rw [j3]; show (dropBytes s.src g).flatten.drop j = _; rw [dropBytes_flatten, List.drop_drop]
          · rcases j4 with j4 | ⟨j4, j5⟩
            · left; rw [j4]; congr 1; omega
            · exact Or.inr ⟨j4, fun h => j5 fun x hx => h x (List.mem_cons_of_mem _ hx)⟩
          · rw [k2]

theorem readSkipLoop_seq (s : State) (request total : Nat) : Seq s (readSkipLoop s request total).2 := by
  fun_induction readSkipLoop s request total
  case case1 ih => exact ih.step (.of_eq rfl) rfl rfl
  case case2 => exact .of_eq (.of_eq rfl) rfl rfl
  case case3 => exact .of_eq (.of_eq rfl) rfl rfl
  case case4 => exact .of_eq (.of_eq rfl) rfl rfl
  case case5 => exact .of_eq (.of_eq rfl) rfl rfl
  case case6 ih => exact ih.step (.of_eq rfl) rfl rfl

/-- "If there's an optimized skip function, use it." -/
def skipStep (s : State) (request : Nat) : Int × State :=
  if s.canSkip then (if s.noSkipper then seekSkip s request else skipLoop s request 0 s.skips) else (0, s)

/-- `advance_file_pointer` once the two buffers are used up: `total` bytes are taken,
`request > 0` still wanted. -/
def advanceRest (s : State) (request total : Nat) : Int × State :=
  let k := skipStep s request
  if k.1 < 0 then (k.1, { k.2 with fatal := true }) else
  let s4 := { k.2 with position := k.2.position + k.1.toNat }
  if request - k.1.toNat = 0 then (((total + k.1.toNat : Nat) : Int), s4)
  else readSkipLoop s4 (request - k.1.toNat) (total + k.1.toNat)

theorem advance_eq (s : State) (n : Nat) :
    advance s n =
      if s.fatal then (-1, s) else
      if n - (useBuffers s n).2 = 0 then ((((useBuffers s n).2 : Nat) : Int), (useBuffers s n).1)
      else advanceRest (useBuffers s n).1 (n - (useBuffers s n).2) (useBuffers s n).2 := rfl

theorem skipStep_seq (s : State) (request : Nat) : Seq s (skipStep s request).2 := by
  let P : Int × State → Prop := fun r => Seq s r.2
  have hk : P (skipLoop s request 0 s.skips) := by
    obtain ⟨_, _, h3, k2⟩ := skipLoop_spec s request 0 s.skips
    exact ⟨.of_eq (by rw [k2]), h3, 0, (congrArg State.seeks k2 :)⟩
  unfold skipStep seekSkip
  exact ite_ind P (ite_ind P (ite_ind P (ite_ind P (clientSeek_seq s .cur request) (clientSeek_seq s .cur request))
    (.refl s)) hk) (.refl s)

theorem advance_seq (s : State) (n : Nat) : Seq s (advance s n).2 := by
  let P : Int × State → Prop := fun r => Seq s r.2
  have hu : Seq s (useBuffers s n).1 := .of_eq (.of_eq rfl) rfl rfl
  have hk := hu.trans (skipStep_seq (useBuffers s n).1 (n - (useBuffers s n).2))
  rw [advance_eq]
  refine ite_ind P (.refl s) (ite_ind P hu ?_)
  unfold advanceRest
  exact ite_ind P (hk.trans (.of_eq (.of_eq rfl) rfl rfl)) (ite_ind P (hk.trans (.of_eq (.of_eq rfl) rfl rfl))
    (hk.trans ((readSkipLoop_seq _ _ _).step (.of_eq rfl) rfl rfl)))

theorem consume_eq (s : State) (n : Int) :
    consume s n =
      if n < 0 then (-30, s) else if n = 0 then (0, s)
      else if (advance s n.toNat).1 = n then advance s n.toNat else (-30, (advance s n.toNat).2) := rfl

theorem consume_seq (s : State) (n : Int) : Seq s (consume s n).2 := by
  let P : Int × State → Prop := fun r => Seq s r.2
  rw [consume_eq]
  exact ite_ind P (.refl s) (ite_ind P (.refl s) (ite_ind P (advance_seq s n.toNat) (advance_seq s n.toNat)))

theorem consume_static (s : State) (n : Int) :
    Static s (consume s n).2 ∧ (SeeksOk s.seeks → SeeksOk (consume s n).2.seeks) := by
  obtain ⟨h, _, k, hk⟩ := consume_seq s n
  exact ⟨h, fun hq => hk ▸ hq.drop k⟩

theorem consume_skips (s : State) (n : Int) (h : SkipsOk s.skips) : SkipsOk (consume s n).2.skips := by
  obtain ⟨k, hk⟩ := (consume_seq s n).skips
  exact hk ▸ h.drop k

/-- `t` is `s` after `d` bytes of the stream have been consumed. -/
structure Dropped (s t : State) (d : Nat) : Prop where
  inv : Inv t
  le : d ≤ (remaining s).length
  rem : remaining t = (remaining s).drop d
  pos : t.position = s.position + d
  fatal : t.fatal = s.fatal

theorem Same.dropped {s t : State} (h : Same s t) (hp : t.position = s.position) : Dropped s t 0 :=
  ⟨h.inv, Nat.zero_le _, h.rem, hp, h.fatal⟩

theorem Dropped.trans {a b c : State} {d e : Nat} (h1 : Dropped a b d) (h2 : Dropped b c e) :
    Dropped a c (d + e) := by
  have hl := h2.le
  rw [h1.rem, List.length_drop] at hl
  exact ⟨h2.inv, by have := h1.le; omega, by rw [h2.rem, h1.rem, List.drop_drop], by rw [h2.pos, h1.pos, Nat.add_assoc],
    h2.fatal.trans h1.fatal⟩

/-- "Use up the copy buffer first." -/
theorem dropped_cb {s : State} (hi : Inv s) {m : Nat} (hm : m ≤ s.cb.length) :
    Dropped s { s with next := s.next + m, cb := s.cb.drop m, position := s.position + m } m := by
  have hc := hi.clientEq
  have hcb := hi.cbIn
  obtain ⟨old, cur, p1, p2, p3, p4⟩ := hi.prov
  have hlen : s.cb.length = old.length + cur.length := by rw [p1, List.length_append]
  refine ⟨{ hi with cbIn := ?_, prov := ?_ }, ?_, ?_, rfl, rfl⟩
  · show s.next + m + (s.cb.drop m).length ≤ s.bufSize
    rw [List.length_drop]; omega
  · by_cases hle : m ≤ old.length
    · exact ⟨old.drop m, cur, by show s.cb.drop m = _; rw [p1, List.drop_append_of_le_length hle], p2, p3,
        fun ho => p4 fun hn => ho (by rw [hn]; exact List.drop_nil)⟩
    · refine ⟨[], cur.drop (m - old.length), ?_, ?_, ?_, fun h => absurd rfl h⟩
      · show s.cb.drop m = _
        rw [p1, List.drop_append, List.drop_of_length_le (by omega)]
      · show (cur.drop (m - old.length)).length ≤ s.cnext
        rw [List.length_drop]; omega
      · show _ = (s.cblk.take s.cnext).drop (s.cnext - (cur.drop (m - old.length)).length)
        rw [List.length_drop]
        conv => lhs; rw [p3]
        rw [List.drop_drop]; congr 1; omega
  · show m ≤ (s.cb ++ _ ++ _).length
    rw [List.length_append, List.length_append]; omega
  · show s.cb.drop m ++ _ ++ _ = (s.cb ++ _ ++ _).drop m
    rw [List.append_assoc, List.append_assoc, List.drop_append_of_le_length hm]

/-- "Then use up the client buffer." -/
theorem dropped_client {s : State} (hi : Inv s) {m : Nat} (h0 : s.cb = [] ∨ m = 0) (hm : m ≤ s.cavail) :
    Dropped s { s with cnext := s.cnext + m, cavail := s.cavail - m, position := s.position + m } m := by
  rcases h0 with hcb | rfl
  · have hc := hi.clientEq
    have hc' : (s.cnext + m) + (s.cavail - m) = s.cblk.length := by omega
    refine ⟨{ hi.setClient (blk := s.cblk) hc' (Or.inl hcb) with }, ?_, ?_, rfl, rfl⟩
    · rw [remaining_eq s hc, List.length_append, List.length_append, List.length_drop]; omega
    · rw [remaining_eq s hc, remaining_eq _ hc']
      show s.cb ++ s.cblk.drop (s.cnext + m) ++ tailBytes s = _
      rw [hcb, List.nil_append, List.nil_append,
        List.drop_append_of_le_length (by rw [List.length_drop]; omega), List.drop_drop]
  · exact ⟨hi, Nat.zero_le _, rfl, rfl, rfl⟩

theorem useBuffers_spec (s : State) (request : Nat) (hi : Inv s) :
    Dropped s (useBuffers s request).1 (useBuffers s request).2 ∧ (useBuffers s request).2 ≤ request ∧
    ((useBuffers s request).2 < request → (useBuffers s request).1.cb = [] ∧ (useBuffers s request).1.cavail = 0) := by
  have e1 : Nat.min request s.cb.length = min request s.cb.length := rfl
  have e2 : Nat.min (request - Nat.min request s.cb.length) s.cavail = min (request - min request s.cb.length) s.cavail := rfl
  have d1 := dropped_cb hi (m := Nat.min request s.cb.length) (by omega)
  have d2 := d1.trans (dropped_client (m := Nat.min (request - Nat.min request s.cb.length) s.cavail) d1.inv
    (by
      by_cases h : request ≤ s.cb.length
      · exact Or.inr (by omega)
      · exact Or.inl (List.drop_of_length_le (by show s.cb.length ≤ Nat.min request s.cb.length; omega)))
    (by show Nat.min (request - Nat.min request s.cb.length) s.cavail ≤ s.cavail; omega))
  refine ⟨d2, by show Nat.min request s.cb.length + Nat.min (request - Nat.min request s.cb.length) s.cavail ≤ request; omega,
    fun hlt => ?_⟩
  have hlt' : Nat.min request s.cb.length + Nat.min (request - Nat.min request s.cb.length) s.cavail < request := hlt
  exact ⟨List.drop_of_length_le (by show s.cb.length ≤ Nat.min request s.cb.length; omega),
    by show s.cavail - Nat.min (request - Nat.min request s.cb.length) s.cavail = 0; omega⟩

/-- Outcome of `advance_file_pointer` relative to the abstract stream, `total` bytes having been
taken before: it takes `min n (bytes left)` more (fewer than `n` only at end of file) and reports
the sum, or it fails. -/
def GoodAdv (s : State) (n total : Nat) (skOk : Prop) (r : Int × State) : Prop :=
  Inv r.2 ∧
  ((r.1 = ((total + min n (remaining s).length : Nat) : Int) ∧ ((remaining s).length < n → s.term = .eof) ∧
      remaining r.2 = (remaining s).drop n ∧ r.2.position = s.position + min n (remaining s).length ∧
      r.2.fatal = false) ∨
   (r.1 < 0 ∧ r.2.fatal = true ∧ (∃ k, remaining r.2 = (remaining s).drop k) ∧
      (¬ skOk ∨ ((remaining s).length < n ∧ s.term = .err))))

theorem GoodAdv.done {s : State} (hi : Inv s) (hf : s.fatal = false) (total : Nat) (skOk : Prop) :
    GoodAdv s 0 total skOk (((total : Nat) : Int), s) :=
  ⟨hi, Or.inl ⟨by rw [Nat.zero_min]; rfl, fun h => absurd h (Nat.not_lt_zero _), rfl, by rw [Nat.zero_min]; rfl, hf⟩⟩

theorem GoodAdv.of_dropped {s s1 : State} {d n total : Nat} {skOk : Prop} {r : Int × State}
    (h : Dropped s s1 d) (ht : s1.term = s.term) (hd : d ≤ n) (g : GoodAdv s1 (n - d) (total + d) skOk r) :
    GoodAdv s n total skOk r := by
  obtain ⟨g1, g2⟩ := g
  have hle := h.le
  rw [h.rem, List.length_drop, ht, h.pos] at g2
  refine ⟨g1, ?_⟩
  rcases g2 with ⟨a1, a2, a3, a4, a5⟩ | ⟨a1, a2, ⟨k, a3⟩, a4⟩
  · left
    have hm : d + min (n - d) ((remaining s).length - d) = min n (remaining s).length := by
      rw [← Nat.add_min_add_left, Nat.add_sub_cancel' hd, Nat.add_sub_cancel' hle]
    refine ⟨by rw [a1, Nat.add_assoc, hm], fun hl => a2 (Nat.sub_lt_sub_right hle hl), ?_,
      by rw [a4, Nat.add_assoc, hm], a5⟩
    rw [a3, List.drop_drop, Nat.add_sub_cancel' hd]
  · right
    refine ⟨a1, a2, ⟨d + k, by rw [a3, List.drop_drop]⟩, ?_⟩
    rcases a4 with a4 | ⟨a4, a5⟩
    · exact Or.inl a4
    · exact Or.inr ⟨by omega, a5⟩

theorem remaining_block {s : State} (hi : Inv s) (hcb : s.cb = []) (hca : s.cavail = 0) {b : List Nat}
    {rest : List (List Nat)} (hs : s.src = b :: rest) :
    remaining s = b ++ (rest.flatten ++ s.later.flatten.flatten) := by
  rw [remaining_drained s hi.clientEq hca, hcb, tailBytes, hs, List.flatten_cons, List.nil_append, List.append_assoc]

theorem readSkipLoop_spec (s : State) (request total : Nat) (hi : Inv s) (hf : s.fatal = false)
    (hcb : s.cb = []) (hca : s.cavail = 0) (hr : 0 < request) :
    GoodAdv s request total True (readSkipLoop s request total) := by
  fun_induction readSkipLoop s request total
  case case1 s request total hsrc nxt more hlat ih =>
    have he : ¬ s.eof = true := fun he => by have := (hi.eofSrc he).2.1; rw [hlat] at this; cases this
    have hs := same_nextNode hi he hsrc hlat
    exact .of_dropped (hs.dropped rfl) rfl (Nat.zero_le _) (ih hs.inv hf hcb hca hr)
  case case2 s request total hsrc hlat hterm =>
    have hrem : remaining s = [] := (remaining_end hi hca hsrc hlat).trans hcb
    exact ⟨{ hi with }, Or.inr ⟨by show (-30 : Int) < 0; decide, rfl, ⟨0, rfl⟩, Or.inr ⟨by rw [hrem]; exact hr, hterm⟩⟩⟩
  case case3 s request total hsrc hlat hterm =>
    have hrem : remaining s = [] := (remaining_end hi hca hsrc hlat).trans hcb
    refine ⟨{ hi with eofSrc := fun _ => ⟨hsrc, hlat, hterm⟩ }, Or.inl ⟨?_, fun _ => hterm, ?_, ?_, hf⟩⟩
    · rw [hrem, List.length_nil, Nat.min_zero]; rfl
    · show remaining s = _; rw [hrem, List.drop_nil]
    · rw [hrem, List.length_nil, Nat.min_zero]; rfl
  case case4 s request total rest hsrc =>
    exact absurd rfl (hi.srcOk [] (by rw [hsrc]; exact List.mem_cons_self))
  case case5 s request total b bs rest hsrc n hn =>
    have hrem := remaining_block hi hcb hca hsrc
    have hok : SrcOk ((b :: bs) :: rest) := hsrc ▸ hi.srcOk
    have he : s.eof = true → rest = [] ∧ s.later = [] ∧ s.term = .eof :=
      fun he => by have := (hi.eofSrc he).1; rw [hsrc] at this; cases this
    have hc' : request + (n - request) = (b :: bs).length := by omega
    have hd : Dropped s
        { s with cblk := b :: bs, cnext := request, cavail := n - request, position := s.position + request, src := rest }
        request := by
      refine ⟨{ (hi.setClient hc' (Or.inl hcb)).setSource he hok.tail hi.laterOk with }, ?_, ?_, rfl, rfl⟩
      · rw [hrem, List.length_append]; omega
      · rw [hrem, remaining_eq _ hc', List.drop_append_of_le_length hn]
        rw [hcb]; rfl
    exact .of_dropped hd rfl (Nat.le_refl _) (by rw [Nat.sub_self]; exact .done hd.inv hf _ _)
  case case6 s request total b bs rest hsrc n hn ih =>
    have hrem := remaining_block hi hcb hca hsrc
    have hok : SrcOk ((b :: bs) :: rest) := hsrc ▸ hi.srcOk
    have he : s.eof = true → rest = [] ∧ s.later = [] ∧ s.term = .eof :=
      fun he => by have := (hi.eofSrc he).1; rw [hsrc] at this; cases this
    have hd : Dropped s { s with position := s.position + n, src := rest } n := by
      refine ⟨{ hi.setSource he hok.tail hi.laterOk with }, ?_, ?_, rfl, rfl⟩
      · rw [hrem, List.length_append]; exact Nat.le_add_right _ _
      · rw [hrem, List.drop_left]
        show s.cb ++ (s.cblk.drop s.cnext).take s.cavail ++ _ = _
        rw [hcb, hca, List.take_zero]; rfl
    exact .of_dropped hd rfl (by omega) (ih hd.inv hf hcb hca (by omega))

/-- The skip step on a filter with nothing buffered (seeker branch not in play): `j` bytes of
the source are dropped, and `j` is reported unless the skip callback fails or misbehaves. -/
theorem skipStep_spec (s : State) (request : Nat) (hi : Inv s) (hcb : s.cb = []) (hca : s.cavail = 0)
    (hns : NoSeekSkip s) :
    ∃ j, j ≤ request ∧
      Dropped s { (skipStep s request).2 with position := (skipStep s request).2.position + j } j ∧
      (skipStep s request).2.cb = [] ∧ (skipStep s request).2.cavail = 0 ∧
      (skipStep s request).2.fatal = s.fatal ∧
      ((skipStep s request).1 = (j : Int) ∨ ((skipStep s request).1 < 0 ∧ ¬ SkipsOk s.skips)) := by
  have h0 : Dropped s { s with position := s.position + 0 } 0 := (Same.dropped ⟨hi, rfl, rfl, rfl⟩ rfl)
  unfold skipStep
  by_cases hcs : s.canSkip = true
  · rw [if_pos hcs]
    by_cases hno : s.noSkipper = true
    · have hsk : s.hasSeeker = false := by
        rcases hns with h | h
        · rw [h] at hno; cases hno
        · exact h
      have : seekSkip s request = (0, s) := by unfold seekSkip; rw [hsk]; rfl
      rw [if_pos hno, this]
      exact ⟨0, Nat.zero_le _, h0, hcb, hca, rfl, Or.inl rfl⟩
    · rw [if_neg hno]
      obtain ⟨⟨j, j1, j2, j3, j4⟩, k1, _, k2⟩ := skipLoop_spec s request 0 s.skips
      replace k1 := k1 hi.srcOk
      generalize skipLoop s request 0 s.skips = r at *
      have hlen : (remaining s).length = s.src.flatten.length + s.later.flatten.flatten.length := by
        rw [remaining_drained s hi.clientEq hca, hcb, tailBytes, List.nil_append, List.length_append]
      refine ⟨j, j1, ?_, by rw [k2]; exact hcb, by rw [k2]; exact hca, by rw [k2], ?_⟩
      · rw [k2]
        refine ⟨{ hi.setSource ?_ k1 hi.laterOk with }, by rw [hlen]; exact Nat.le_trans j2 (Nat.le_add_right _ _), ?_, rfl, rfl⟩
        · intro he
          obtain ⟨e1, e2, e3⟩ := hi.eofSrc he
          rw [e1, List.flatten_nil, List.drop_nil] at j3
          exact ⟨k1.eq_nil j3, e2, e3⟩
        · show s.cb ++ (s.cblk.drop s.cnext).take s.cavail ++ (r.2.src.flatten ++ s.later.flatten.flatten) = _
          rw [remaining_drained s hi.clientEq hca, hcb, hca, List.take_zero, j3, tailBytes]
          simp only [List.nil_append]
          rw [List.drop_append_of_le_length j2]
      · rcases j4 with j4 | j4
        · exact Or.inl (by rw [j4]; congr 1; exact Nat.zero_add _)
        · exact Or.inr j4
  · rw [if_neg hcs]
    exact ⟨0, Nat.zero_le _, h0, hcb, hca, rfl, Or.inl rfl⟩

theorem advance_spec (s : State) (n : Nat) (hi : Inv s) (hf : s.fatal = false) (hns : NoSeekSkip s) :
    GoodAdv s n 0 (SkipsOk s.skips) (advance s n) := by
  obtain ⟨d1, hle, hdr⟩ := useBuffers_spec s n hi
  have hu : Seq s (useBuffers s n).1 := .of_eq (.of_eq rfl) rfl rfl
  have hsk : (useBuffers s n).1.skips = s.skips := rfl
  rw [advance_eq, if_neg (by rw [hf]; exact Bool.false_ne_true)]
  generalize useBuffers s n = u at *
  obtain ⟨s2, total⟩ := u
  simp only [] at d1 hle hdr hu hsk ⊢
  refine .of_dropped d1 hu.static.term hle ?_
  rw [Nat.zero_add]
  by_cases h0 : n - total = 0
  · rw [if_pos h0, h0]; exact .done d1.inv (d1.fatal.trans hf) _ _
  · rw [if_neg h0]
    obtain ⟨hcb, hca⟩ := hdr (by omega)
    obtain ⟨j, j1, d2, k1, k2, k3, k4⟩ := skipStep_spec s2 (n - total) d1.inv hcb hca
      (noSeekSkip_of_static hu.static hns)
    have ht := (skipStep_seq s2 (n - total)).static.term
    unfold advanceRest
    generalize skipStep s2 (n - total) = k at *
    rcases k4 with k4 | ⟨k4, k5⟩
    · have hk : k.1.toNat = j := by rw [k4]; rfl
      rw [if_neg (by rw [k4]; omega)]
      simp only [hk]
      refine .of_dropped d2 ht j1 ?_
      by_cases h1 : n - total - j = 0
      · rw [if_pos h1, h1]; exact .done d2.inv (d2.fatal.trans (d1.fatal.trans hf)) _ _
      · rw [if_neg h1]
        have := readSkipLoop_spec _ (n - total - j) (total + j) d2.inv (d2.fatal.trans (d1.fatal.trans hf)) k1 k2 (by omega)
        obtain ⟨g1, g2⟩ := this
        refine ⟨g1, ?_⟩
        rcases g2 with g2 | ⟨a1, a2, a3, a4⟩
        · exact Or.inl g2
        · exact Or.inr ⟨a1, a2, a3, Or.inr (a4.resolve_left (fun h => h trivial))⟩
    · rw [if_pos k4]
      exact ⟨{ d2.inv with }, Or.inr ⟨k4, rfl, ⟨j, d2.rem⟩, Or.inl (by rw [← hsk]; exact k5)⟩⟩

end LA.RA
