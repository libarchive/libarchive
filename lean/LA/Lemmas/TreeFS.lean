/-
C12 helper: basic facts about the abstract file system `LA.Tree.FS`.
-/
import LA.Lemmas.TreeDefs
namespace LA.Tree

theorem lookup_eq_find? (fs : FS) (p : Path) : fs.lookup p = (fs.find? (·.1 == p)).map (·.2) := by
  unfold FS.lookup
  cases fs.find? (·.1 == p) <;> rfl

theorem lookup_nil (p : Path) : FS.lookup [] p = none := rfl

theorem lookup_cons (x : Path × FNode) (fs : FS) (p : Path) :
    FS.lookup (x :: fs) p = if x.1 = p then some x.2 else FS.lookup fs p := by
  simp only [lookup_eq_find?, List.find?_cons]
  by_cases h : x.1 = p
  · simp [h]
  · simp [h, beq_false_of_ne h]

theorem lookup_append (a b : FS) (p : Path) :
    FS.lookup (a ++ b) p = match FS.lookup a p with
      | some n => some n
      | none => FS.lookup b p := by
  simp only [lookup_eq_find?, List.find?_append]
  cases a.find? (·.1 == p) <;> rfl

theorem lookup_some_mem {fs : FS} {p : Path} {n : FNode} (h : fs.lookup p = some n) : (p, n) ∈ fs := by
  rw [lookup_eq_find?, Option.map_eq_some_iff] at h
  obtain ⟨x, hx, rfl⟩ := h
  have hp : x.1 = p := by simpa using List.find?_some hx
  exact hp ▸ List.mem_of_find?_eq_some hx

theorem lookup_none_iff {fs : FS} {p : Path} : fs.lookup p = none ↔ p ∉ fs.map (·.1) := by
  simp only [lookup_eq_find?, Option.map_eq_none_iff, List.find?_eq_none, List.mem_map, beq_iff_eq]
  exact ⟨fun h ⟨x, hx, e⟩ => h x hx e, fun h x hx e => h ⟨x, hx, e⟩⟩

theorem lookup_mem_nodup {fs : FS} (hn : (fs.map (·.1)).Nodup) {p : Path} {n : FNode} (h : (p, n) ∈ fs) :
    fs.lookup p = some n := by
  induction fs with
  | nil => cases h
  | cons x fs ih =>
    rw [List.map_cons, List.nodup_cons] at hn
    rw [lookup_cons]
    rcases List.mem_cons.mp h with rfl | h
    · exact if_pos rfl
    · have : x.1 ≠ p := fun hx => hn.1 (hx ▸ List.mem_map_of_mem (f := (·.1)) h)
      rw [if_neg this, ih hn.2 h]

theorem map_keeps_names (fs : FS) (F : Path × FNode → Path × FNode) (h : ∀ x, (F x).1 = x.1) :
    (fs.map F).map (·.1) = fs.map (·.1) := by
  rw [List.map_map]
  exact List.map_congr_left fun x _ => h x

theorem touch_map_fst (fs : FS) (d : Path) : (fs.touch d).map (·.1) = fs.map (·.1) :=
  map_keeps_names fs _ fun x => by split <;> rfl

theorem update_map_fst (fs : FS) (i : Nat) (f : FNode → FNode) : (fs.update i f).map (·.1) = fs.map (·.1) :=
  map_keeps_names fs _ fun x => by split <;> rfl

/-- `touch` changes nothing when the directory's mtime is already a clock value. -/
theorem touch_id (fs : FS) (d : Path) (h : ∀ x ∈ fs, x.1 = d → x.2.mtime = none) : fs.touch d = fs := by
  refine (List.map_congr_left fun x hx => ?_).trans (List.map_id fs)
  split
  · next hd => rw [← h x hx (by simpa using hd)]; rfl
  · rfl

/-- In a prefix-closed file system every prefix of a directory's path is a directory in it. -/
theorem prefix_dirs {fs : FS}
    (hpc : ∀ p n, (p, n) ∈ fs → p ≠ [] → ∃ d, fs.lookup p.dropLast = some d ∧ d.kind = .dir)
    (k : Nat) {q : Path} {d : FNode} (hq : fs.lookup q = some d) (hd : d.kind = .dir) :
    ∃ d', fs.lookup (q.take k) = some d' ∧ d'.kind = .dir := by
  induction hm : q.length generalizing q d with
  | zero => exact ⟨d, by rwa [List.take_of_length_le (by omega)], hd⟩
  | succ m ih =>
    by_cases hk : q.length ≤ k
    · exact ⟨d, by rwa [List.take_of_length_le hk], hd⟩
    · obtain ⟨d0, hd0, hk0⟩ := hpc q d (lookup_some_mem hq) (fun e => by simp [e] at hm)
      have := ih hd0 hk0 (by simp [hm])
      rwa [List.dropLast_eq_take, List.take_take, Nat.min_eq_left (by omega)] at this

/-- Path resolution succeeds when every proper prefix is a directory the caller may search. -/
theorem reach_of_prefixes (root : Bool) (fs : FS) (p : Path)
    (h : ∀ k, k < p.length → ∃ d, fs.lookup (p.take k) = some d ∧ d.kind = .dir ∧
      (root = true ∨ d.mode &&& 0o100 ≠ 0)) : fs.reach root p = true := by
  unfold FS.reach
  rw [List.all_eq_true]
  intro k hk
  obtain ⟨d, hd, hdk, hs⟩ := h k (List.mem_range.mp hk)
  rw [hd]
  rcases hs with hs | hs <;> simp [FNode.searchableDir, hdk, hs]

/-- Path resolution succeeds for a name whose parent is a directory of a prefix-closed file
system in which every directory is searchable by the caller. -/
theorem reach_of_parent (root : Bool) (fs : FS)
    (hpc : ∀ p n, (p, n) ∈ fs → p ≠ [] → ∃ d, fs.lookup p.dropLast = some d ∧ d.kind = .dir)
    (hs : ∀ p n, (p, n) ∈ fs → n.kind = .dir → root = true ∨ n.mode &&& 0o100 ≠ 0)
    (p : Path) (hp : p = [] ∨ ∃ d, fs.lookup p.dropLast = some d ∧ d.kind = .dir) :
    fs.reach root p = true := by
  apply reach_of_prefixes
  intro k hk
  rcases hp with rfl | ⟨d, hd, hdk⟩
  · cases hk
  · obtain ⟨d', hd', hk'⟩ := prefix_dirs hpc k hd hdk
    rw [List.dropLast_eq_take, List.take_take, Nat.min_eq_left (by omega)] at hd'
    exact ⟨d', hd', hk', hs _ _ (lookup_some_mem hd') hk'⟩

end LA.Tree
