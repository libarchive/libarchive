/-
Session-level lemmas for the client write layer: a run of writes followed by
close, composed from the per-call specifications of `LA.Lemmas.ClientWrite`.
-/
import LA.Lemmas.ClientWrite
namespace LA.CW

@[simp] theorem allEvents_nil : allEvents [] = [] := rfl
@[simp] theorem allEvents_cons (x : St × List Event) (l : List (St × List Event)) :
    allEvents (x :: l) = x.2 ++ allEvents l := by simp [allEvents]
@[simp] theorem allEvents_append (a b : List (St × List Event)) :
    allEvents (a ++ b) = allEvents a ++ allEvents b := by simp [allEvents]

theorem mem_allEvents_iff {l : List (St × List Event)} {e : Event} :
    e ∈ allEvents l ↔ ∃ x ∈ l, e ∈ x.2 := by
  simp only [allEvents, List.mem_flatten, List.mem_map]
  constructor
  · rintro ⟨_, ⟨x, hx, rfl⟩, he⟩; exact ⟨x, hx, he⟩
  · rintro ⟨x, hx, he⟩; exact ⟨x.2, ⟨x, hx, rfl⟩, he⟩

/-- What a run of writes guarantees (`s` is the filter state before the run). -/
structure RunSpec {σ : Type} (W : Writer σ) (w : σ) (s : CState) (ds : List (List Cell))
    (r : List (St × List Event) × Option CState × σ) : Prop where
  steps : ∀ x ∈ r.1, x.1 ≠ .oob ∧ (x.1 = .fatal ↔ ∃ e ∈ x.2, e.bad)
  done : ∀ s', r.2.1 = some s' → (∀ x ∈ r.1, x.1 = .ok) ∧ r.1.length = ds.length ∧ Inv s' ∧
    s'.bufSize = s.bufSize ∧ taken (allEvents r.1) ++ pending s' = pending s ++ ds.flatten ∧
    ∀ c ∈ pending s', c ∈ pending s ++ ds.flatten
  failed : r.2.1 = none → ∃ x ∈ r.1, x.1 = .fatal
  pre : taken (allEvents r.1) <+: pending s ++ ds.flatten
  resumes : ∀ S t, pending s ++ ds.flatten <+: S.drop t → Resumes S t (allEvents r.1)
  offers : ∀ e ∈ allEvents r.1, ∀ c ∈ e.offer, c ∈ pending s ++ ds.flatten
  full : 0 < s.bufSize → (∀ e ∈ allEvents r.1, e.ret = e.offer.length) →
    ∀ e ∈ allEvents r.1, e.offer.length = s.bufSize
  threads : Threads W w (allEvents r.1) r.2.2

/-- What a run keeps back: the pending bytes if every call succeeded. -/
def kept (o : Option CState) : List Cell := o.elim [] pending

/-- A run is a stage over the pending bytes followed by all the data. -/
theorem RunSpec.stage {σ : Type} {W : Writer σ} {w : σ} {s : CState} {ds : List (List Cell)}
    {r : List (St × List Event) × Option CState × σ} (h : RunSpec W w s ds r) :
    Stage (pending s ++ ds.flatten) (allEvents r.1) (kept r.2.1) (r.2.1 ≠ none) := by
  have hr := h.resumes _ 0 (List.prefix_refl _)
  cases ho : r.2.1 with
  | none => exact ⟨hr, fun hk => absurd rfl hk, fun _ hc => (List.not_mem_nil hc).elim⟩
  | some s' => exact ⟨hr, fun _ => (h.done s' ho).2.2.2.2.1, (h.done s' ho).2.2.2.2.2⟩

theorem RunSpec.of_stage {σ : Type} {W : Writer σ} {w : σ} {s : CState} {ds : List (List Cell)}
    {r : List (St × List Event) × Option CState × σ}
    (hst : Stage (pending s ++ ds.flatten) (allEvents r.1) (kept r.2.1) (r.2.1 ≠ none))
    (steps : ∀ x ∈ r.1, x.1 ≠ .oob ∧ (x.1 = .fatal ↔ ∃ e ∈ x.2, e.bad))
    (done : ∀ s', r.2.1 = some s' → (∀ x ∈ r.1, x.1 = .ok) ∧ r.1.length = ds.length ∧ Inv s' ∧ s'.bufSize = s.bufSize)
    (failed : r.2.1 = none → ∃ x ∈ r.1, x.1 = .fatal)
    (full : 0 < s.bufSize → (∀ e ∈ allEvents r.1, e.ret = e.offer.length) →
      ∀ e ∈ allEvents r.1, e.offer.length = s.bufSize)
    (threads : Threads W w (allEvents r.1) r.2.2) : RunSpec W w s ds r := by
  refine ⟨steps, fun s' hs' => ?_, failed, hst.pre, fun _ _ => hst.resumes_at, hst.resumes.offers, full, threads⟩
  obtain ⟨a, b, c, d⟩ := done s' hs'
  have hk : kept r.2.1 = pending s' := by rw [hs']; rfl
  exact ⟨a, b, c, d, hk ▸ hst.done (by rw [hs']; nofun), hk ▸ hst.rest_sub⟩

theorem runWrites_spec {σ : Type} (W : Writer σ) (w : σ) (s : CState) (ds : List (List Cell))
    (hi : Inv s) : RunSpec W w s ds (runWrites W w s ds) := by
  induction ds generalizing w s with
  | nil =>
    exact .of_stage (.of_done trivial (List.append_nil _).symm) nofun
      (fun s' h => by cases h; exact ⟨nofun, rfl, hi, rfl⟩) nofun (fun _ _ => nofun) rfl
  | cons d ds ih =>
    have hW := clientWrite_wrote W w s d
    have hs := hW.spec hi.winv
    have hstep : ∀ x ∈ [((clientWrite W w s d).1, (clientWrite W w s d).2.2.1)],
        x.1 ≠ .oob ∧ (x.1 = .fatal ↔ ∃ e ∈ x.2, e.bad) := fun x hx => by
      rw [List.mem_singleton.mp hx]; exact ⟨hs.not_oob, hs.status⟩
    rw [runWrites]
    dsimp only
    have hflat : pending s ++ (d :: ds).flatten = (pending s ++ d) ++ ds.flatten := by
      rw [List.flatten_cons, List.append_assoc]
    by_cases hok : (clientWrite W w s d).1 = .ok
    · -- the call succeeded: the rest of the run starts from its state
      rw [if_pos hok]
      have ih := ih (clientWrite W w s d).2.2.2 (clientWrite W w s d).2.1 (hs.ok hok).1
      refine .of_stage ?_ (List.forall_mem_cons.mpr ⟨hstep _ (List.mem_singleton_self _), ih.steps⟩) (fun s' h => ?_)
        (fun h => (ih.failed h).imp fun x hx => ⟨List.mem_cons_of_mem _ hx.1, hx.2⟩) ?_
        (hW.ran.threads.append ih.threads)
      · rw [hflat]; exact (hs.stage.imp fun _ => hok).seq ih.stage
      · obtain ⟨a, b, c, d, _⟩ := ih.done s' h
        exact ⟨List.forall_mem_cons.mpr ⟨hok, a⟩, congrArg (· + 1) b, c, d.trans hs.size⟩
      · intro hb hall e he
        rcases List.mem_append.mp he with he | he
        · exact hs.full hb (fun e he => hall e (List.mem_append_left _ he)) e he
        · exact (ih.full (hs.size ▸ hb) (fun e he => hall e (List.mem_append_right _ he)) e he).trans hs.size
    · -- the call failed: the run ends here
      rw [if_neg hok]
      have hfat : (clientWrite W w s d).1 = .fatal := by
        cases h : (clientWrite W w s d).1 with
        | ok => exact absurd h hok
        | fatal => rfl
        | oob => exact absurd h hs.not_oob
      refine .of_stage ?_ hstep nofun (fun _ => ⟨_, List.mem_singleton_self _, hfat⟩) ?_ ?_
      · rw [hflat, allEvents_cons, allEvents_nil, List.append_nil]
        exact .fail hs.stage.resumes (List.prefix_append _ _) (fun _ hc => (List.not_mem_nil hc).elim) (fun h => h rfl)
      · rw [allEvents_cons, allEvents_nil, List.append_nil]; exact hs.full
      · rw [allEvents_cons, allEvents_nil, List.append_nil]; exact hW.ran.threads

theorem taken_full : ∀ (l : List Event), (∀ e ∈ l, e.ret = e.offer.length) →
    taken l = (l.map (·.offer)).flatten := by
  intro l
  induction l with
  | nil => intro _; rfl
  | cons e r ih =>
    intro h
    rw [taken_cons, List.map_cons, List.flatten_cons, ih fun e he => h e (List.mem_cons_of_mem _ he), Event.taken,
      h e List.mem_cons_self, Int.toNat_natCast, List.take_length]

theorem flatten_length_const (n : Nat) : ∀ (l : List (List Cell)), (∀ o ∈ l, o.length = n) →
    l.flatten.length = n * l.length := by
  intro l
  induction l with
  | nil => intro _; rfl
  | cons a r ih =>
    intro h
    rw [List.flatten_cons, List.length_append, List.length_cons, Nat.mul_succ, Nat.add_comm,
      ih fun o ho => h o (List.mem_cons_of_mem _ ho), h a List.mem_cons_self]

theorem padLen_lt (bpb : Nat) (bil : Int) (f : Nat) (h : f ≤ bpb) :
    padLen bpb bil f = 0 ∨ padLen bpb bil f < bpb := by
  unfold padLen
  split
  · exact .inl rfl
  · have := lastBlockLen_le bpb bil f h
    exact .inr (by omega)

/-- What one life of the client filter (open, writes, close) guarantees. -/
structure SessionSpec {σ : Type} (W : Writer σ) (w : σ) (bpb : Nat) (bil : Int) (ds : List (List Cell))
    (r : List (St × List Event) × σ) : Prop where
  steps : ∀ x ∈ r.1, x.1 ≠ .oob ∧ (x.1 = .fatal ↔ ∃ e ∈ x.2, e.bad)
  stream : ∃ n, (n = 0 ∨ n < bpb) ∧
    taken (allEvents r.1) <+: ds.flatten ++ List.replicate n (some 0) ∧
    Resumes (ds.flatten ++ List.replicate n (some 0)) 0 (allEvents r.1) ∧
    (∀ e ∈ allEvents r.1, ∀ c ∈ e.offer, c ∈ ds.flatten ++ List.replicate n (some 0)) ∧
    ((∀ x ∈ r.1, x.1 = .ok) → r.1.length = ds.length + 1 ∧
      taken (allEvents r.1) = ds.flatten ++ List.replicate n (some 0))
  threads : Threads W w (allEvents r.1) r.2
  blocked : 0 < bpb → (∀ e ∈ allEvents r.1, e.ret = e.offer.length) →
    ∃ wo : List (List Cell), (∀ o ∈ wo, o.length = bpb) ∧
      wo.flatten = ds.flatten.take (ds.flatten.length - ds.flatten.length % bpb) ∧
      (allEvents r.1).map (·.offer) = wo ++
        (if ds.flatten.length % bpb = 0 then [] else
          [ds.flatten.drop (ds.flatten.length - ds.flatten.length % bpb) ++
            List.replicate (padLen bpb bil (ds.flatten.length % bpb)) (some 0)])

theorem session_spec {σ : Type} (W : Writer σ) (w : σ) (bpb : Nat) (bil : Int) (ds : List (List Cell)) :
    SessionSpec W w bpb bil ds (session W w bpb bil ds) := by
  have hr := runWrites_spec W w (clientOpen bpb) ds (clientOpen_inv bpb)
  have hst := hr.stage
  have hsz : (clientOpen bpb).bufSize = bpb := List.length_replicate
  unfold session
  dsimp only
  generalize runWrites W w (clientOpen bpb) ds = r at hr hst ⊢
  obtain ⟨steps, os, w1⟩ := r
  rw [pending_clientOpen, List.nil_append] at hst
  have hfull := hr.full
  rw [hsz] at hfull
  cases os with
  | none =>
    -- a write failed: no close, no padding
    obtain ⟨x, hx, hxf⟩ := hr.failed rfl
    obtain ⟨e, he, hbad⟩ := (hr.steps x hx).2.mp hxf
    refine ⟨hr.steps, ⟨0, .inl rfl, ?_⟩, hr.threads, fun hb hall => ?_⟩
    · rw [List.replicate_zero, List.append_nil]
      exact ⟨hst.pre, hst.resumes, hst.resumes.offers, fun h => nomatch (h x hx).symm.trans hxf⟩
    · have hmem := mem_allEvents_iff.mpr ⟨x, hx, he⟩
      have h1 := hall e hmem
      have h2 := hfull hb hall e hmem
      unfold Event.bad at hbad
      omega
  | some s' =>
    obtain ⟨d1, d2, d3, d4, d5, _⟩ := hr.done s' rfl
    rw [hsz] at d4
    have hc := clientClose_spec W w1 s' bpb bil d3.winv d4.symm
    have hcs := (clientClose_stage W w1 s' bpb bil d3.winv)
    have hct := (clientClose_ran W w1 s' bpb bil).threads
    dsimp only
    generalize clientClose W w1 s' bpb bil = c at hc hcs hct ⊢
    obtain ⟨cst, cevs, w2⟩ := c
    have hev : allEvents (steps ++ [(cst, cevs)]) = allEvents steps ++ cevs := by
      rw [allEvents_append, allEvents_cons, allEvents_nil, List.append_nil]
    have hall : Stage (ds.flatten ++ List.replicate (padLen bpb bil s'.fill) (some 0))
        (allEvents (steps ++ [(cst, cevs)])) [] (cst = .ok) := hev ▸ (hst.imp fun _ => nofun).seq hcs
    refine ⟨?_, ⟨_, padLen_lt bpb bil s'.fill (d4 ▸ d3.1), hall.pre, hall.resumes, hall.resumes.offers, fun h => ?_⟩,
      hev ▸ hr.threads.append hct, fun hb hall => ?_⟩
    · exact List.forall_mem_append.mpr ⟨hr.steps, fun x hx => List.mem_singleton.mp hx ▸ ⟨hc.not_oob, hc.status⟩⟩
    · exact ⟨by rw [List.length_append, d2]; rfl,
        by simpa using hall.done (h _ (List.mem_append_right _ (List.mem_singleton_self _)))⟩
    · -- every offer of the writes is one block, so `s'.fill` is the stream length modulo `bpb`
      rw [hev] at hall ⊢
      have hallw : ∀ e ∈ allEvents steps, e.ret = e.offer.length := fun e he => hall e (List.mem_append_left _ he)
      have hcev : cevs = _ := hc.full fun e he => hall e (List.mem_append_right _ he)
      have htw := taken_full _ hallw
      have hlw : ∀ o ∈ (allEvents steps).map (·.offer), o.length = bpb := by
        intro o ho
        obtain ⟨e, he, rfl⟩ := List.mem_map.mp ho
        exact hfull hb hallw e he
      have hfl2 := flatten_length_const bpb _ hlw
      have hfill_lt : s'.fill < bpb := d4 ▸ d3.2 (d4 ▸ hb)
      have hplen : (pending s').length = s'.fill := by
        rw [pending, List.length_take]; exact Nat.min_eq_left d3.1
      have hDlen : ds.flatten.length = bpb * ((allEvents steps).map (·.offer)).length + s'.fill := by
        rw [← hplen, ← hfl2, ← htw, ← List.length_append, d5]; rfl
      have hmod : ds.flatten.length % bpb = s'.fill := by
        rw [hDlen, Nat.mul_add_mod]; exact Nat.mod_eq_of_lt hfill_lt
      have hsub : ds.flatten.length - s'.fill = (taken (allEvents steps)).length := by
        rw [htw, hfl2, hDlen]; omega
      have hd5 : ds.flatten = taken (allEvents steps) ++ pending s' := d5.symm
      refine ⟨_, hlw, ?_, ?_⟩
      · rw [hmod, hsub, hd5, List.take_left' rfl, htw]
      · rw [List.map_append, hcev, hmod, hsub]
        congr 1
        by_cases hz : s'.fill = 0
        · rw [if_pos hz, if_pos hz]; rfl
        · rw [if_neg hz, if_neg hz, hd5, List.drop_left' rfl]; rfl

end LA.CW
