import LA.Model.ReadAhead
namespace LA.RA

/-- Abstract view: the stream suffix not yet consumed, how the source ends, and
the sticky failure flag. -/
structure Spec where
  rem : List Nat
  term : Term
  fatal : Bool
  deriving DecidableEq, Repr

def absS (s : State) : Spec := ⟨remaining s, s.term, s.fatal⟩

/-- What a caller of the interface can legitimately use of an `ahead` result:
the first `min` bytes of the window (its total length depends on the
partition), or the failure kind. -/
inductive Obs
  | ok (bytes : List Nat)
  | short (k : Nat)
  | fatal
  deriving DecidableEq, Repr

def obsOf (min : Nat) : AheadR → Obs
  | .window w _ => .ok (w.take min)
  | .short k => if min = 0 then .ok [] else .short k
  | .fatal => .fatal
  | .stuck => .fatal

def specAhead (sp : Spec) (min : Nat) : Obs × Spec :=
  if sp.fatal then (.fatal, sp)
  else if min ≤ sp.rem.length then (.ok (sp.rem.take min), sp)
  else match sp.term with
    | .eof => (.short sp.rem.length, sp)
    | .err => (.fatal, ⟨[], sp.term, true⟩)

/-- Well-formed source script: no zero-length blocks (a zero-length read is
end-of-file by the callback contract and is modelled by `term`). -/
def SrcOk (src : List (List Nat)) : Prop := ∀ b ∈ src, b ≠ []

/-- Representation invariant of `struct archive_read_filter`. -/
structure Inv (s : State) : Prop where
  cbIn : s.next + s.cb.length ≤ s.bufSize
  bufLt : s.bufSize < 2 ^ 63
  clientEq : s.cnext + s.cavail = s.cblk.length
  prov : ∃ old cur, s.cb = old ++ cur ∧ cur.length ≤ s.cnext ∧
          cur = (s.cblk.take s.cnext).drop (s.cnext - cur.length) ∧ (old ≠ [] → s.cnext = cur.length)
  eofSrc : s.eof = true → s.src = [] ∧ s.later = [] ∧ s.term = .eof
  srcOk : SrcOk s.src
  laterOk : ∀ n ∈ s.later, SrcOk n

/-- The seeker branch of `client_skip_proxy` is not in play: a skip callback is registered, or
there is no seek callback (see `seekSkip`; known finding "skip-by-seek"). -/
def NoSeekSkip (s : State) : Prop := s.noSkipper = false ∨ s.hasSeeker = false

theorem SrcOk.tail {b : List Nat} {src : List (List Nat)} (h : SrcOk (b :: src)) : SrcOk src :=
  fun x hx => h x (List.mem_cons_of_mem _ hx)

theorem SrcOk.eq_nil {src : List (List Nat)} (h : SrcOk src) (hf : src.flatten = []) : src = [] := by
  cases src with
  | nil => rfl
  | cons b t => exact absurd (List.append_eq_nil_iff.mp hf).1 (h b List.mem_cons_self)

theorem inv_init_nodes (src : List (List Nat)) (later : List (List (List Nat))) (t : Term) (sk : List Int)
    (cs : Bool) (h : SrcOk src) (hl : ∀ n ∈ later, SrcOk n) :
    Inv { src := src, later := later, term := t, skips := sk, canSkip := cs } :=
  { cbIn := Nat.le_refl _, bufLt := Nat.two_pow_pos 63, clientEq := rfl,
    prov := ⟨[], [], rfl, Nat.le_refl _, rfl, fun h => absurd rfl h⟩, eofSrc := fun h => Bool.noConfusion h,
    srcOk := h, laterOk := hl }

theorem inv_init (src : List (List Nat)) (t : Term) (sk : List Int) (cs : Bool) (h : SrcOk src) :
    Inv { src := src, term := t, skips := sk, canSkip := cs } :=
  inv_init_nodes src [] t sk cs h (fun _ h => nomatch h)

/-! ### How `Inv` follows a change of one part of the state -/

theorem Inv.setBuf {s : State} (hi : Inv s) {nx bs : Nat} (h : nx + s.cb.length ≤ bs) (hb : bs < 2 ^ 63) :
    Inv { s with bufSize := bs, next := nx } :=
  { hi with cbIn := h, bufLt := hb }

theorem Inv.setSource {s : State} (hi : Inv s) {e : Bool} {src : List (List Nat)} {later : List (List (List Nat))}
    (he : e = true → src = [] ∧ later = [] ∧ s.term = .eof) (h1 : SrcOk src) (h2 : ∀ n ∈ later, SrcOk n) :
    Inv { s with eof := e, src := src, later := later } :=
  { hi with eofSrc := he, srcOk := h1, laterOk := h2 }

theorem take_drop_self (l : List Nat) (n : Nat) : (l.take n).drop n = [] :=
  List.drop_of_length_le (List.length_take_le _ _)

/-- Another client block (nothing of it in the copy buffer yet). -/
theorem Inv.setClient {s : State} (hi : Inv s) {blk : List Nat} {cn ca : Nat} (hc : cn + ca = blk.length)
    (h0 : s.cb = [] ∨ cn = 0) : Inv { s with cblk := blk, cnext := cn, cavail := ca } :=
  { hi with
    clientEq := hc
    prov := ⟨s.cb, [], (List.append_nil _).symm, Nat.zero_le _, (take_drop_self blk cn).symm,
      fun h => h0.resolve_left h⟩ }

theorem growLoop_ok (fuel s min : Nat) (hs : 0 < s) (hs2 : s < 2 ^ 63) (hmin : min ≤ 2 ^ 62)
    (hf : min ≤ s * 2 ^ fuel) :
    ∃ r, growLoop (fuel + 1) s s min = some r ∧ min ≤ r ∧ s ≤ r ∧ r < 2 ^ 63 := by
  induction fuel generalizing s with
  | zero =>
    have : ¬ s < min := by simp at hf; omega
    exact ⟨s, by simp [growLoop, this], by omega, by omega, hs2⟩
  | succ f ih =>
    by_cases hlt : s < min
    · have h2 : s * 2 % sizeMax = s * 2 := by unfold sizeMax; omega
      have hgt : ¬ s * 2 ≤ s := by omega
      have hf' : min ≤ s * 2 * 2 ^ f := by
        have : s * 2 ^ (f + 1) = s * 2 * 2 ^ f := by rw [Nat.pow_succ]; ac_rfl
        omega
      obtain ⟨r, h1, h3, h4, h5⟩ := ih (s * 2) (by omega) (by omega) hf'
      refine ⟨r, ?_, h3, by omega, h5⟩
      rw [growLoop]
      simp only [hlt, if_true, h2, hgt, if_false]
      exact h1
    · exact ⟨s, by rw [growLoop]; simp [hlt], by omega, by omega, hs2⟩

theorem grow_ok (bs min : Nat) (hb : bs < 2 ^ 63) (hmin : min ≤ 2 ^ 62) (hlt : bs < min) :
    ∃ r, grow bs min = some r ∧ min ≤ r ∧ r < 2 ^ 63 := by
  unfold grow
  by_cases h0 : bs = 0
  · exact ⟨min, by simp [h0], by omega, by omega⟩
  · simp only [h0, if_false]
    have hf : min ≤ bs * 2 ^ 64 := by
      have : 1 ≤ bs := by omega
      calc min ≤ 2 ^ 62 := hmin
        _ ≤ 1 * 2 ^ 64 := by omega
        _ ≤ bs * 2 ^ 64 := Nat.mul_le_mul_right _ this
    obtain ⟨r, h1, h2, _, h4⟩ := growLoop_ok 64 bs min (by omega) hb hmin hf
    exact ⟨r, h1, h2, h4⟩

/-! ### The stream in three pieces -/

theorem client_take (s : State) (h : s.cnext + s.cavail = s.cblk.length) :
    (s.cblk.drop s.cnext).take s.cavail = s.cblk.drop s.cnext :=
  List.take_of_length_le (by rw [List.length_drop]; omega)

/-- Bytes the source has not delivered yet: rest of the current data node, then the later nodes. -/
def tailBytes (s : State) : List Nat := s.src.flatten ++ s.later.flatten.flatten

theorem remaining_eq (s : State) (h : s.cnext + s.cavail = s.cblk.length) :
    remaining s = s.cb ++ s.cblk.drop s.cnext ++ tailBytes s := by
  unfold remaining tailBytes; rw [client_take s h]

theorem remaining_drained (s : State) (hc : s.cnext + s.cavail = s.cblk.length) (hca : s.cavail = 0) :
    remaining s = s.cb ++ tailBytes s := by
  rw [remaining_eq s hc, List.drop_of_length_le (by omega), List.append_nil]

/-- `s'` agrees with `s` on everything that describes the source itself and on the
`dataset[]` bookkeeping. -/
structure Static (s s' : State) : Prop where
  noSkipper : s'.noSkipper = s.noSkipper
  hasSeeker : s'.hasSeeker = s.hasSeeker
  canSeek : s'.canSeek = s.canSeek
  canSkip : s'.canSkip = s.canSkip
  nodes : s'.nodes = s.nodes
  blk : s'.blk = s.blk
  term : s'.term = s.term
  begins : s'.begins = s.begins
  sizes : s'.sizes = s.sizes

theorem Static.refl (s : State) : Static s s := ⟨rfl, rfl, rfl, rfl, rfl, rfl, rfl, rfl, rfl⟩

theorem Static.trans {a b c : State} (h1 : Static a b) (h2 : Static b c) : Static a c :=
  ⟨h2.noSkipper.trans h1.noSkipper, h2.hasSeeker.trans h1.hasSeeker, h2.canSeek.trans h1.canSeek,
   h2.canSkip.trans h1.canSkip, h2.nodes.trans h1.nodes, h2.blk.trans h1.blk, h2.term.trans h1.term,
   h2.begins.trans h1.begins, h2.sizes.trans h1.sizes⟩

theorem noSeekSkip_of_static {s s' : State} (h : Static s s') (hn : NoSeekSkip s) : NoSeekSkip s' := by
  unfold NoSeekSkip at *
  rw [h.noSkipper, h.hasSeeker]; exact hn

/-- `t` is `s` with fields outside `Static` set explicitly. -/
theorem Static.of_eq {s t : State}
    (h : { t with noSkipper := s.noSkipper, hasSeeker := s.hasSeeker, canSeek := s.canSeek, canSkip := s.canSkip,
                  nodes := s.nodes, blk := s.blk, term := s.term, begins := s.begins, sizes := s.sizes } = t) :
    Static s t :=
  ⟨(congrArg State.noSkipper h).symm, (congrArg State.hasSeeker h).symm, (congrArg State.canSeek h).symm,
   (congrArg State.canSkip h).symm, (congrArg State.nodes h).symm, (congrArg State.blk h).symm,
   (congrArg State.term h).symm, (congrArg State.begins h).symm, (congrArg State.sizes h).symm⟩

/-- What the sequential operations may do outside `Static`: the callback scripts are used up
from the front. -/
structure Seq (s t : State) : Prop where
  static : Static s t
  skips : ∃ k, t.skips = s.skips.drop k
  seeks : ∃ k, t.seeks = s.seeks.drop k

theorem Seq.of_eq {s t : State} (h : Static s t) (h1 : t.skips = s.skips) (h2 : t.seeks = s.seeks) : Seq s t :=
  ⟨h, ⟨0, h1⟩, ⟨0, h2⟩⟩

theorem Seq.refl (s : State) : Seq s s := .of_eq (.refl s) rfl rfl

theorem Seq.trans {a b c : State} (h1 : Seq a b) (h2 : Seq b c) : Seq a c := by
  obtain ⟨k1, e1⟩ := h1.skips; obtain ⟨k2, e2⟩ := h2.skips
  obtain ⟨j1, f1⟩ := h1.seeks; obtain ⟨j2, f2⟩ := h2.seeks
  exact ⟨h1.static.trans h2.static, ⟨k1 + k2, by rw [e2, e1, List.drop_drop]⟩, ⟨j1 + j2, by rw [f2, f1, List.drop_drop]⟩⟩

/-- `b` is `a` with fields outside `Static` other than the two scripts set explicitly. -/
theorem Seq.step {a b c : State} (h : Seq b c) (e : Static a b) (h1 : b.skips = a.skips) (h2 : b.seeks = a.seeks) :
    Seq a c := (Seq.of_eq e h1 h2).trans h

/-- `s` with the window of `t`: the copy buffer, the client block, the two latches and the read
script. -/
def withWindow (s t : State) : State :=
  { s with bufSize := t.bufSize, next := t.next, cb := t.cb, cblk := t.cblk, cnext := t.cnext,
           cavail := t.cavail, eof := t.eof, fatal := t.fatal, src := t.src, later := t.later }

/-- `t` differs from `s` in the window only: what `__archive_read_filter_ahead` may change. -/
def Win (s t : State) : Prop := withWindow s t = t

theorem Win.refl (s : State) : Win s s := rfl

theorem Win.trans {a b c : State} (h1 : Win a b) (h2 : Win b c) : Win a c :=
  (congrArg (fun x => withWindow x c) h1).trans h2

/-- `b` is `a` with fields of the window set explicitly. -/
theorem Win.step {a b c : State} (h : Win b c) (e : withWindow a b = b) : Win a c := Win.trans e h

theorem Win.static {s t : State} (h : Win s t) : Static s t :=
  ⟨(congrArg State.noSkipper h).symm, (congrArg State.hasSeeker h).symm, (congrArg State.canSeek h).symm,
   (congrArg State.canSkip h).symm, (congrArg State.nodes h).symm, (congrArg State.blk h).symm,
   (congrArg State.term h).symm, (congrArg State.begins h).symm, (congrArg State.sizes h).symm⟩

theorem Win.position {s t : State} (h : Win s t) : t.position = s.position := (congrArg State.position h).symm
theorem Win.skips {s t : State} (h : Win s t) : t.skips = s.skips := (congrArg State.skips h).symm
theorem Win.seeks {s t : State} (h : Win s t) : t.seeks = s.seeks := (congrArg State.seeks h).symm

/-- What `client_switch_proxy` / `client_seek_proxy` / the node walks leave alone: everything
of the filter proper and the description of the source. -/
structure Filt (s s' : State) : Prop where
  bufSize : s'.bufSize = s.bufSize
  next : s'.next = s.next
  cb : s'.cb = s.cb
  cblk : s'.cblk = s.cblk
  cnext : s'.cnext = s.cnext
  cavail : s'.cavail = s.cavail
  position : s'.position = s.position
  eof : s'.eof = s.eof
  fatal : s'.fatal = s.fatal
  skips : s'.skips = s.skips
  noSkipper : s'.noSkipper = s.noSkipper
  hasSeeker : s'.hasSeeker = s.hasSeeker
  canSeek : s'.canSeek = s.canSeek
  canSkip : s'.canSkip = s.canSkip
  nodes : s'.nodes = s.nodes
  blk : s'.blk = s.blk
  term : s'.term = s.term

theorem Filt.refl (s : State) : Filt s s := by constructor <;> rfl

theorem Filt.trans {a b c : State} (h1 : Filt a b) (h2 : Filt b c) : Filt a c :=
  ⟨h2.bufSize.trans h1.bufSize, h2.next.trans h1.next, h2.cb.trans h1.cb, h2.cblk.trans h1.cblk,
   h2.cnext.trans h1.cnext, h2.cavail.trans h1.cavail, h2.position.trans h1.position, h2.eof.trans h1.eof,
   h2.fatal.trans h1.fatal, h2.skips.trans h1.skips, h2.noSkipper.trans h1.noSkipper,
   h2.hasSeeker.trans h1.hasSeeker, h2.canSeek.trans h1.canSeek, h2.canSkip.trans h1.canSkip,
   h2.nodes.trans h1.nodes, h2.blk.trans h1.blk, h2.term.trans h1.term⟩

theorem place_filt (s : State) (e c off : Nat) : Filt s (place s e c off) := by constructor <;> rfl

theorem ite_ind {α : Sort _} (P : α → Prop) {c : Prop} [Decidable c] {x y : α} (hx : P x) (hy : P y) :
    P (if c then x else y) := by
  split <;> assumption

/-- `client_seek_proxy` touches nothing but the client: it moves it or not, and uses up at most
one entry of the seek script. -/
theorem clientSeek_frame (s : State) (w : Whence) (off : Int) :
    Filt s (clientSeek s w off).2 ∧ (clientSeek s w off).2.begins = s.begins ∧
    (clientSeek s w off).2.sizes = s.sizes ∧
    ((clientSeek s w off).2.seeks = s.seeks ∨ (clientSeek s w off).2.seeks = s.seeks.tail) := by
  have h1 : Filt s { s with seeks := s.seeks.tail } := by constructor <;> rfl
  let P : Int × State → Prop := fun r =>
    Filt s r.2 ∧ r.2.begins = s.begins ∧ r.2.sizes = s.sizes ∧ (r.2.seeks = s.seeks ∨ r.2.seeks = s.seeks.tail)
  unfold clientSeek
  exact ite_ind P ⟨.refl s, rfl, rfl, .inl rfl⟩ (ite_ind P ⟨h1, rfl, rfl, .inr rfl⟩
    (ite_ind P ⟨h1, rfl, rfl, .inr rfl⟩ ⟨h1.trans (place_filt _ _ _ _), rfl, rfl, .inr rfl⟩))

theorem clientSeek_seq (s : State) (w : Whence) (off : Int) : Seq s (clientSeek s w off).2 := by
  obtain ⟨f, hb, hz, hq⟩ := clientSeek_frame s w off
  refine ⟨⟨f.noSkipper, f.hasSeeker, f.canSeek, f.canSkip, f.nodes, f.blk, f.term, hb, hz⟩, ⟨0, f.skips⟩, ?_⟩
  rcases hq with e | e
  · exact ⟨0, e⟩
  · exact ⟨1, by rw [e, List.drop_one]⟩

/-- `moveFwd` only moves `next`: to 0, or it stays where a request of `m` bytes fits behind it. -/
theorem moveFwd_spec (s : State) (m : Nat) :
    ∃ nx, nx ≤ s.next ∧ (nx = 0 ∨ nx + m ≤ s.bufSize) ∧ moveFwd s m = { s with next := nx } := by
  unfold moveFwd
  split
  · exact ⟨0, Nat.zero_le _, Or.inl rfl, rfl⟩
  · rename_i h; exact ⟨s.next, Nat.le_refl _, by omega, rfl⟩

theorem win_moveFwd (s : State) (m : Nat) : Win s (moveFwd s m) := by
  obtain ⟨nx, _, _, e⟩ := moveFwd_spec s m
  rw [e]; rfl

theorem win_enlarge (s : State) (m b : Nat) : Win s (enlarge s m b) := by
  unfold enlarge; split <;> rfl

theorem Win.of_moveFwd {s s1 t : State} {m : Nat} (e : s1 = moveFwd s m) (h : Win s1 t) : Win s t :=
  (win_moveFwd s m).trans (e ▸ h)

theorem Win.of_enlarge {s t : State} {m b : Nat} (h : Win (enlarge s m b) t) : Win s t :=
  (win_enlarge s m b).trans h

end LA.RA
