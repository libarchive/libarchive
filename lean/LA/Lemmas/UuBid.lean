/-
The bidder (`uudecode_bidder_bid`, `bid_get_line`) on a stream written by the
uuencode / b64encode filter, for every behaviour of the read-ahead window.
-/
import LA.Lemmas.UuSpecs
namespace LA.UuRead
open LA.Gen.UuTables LA.LineFilter

theorem nbytesReq_gt (r : Nat) (h : 0 < r) : r < nbytesReq r := by
  unfold nbytesReq; simp only []; split <;> omega

theorem ahead_window (u : ScriptUp) (min : Nat) (h : min ≤ u.total) :
    ∃ v u', u.ahead min = (.window v, u') ∧ min ≤ v ∧ v ≤ u.total ∧ u'.total = u.total := by
  unfold ScriptUp.ahead
  simp only [h, if_true]
  refine ⟨_, _, rfl, ?_, ?_, rfl⟩
  · simp only [Nat.min_def, Nat.max_def]; split <;> split <;> omega
  · simp only [Nat.min_def]; split <;> omega

theorem ahead_short (u : ScriptUp) (min : Nat) (h : u.total < min) :
    ∃ u', u.ahead min = (.short u.total, u') ∧ u'.total = u.total := by
  unfold ScriptUp.ahead
  have : ¬ min ≤ u.total := by omega
  simp only [this, if_false]
  exact ⟨_, rfl, rfl⟩

/-! ### one round of the `bid_get_line` loop -/

/-- The cursor after a further look at the upstream made `v` bytes visible. -/
def BidSt.seen {σ : Type} (st : BidSt σ) (up : σ) (v : Nat) : BidSt σ := { st with up := up, ravail := v, nread := v }

/-- What the loop does with the bytes a further look made visible: nothing when the
line was complete already, else `get_line` goes on where it stopped. -/
def rescan (len : Option Nat) (nl : Nat) (b : List Nat) (avail : Nat) : Option Nat × Nat :=
  if nl ≠ 0 then (len, nl)
  else ((getLine (avail - len.getD 0) (b.drop (len.getD 0))).1.map (· + len.getD 0),
    (getLine (avail - len.getD 0) (b.drop (len.getD 0))).2)

section
variable {σ : Type} (slen : Nat) (ahead : σ → Nat → Ans × σ) (st : BidSt σ) (len : Option Nat) (nl : Nat)

theorem bidLoop_stop (h : ¬ (len = some st.avail ∧ st.nread < bidMaxRead)) :
    bidLoop slen ahead st len nl = .line len nl false st := by
  rw [bidLoop, if_neg h]

/-- The upstream has as much as was asked for: the loop goes round again. -/
theorem bidLoop_window (h : len = some st.avail ∧ st.nread < bidMaxRead) {v : Nat} {up' : σ}
    (ha : ahead st.up (nbytesReq st.ravail) = (.window v, up')) (hv : st.ravail < v ∧ v ≤ slen) :
    bidLoop slen ahead st len nl =
      if nl ≠ 0 then .line len nl false (st.seen up' v)
      else bidLoop slen ahead (st.seen up' v) (rescan len nl st.b (st.seen up' v).avail).1
        (rescan len nl st.b (st.seen up' v).avail).2 := by
  rw [bidLoop, if_pos h, ha]
  simp only [hv, and_self, dite_true, rescan, BidSt.seen]
  split <;> rfl

/-- The upstream has less: the loop asks for exactly what is there and quits. -/
theorem bidLoop_short (h : len = some st.avail ∧ st.nread < bidMaxRead) {a v : Nat} {up' up'' : σ}
    (ha : ahead st.up (nbytesReq st.ravail) = (.short a, up')) (hq : ¬ (nl = 0 ∧ st.ravail ≥ a))
    (ha' : ahead up' a = (.window v, up'')) (hv : ¬ v < st.off) :
    bidLoop slen ahead st len nl =
      .line (rescan len nl st.b (st.seen up'' v).avail).1 (rescan len nl st.b (st.seen up'' v).avail).2 false
        (st.seen up'' v) := by
  rw [bidLoop, if_pos h, ha]
  simp only [hq, if_false, ha', hv, rescan, BidSt.seen]
  split <;> rfl

end

/-! ### `bid_get_line` at a line the write filter produced -/

/-- What `bid_get_line` is asked to do: the cursor is at the start of a complete
printable line, which ends before the bidder's read limit. -/
structure AtLine (slen : Nat) (st : BidSt ScriptUp) (body tail : List Nat) : Prop where
  up : st.up.total = slen
  b : st.b = body ++ 10 :: tail
  printable : Printable body
  len : st.off + st.b.length = slen
  lo : st.off ≤ st.ravail
  hi : st.ravail ≤ slen
  pos : 0 < st.ravail
  nread : st.nread = st.ravail
  lim : st.off + (body.length + 1) < bidMaxRead

/-- It returns the complete line, and when something follows the line at least one
byte of it is visible afterwards. -/
def FoundLine (slen off : Nat) (body tail : List Nat) (r : GL ScriptUp) : Prop :=
  ∃ st', r = .line (some (body.length + 1)) 1 false st' ∧ AtLine slen st' body tail ∧ st'.off = off ∧
    (tail ≠ [] → off + (body.length + 1) < st'.ravail)

section
variable {slen : Nat} {st : BidSt ScriptUp} {body tail : List Nat} (hat : AtLine slen st body tail)
include hat

theorem AtLine.slen_eq : slen = st.off + (body.length + 1) + tail.length := by
  rw [← hat.len, hat.b, List.length_append, List.length_cons]; omega

theorem AtLine.seen {u' : ScriptUp} {v : Nat} (hu : u'.total = slen) (h1 : st.ravail ≤ v) (h2 : v ≤ slen) :
    AtLine slen (st.seen u' v) body tail :=
  ⟨hu, hat.b, hat.printable, hat.len, Nat.le_trans hat.lo h1, h2, Nat.lt_of_lt_of_le hat.pos h1, rfl, hat.lim⟩

/-- A further look at the scripted upstream: more bytes become visible, or all of them. -/
theorem AtLine.look :
    (∃ v u', ScriptUp.ahead st.up (nbytesReq st.ravail) = (.window v, u') ∧ st.ravail < v ∧ v ≤ slen ∧
      u'.total = slen) ∨
    (∃ u' u'', ScriptUp.ahead st.up (nbytesReq st.ravail) = (.short slen, u') ∧
      ScriptUp.ahead u' slen = (.window slen, u'') ∧ u''.total = slen) := by
  have hreq := nbytesReq_gt st.ravail hat.pos
  by_cases hw : nbytesReq st.ravail ≤ st.up.total
  · obtain ⟨v, u', e1, e2, e3, e4⟩ := ahead_window st.up _ hw
    exact Or.inl ⟨v, u', e1, by omega, hat.up ▸ e3, hat.up ▸ e4⟩
  · obtain ⟨u', e1, e4⟩ := ahead_short st.up (nbytesReq st.ravail) (by omega)
    rw [hat.up] at e1 e4
    obtain ⟨v, u'', f1, f2, f3, f4⟩ := ahead_window u' slen (by omega)
    obtain rfl : v = slen := by omega
    exact Or.inr ⟨u', u'', e1, f1, f4.trans e4⟩

/-- The line is complete already; the loop still looks further when the line ends
together with the visible bytes. -/
theorem bidLoop_complete (h : body.length + 1 ≤ st.avail) :
    FoundLine slen st.off body tail (bidLoop slen ScriptUp.ahead st (some (body.length + 1)) 1) := by
  have hs := hat.slen_eq
  have hlo := hat.lo
  have hav : st.avail = st.ravail - st.off := rfl
  by_cases hc : some (body.length + 1) = some st.avail ∧ st.nread < bidMaxRead
  · have heq : body.length + 1 = st.avail := Option.some.inj hc.1
    rcases hat.look with ⟨v, u', e, h1, h2, h3⟩ | ⟨u', u'', e1, e2, h3⟩
    · rw [bidLoop_window _ _ _ _ _ hc e ⟨h1, h2⟩, if_pos (by decide)]
      exact ⟨_, rfl, hat.seen h3 (Nat.le_of_lt h1) h2, rfl, fun _ => by show _ < v; omega⟩
    · rw [bidLoop_short _ _ _ _ _ hc e1 (by simp) e2 (by omega)]
      exact ⟨_, rfl, hat.seen h3 hat.hi (Nat.le_refl _), rfl, fun ht => by
        have := List.length_pos_iff.mpr ht
        show _ < slen; omega⟩
  · rw [bidLoop_stop _ _ _ _ _ hc]
    refine ⟨st, rfl, hat, rfl, fun _ => ?_⟩
    have hne : body.length + 1 ≠ st.avail := fun h => hc ⟨by rw [h], by have := hat.nread; have := hat.lim; omega⟩
    omega

end

/-- `get_line` resumed after `a` bytes of the line had been scanned without finding its end. -/
theorem rescan_line (body tail : List Nat) (hp : Printable body) (a a' : Nat) (h : a ≤ body.length) (h' : a ≤ a') :
    rescan (some a) 0 (body ++ 10 :: tail) a' =
      if a' ≤ body.length then (some a', 0) else (some (body.length + 1), 1) := by
  have hpd : Printable (body.drop a) := fun x hx => hp x (List.mem_of_mem_drop hx)
  rw [rescan, if_neg (by simp), Option.getD_some, List.drop_append_of_le_length h]
  split
  · rw [getLine_prefix _ _ _ hpd (by rw [List.length_drop]; omega), Option.map_some, Nat.sub_add_cancel h']
  · rw [getLine_line _ _ _ hpd (by rw [List.length_drop]; omega), Option.map_some, List.length_drop,
      show body.length - a + 1 + a = body.length + 1 by omega]

/-- The line is still incomplete: the loop looks further until its end is visible. -/
theorem bidLoop_partial (slen : Nat) (body tail : List Nat) : ∀ (n : Nat) (st : BidSt ScriptUp),
    slen - st.ravail = n → AtLine slen st body tail → st.avail ≤ body.length →
    FoundLine slen st.off body tail (bidLoop slen ScriptUp.ahead st (some st.avail) 0) := by
  intro n
  induction n using Nat.strongRecOn with
  | _ n ih =>
    intro st hn hat h
    have hs := hat.slen_eq
    have hlo := hat.lo
    have hav : st.avail = st.ravail - st.off := rfl
    have hc : some st.avail = some st.avail ∧ st.nread < bidMaxRead :=
      ⟨rfl, by have := hat.nread; have := hat.lim; omega⟩
    have hres : ∀ v, st.ravail ≤ v → rescan (some st.avail) 0 st.b (v - st.off) =
        if v - st.off ≤ body.length then (some (v - st.off), 0) else (some (body.length + 1), 1) := fun v hv => by
      rw [hat.b]; exact rescan_line body tail hat.printable _ _ h (by omega)
    rcases hat.look with ⟨v, u', e, h1, h2, h3⟩ | ⟨u', u'', e1, e2, h3⟩
    · have hat' := hat.seen h3 (Nat.le_of_lt h1) h2
      rw [bidLoop_window _ _ _ _ _ hc e ⟨h1, h2⟩, if_neg (by simp), show (st.seen u' v).avail = v - st.off from rfl,
        hres v (Nat.le_of_lt h1)]
      split
      · exact ih (slen - v) (by omega) (st.seen u' v) rfl hat' ‹_›
      · exact bidLoop_complete hat' (by show _ ≤ v - st.off; omega)
    · -- everything there is becomes visible, and with it the end of the line
      rw [bidLoop_short _ _ _ _ _ hc e1 (by omega) e2 (by omega), show (st.seen u'' slen).avail = slen - st.off from rfl,
        hres slen hat.hi, if_neg (by omega)]
      exact ⟨_, rfl, hat.seen h3 hat.hi (Nat.le_refl _), rfl, fun ht => by
        have := List.length_pos_iff.mpr ht
        show _ < slen; omega⟩

theorem bidGetLine_line {slen : Nat} {st : BidSt ScriptUp} {body tail : List Nat} (hat : AtLine slen st body tail) :
    FoundLine slen st.off body tail (bidGetLine slen ScriptUp.ahead st) := by
  rw [bidGetLine, show (if st.avail = 0 then (some 0, 0) else getLine st.avail st.b) = getLine st.avail st.b by
    split <;> simp [*, getLine], hat.b]
  by_cases hle : st.avail ≤ body.length
  · rw [getLine_prefix body st.avail _ hat.printable hle]
    exact bidLoop_partial slen body tail _ st rfl hat hle
  · rw [getLine_line body st.avail tail hat.printable (by omega)]
    exact bidLoop_complete hat (by omega)

theorem AtLine.next {slen : Nat} {st : BidSt ScriptUp} {body tail body2 tail2 : List Nat}
    (hat : AtLine slen st body tail) (hvis : st.off + (body.length + 1) ≤ st.ravail)
    (ht : tail = body2 ++ 10 :: tail2) (hp : Printable body2)
    (hlim : st.off + (body.length + 1) + (body2.length + 1) < bidMaxRead) :
    AtLine slen (st.skip (body.length + 1)) body2 tail2 := by
  have hb : (st.skip (body.length + 1)).b = tail := by
    show st.b.drop _ = tail
    rw [hat.b, show body ++ 10 :: tail = (body ++ [10]) ++ tail by simp, List.drop_left' (by simp)]
  have hs := hat.slen_eq
  exact ⟨hat.up, hb.trans ht, hp, by rw [hb]; show st.off + _ + _ = _; omega, hvis, hat.hi, hat.pos, hat.nread, hlim⟩

/-- From `uudecode_bidder_bid` to the part after the `begin` line, when the
stream starts with that line: the cursor is then at the start of the next line. -/
theorem bid_to_tail (E hdrBody rest : List Nat) (l : Nat) (extra : List Nat)
    (hE : E = hdrBody ++ 10 :: rest) (hp : Printable hdrBody)
    (hk : beginKind (hdrBody ++ [10]) 1 = l) (hl : l ≠ 0)
    (hlim : hdrBody.length + 1 < bidMaxRead) (hrest : rest ≠ []) :
    ∃ st2 : BidSt ScriptUp, bid E ScriptUp.ahead { total := E.length, extra := extra } =
        bidTail E.length ScriptUp.ahead st2 l 20 ∧
      st2.off = hdrBody.length + 1 ∧ st2.avail ≠ 0 ∧
      ∀ body tail, rest = body ++ 10 :: tail → Printable body → st2.off + (body.length + 1) < bidMaxRead →
        AtLine E.length st2 body tail := by
  obtain ⟨v, u', e1, e2, e3, e4⟩ := ahead_window ({ total := E.length, extra := extra } : ScriptUp) 1
    (by rw [hE, List.length_append]; exact Nat.le_add_left _ _)
  dsimp only at e3 e4
  have hat : AtLine E.length ({ up := u', b := E, off := 0, ravail := v, nread := v } : BidSt ScriptUp) hdrBody rest :=
    ⟨e4, hE, hp, Nat.zero_add _, Nat.zero_le _, e3, e2, rfl, by rw [Nat.zero_add]; exact hlim⟩
  obtain ⟨st', r1, r2, r3, r5⟩ := bidGetLine_line hat
  have r5 := r5 hrest
  dsimp only at r3 r5
  rw [Nat.zero_add] at r5
  have hs : hdrBody ++ 10 :: rest = (hdrBody ++ [10]) ++ rest := by simp
  rw [bid, e1]
  simp only []
  rw [if_neg (by omega), bidFind, r1]
  simp only []
  rw [if_neg (by simp), r2.b, hs, List.take_left' (by simp), hk, if_pos hl]
  have hoff : (st'.skip (hdrBody.length + 1)).off = hdrBody.length + 1 := by
    show st'.off + _ = _; rw [r3]; exact Nat.zero_add _
  refine ⟨st'.skip (hdrBody.length + 1), rfl, hoff, ?_, ?_⟩
  · show st'.ravail - (st'.off + (hdrBody.length + 1)) ≠ 0; omega
  · intro body tail hr hpb hlm
    exact r2.next (by omega) hr hpb (by rw [hoff] at hlm; omega)

theorem elem_of_all (cs rest : List Nat) (P : Nat → Prop) (h : ∀ c ∈ cs, P c) (j : Nat) (hj : j < cs.length) :
    ∃ c, (cs ++ rest)[j]? = some c ∧ P c := by
  refine ⟨cs[j], ?_, h _ (List.getElem_mem hj)⟩
  rw [List.getElem?_append_left hj, List.getElem?_eq_getElem hj]

/-- The `begin ` branch of the bidder on a data line as `uu_encode` writes it (the
length character for `k` bytes, then more than `k` uuencode characters) that is
followed by a line starting with a uuencode character. -/
theorem bidTail_uu_data (slen : Nat) (st2 : BidSt ScriptUp) (k : Nat) (cs tl : List Nat) (d firstline : Nat)
    (hk : 0 < k) (hk45 : k ≤ 45) (hkt : k < cs.length) (hcsu : ∀ c ∈ cs, uuchar c = true)
    (hat : AtLine slen st2 (LA.Uu.ch k :: cs) (d :: tl)) (hpos : st2.avail ≠ 0) (hd : uuchar d = true) :
    (bidTail slen ScriptUp.ahead st2 6 firstline).1 = .bid (firstline + 30) := by
  obtain ⟨st3, r1, r2, r3, r5⟩ := bidGetLine_line hat
  have hlook := r5 (List.cons_ne_nil _ _)
  have huk := uuchar_ch k (by omega)
  rw [List.length_cons] at hlook
  have hvis : cs.length + 3 ≤ st3.avail := by show _ ≤ st3.ravail - st3.off; omega
  -- all that is read lies before the line end or is the first character of the next line
  have hread : ∀ i, i ≤ cs.length + 2 → i ≠ cs.length + 1 → ∃ c, rd st3.b st3.avail i = some c ∧ uuchar c = true := by
    intro i h1 h2
    rw [rd, if_pos (by omega), r2.b]
    by_cases hi : i < cs.length + 1
    · exact elem_of_all (LA.Uu.ch k :: cs) _ _ (by simpa [huk] using hcsu) i hi
    · obtain rfl : i = (LA.Uu.ch k :: cs).length + 1 := by rw [List.length_cons]; omega
      exact ⟨d, by rw [List.getElem?_append_right (Nat.le_add_right _ _)]; simp, hd⟩
  have hrd0 : rd st3.b st3.avail 0 = some (LA.Uu.ch k) := by
    rw [rd, if_pos (by omega), r2.b]; rfl
  obtain ⟨x1, hx1, hu1⟩ := hread (1 + k) (by omega) (by omega)
  -- when the line holds exactly one character more than `l`, that one is skipped too
  have hnext : ∃ i, (if cs.length + 1 + 1 - 1 - k - 1 = 1 ∧ (uuchar x1 = true ∨ 97 ≤ x1 ∧ x1 ≤ 122) then 1 + k + 1
      else 1 + k) + 1 = i ∧ i ≤ cs.length + 2 ∧ i ≠ cs.length + 1 := by
    split
    · exact ⟨_, rfl, by omega, by omega⟩
    · next hn =>
      have : ¬ (cs.length + 1 + 1 - 1 - k - 1 = 1) := fun h => hn ⟨h, Or.inl hu1⟩
      exact ⟨_, rfl, by omega, by omega⟩
  obtain ⟨i, hi, hi1, hi2⟩ := hnext
  obtain ⟨x2, hx2, hu2⟩ := hread i hi1 hi2
  have c3 : ¬ (k > cs.length + 1 + 1 - 1 - 1) := by omega
  have htake : (st3.b.drop 1).take k = cs.take k := by
    rw [r2.b]; exact List.take_append_of_le_length (Nat.le_of_lt hkt)
  have c4 : ¬ ((cs.take k).length < k ∨ st3.avail < 1 + k) := by rw [List.length_take]; omega
  have c5 : ¬ ((cs.take k).any (fun c => !uuchar c) = true) := by
    simp only [List.any_eq_true, Bool.not_eq_true', not_exists, not_and]
    intro x hx; rw [hcsu x (List.mem_of_mem_take hx)]; simp
  have c6 : ¬ (st3.avail - (cs.length + 1 + 1) = 0) := by omega
  rw [bidTail, if_neg hpos, r1]
  simp only [Nat.succ_ne_zero, if_false, if_true, List.length_cons, hrd0, huk, udec_ch k (by omega), Nat.ne_of_gt hk,
    Nat.not_lt.mpr hk45, c3, htake, c4, c5, hx1, c6, hi, hx2, hu2, Bool.not_true, Bool.false_eq_true, false_and, gt_iff_lt]

/-- The `begin ` branch on an encoded empty file: "`" at once, then "end". -/
theorem bidTail_uu_empty (slen : Nat) (st2 : BidSt ScriptUp) (firstline : Nat)
    (hat : AtLine slen st2 [96] [101, 110, 100, 10]) (hpos : st2.avail ≠ 0)
    (hlim3 : st2.off + 6 < bidMaxRead) :
    (bidTail slen ScriptUp.ahead st2 6 firstline).1 = .bid (firstline + 30) := by
  obtain ⟨st3, r1, r2, r3, r5⟩ := bidGetLine_line hat
  have hlook := r5 (List.cons_ne_nil _ _)
  have hs := r2.slen_eq
  simp only [List.length_cons, List.length_nil] at hs hlook
  have hrd0 : rd st3.b st3.avail 0 = some 96 := by
    rw [rd, if_pos (by show 0 < st3.ravail - st3.off; omega), r2.b]; rfl
  have hat3 : AtLine slen (st3.skip (1 + 1)) [101, 110, 100] [] :=
    r2.next (by simp; omega) rfl (by intro c hc; simp at hc; omega) (by simp; omega)
  obtain ⟨st4, q1, q2, -⟩ := bidGetLine_line hat3
  rw [bidTail, if_neg hpos, r1]
  simp [hrd0, uuchar_96, udec, q1, q2.b]

/-- The `begin-base64 ` branch on a data line as `la_b64_encode` writes it that is
followed by a line starting with a base64 character (or `=`). -/
theorem bidTail_b64_data (slen : Nat) (st2 : BidSt ScriptUp) (cs r0 tl : List Nat) (c0 d firstline : Nat)
    (hcs : ∀ c ∈ cs, b64ok c = true) (hc0 : cs = c0 :: r0) (hne : c0 ≠ 61)
    (hat : AtLine slen st2 cs (d :: tl)) (hpos : st2.avail ≠ 0) (hd : b64ok d = true) :
    ∃ n, firstline + 30 ≤ n ∧ (bidTail slen ScriptUp.ahead st2 13 firstline).1 = .bid n := by
  obtain ⟨st3, r1, r2, r3, r5⟩ := bidGetLine_line hat
  have hlook := r5 (List.cons_ne_nil _ _)
  have hvis : cs.length + 2 ≤ st3.avail := by show _ ≤ st3.ravail - st3.off; omega
  have c1 : ¬ (cs.length + 1 - 1 = 4 ∧ st3.b.take 4 = [61, 61, 61, 61]) := by
    intro h
    rw [r2.b, hc0] at h; exact hne (by simpa using (List.cons.inj h.2).1)
  have htake : st3.b.take (cs.length + 1 - 1) = cs := by rw [r2.b]; exact List.take_left' rfl
  have c2 : ¬ (cs.length < cs.length + 1 - 1 ∨ st3.avail < cs.length + 1 - 1) := by omega
  have c3 : ¬ (cs.any (fun c => !b64ok c) = true) := by
    simp only [List.any_eq_true, Bool.not_eq_true', not_exists, not_and]
    intro x hx; rw [hcs x hx]; simp
  have hrd : rd st3.b st3.avail (cs.length + 1 - 1 + 1) = some d := by
    rw [rd, if_pos (by omega), r2.b, Nat.add_sub_cancel, List.getElem?_append_right (Nat.le_add_right _ _)]; simp
  have c4 : st3.avail - (cs.length + 1) > 0 := by omega
  rw [bidTail, if_neg hpos, r1]
  simp only [Nat.succ_ne_zero, if_false, show ¬ ((13 : Nat) = 6) by decide, c1, htake, c2, c3, c4, if_true, hrd, hd]
  by_cases q1 : st3.avail - (cs.length + 1) ≥ 5 ∧ (st3.b.drop (cs.length + 1 - 1 + 1)).take 5 = [61, 61, 61, 61, 10]
  · rw [if_pos q1]; exact ⟨firstline + 40, by omega, rfl⟩
  · rw [if_neg q1]
    by_cases q2 : st3.avail - (cs.length + 1) ≥ 6 ∧
        (st3.b.drop (cs.length + 1 - 1 + 1)).take 6 = [61, 61, 61, 61, 13, 10]
    · rw [if_pos q2]; exact ⟨firstline + 40, by omega, rfl⟩
    · rw [if_neg q2]; exact ⟨firstline + 30, Nat.le_refl _, rfl⟩

/-- The `begin-base64 ` branch on an encoded empty file: "====" at once. -/
theorem bidTail_b64_empty (slen : Nat) (st2 : BidSt ScriptUp) (firstline : Nat)
    (hat : AtLine slen st2 [61, 61, 61, 61] []) (hpos : st2.avail ≠ 0) :
    (bidTail slen ScriptUp.ahead st2 13 firstline).1 = .bid (firstline + 40) := by
  obtain ⟨st3, r1, r2, -⟩ := bidGetLine_line hat
  rw [bidTail, if_neg hpos, r1]
  simp [r2.b]

/-- The bidder on a stream the write filter produced gets past the `begin` line;
the cursor is then at the first line of the body (or of the trailer). -/
theorem bid_stream {c : Codec} {mode : Nat} {name : List Nat} (S : StreamSpec c mode name) (x extra : List Nat)
    {l : Nat} (hk : beginKind (header c mode name) 1 = l) (hl : l ≠ 0) (htr : c.trailer ≠ []) :
    ∃ st2 : BidSt ScriptUp, bid (encStream c mode name x) ScriptUp.ahead
        { total := (encStream c mode name x).length, extra := extra } =
        bidTail (encStream c mode name x).length ScriptUp.ahead st2 l 20 ∧
      st2.off ≤ maxLineLength ∧ st2.avail ≠ 0 ∧
      ∀ body tail, ((pieces c.lbytes c.lpos x).map c.encLine).flatten ++ c.trailer = body ++ 10 :: tail →
        Printable body → st2.off + (body.length + 1) < bidMaxRead →
        AtLine (encStream c mode name x).length st2 body tail := by
  obtain ⟨l1, l2, l3⟩ := limits
  have hshort : S.hdr.len ≤ maxLineLength := S.hdrOk.short
  obtain ⟨st2, e1, e2, e3, e4⟩ := bid_to_tail (encStream c mode name x) S.hdr.body
    (((pieces c.lbytes c.lpos x).map c.encLine).flatten ++ c.trailer) l extra
    (by rw [encStream, encAll_pieces, ← S.hdrLine, Item.line]; simp) S.hdrOk.printable
    (by rw [← Item.line, S.hdrLine]; exact hk) hl (by rw [← Item.len]; omega) (by simp [htr])
  exact ⟨st2, e1, by rw [e2, ← Item.len]; exact hshort, e3, e4⟩

/-- **The uudecode bidder recognises what the uuencode filter writes**, whatever
the read-ahead windows are (`extra` scripts how much more than requested each
look-ahead returns). -/
theorem uu_bidder (mode : Nat) (name x : List Nat) (extra : List Nat) (hb : Bytes x) (hn : NameOk name) :
    (bid (encStream LA.Uu.codec mode name x) ScriptUp.ahead
      { total := (encStream LA.Uu.codec mode name x).length, extra := extra }).1 = .bid 50 := by
  obtain ⟨l1, l2, l3⟩ := limits
  obtain ⟨st2, e1, e2, e3, e4⟩ := bid_stream (uuSpec mode name hn) x extra
    (header_begin _ mode name {} (beginLen_uu mode name hn.ne) (by decide) rfl).2 (by decide) (by decide)
  rw [e1]
  cases hps : pieces LA.Uu.codec.lbytes LA.Uu.codec.lpos x with
  | nil =>
    rw [hps] at e4
    exact bidTail_uu_empty _ st2 20 (e4 [96] [101, 110, 100, 10] rfl (by intro c hc; simp at hc; omega)
      (by simp; omega)) e3 (by omega)
  | cons p1 ps =>
    rw [hps] at e4
    have hmem := pieces_mem LA.Uu.codec.lbytes LA.Uu.codec.lpos x
    obtain ⟨h1, h45, hx1⟩ := hmem p1 (by rw [hps]; simp)
    have hb1 : Bytes p1 := fun b hbm => hb b (hx1 b hbm)
    have h45 : p1.length ≤ 45 := h45
    -- what follows the first data line starts with a uuencode character
    have hnext : ∃ d tl, ((ps.map LA.Uu.codec.encLine).flatten ++ LA.Uu.codec.trailer) = d :: tl ∧ uuchar d = true := by
      cases ps with
      | nil => exact ⟨96, _, rfl, by decide⟩
      | cons p2 ps' =>
        have : p2.length ≤ 45 := (hmem p2 (by rw [hps]; simp)).2.1
        exact ⟨LA.Uu.ch p2.length, _, rfl, uuchar_ch _ (by omega)⟩
    obtain ⟨d, tl, hdtl, hdu⟩ := hnext
    have hlen := groups_length LA.Uu.ch 96 p1
    refine bidTail_uu_data _ st2 p1.length (LA.Uu.triples p1) tl d 20 h1 h45 (by rw [uu_triples, hlen]; omega)
      (uu_triples p1 ▸ uu_groups_uuchar p1 hb1)
      (e4 _ _ (by rw [← hdtl]; simp [LA.Uu.codec, LA.Uu.encLine]) (uuData_printable p1 hb1 h45) ?_) e3 hdu
    rw [List.length_cons, uu_triples, hlen]; omega

/-- The same for the b64encode filter (the bid is 60 when the terminator is
already visible, 50 otherwise). -/
theorem b64_bidder (mode : Nat) (name x : List Nat) (extra : List Nat) (hb : Bytes x) (hn : NameOk name) :
    ∃ n, 50 ≤ n ∧ (bid (encStream LA.B64.codec mode name x) ScriptUp.ahead
      { total := (encStream LA.B64.codec mode name x).length, extra := extra }).1 = .bid n := by
  obtain ⟨l1, l2, l3⟩ := limits
  obtain ⟨st2, e1, e2, e3, e4⟩ := bid_stream (b64Spec mode name hn) x extra
    (header_begin _ mode name {} (beginLen_b64 mode name hn.ne) (by decide) rfl).2 (by decide) (by decide)
  rw [e1]
  cases hps : pieces LA.B64.codec.lbytes LA.B64.codec.lpos x with
  | nil =>
    rw [hps] at e4
    exact ⟨60, by omega, bidTail_b64_empty _ st2 20 (e4 [61, 61, 61, 61] [] rfl (by intro c hc; simp at hc; omega)
      (by simp; omega)) e3⟩
  | cons p1 ps =>
    rw [hps] at e4
    have hmem := pieces_mem LA.B64.codec.lbytes LA.B64.codec.lpos x
    -- every data line starts with a character of the alphabet
    have hhead : ∀ p ∈ pieces LA.B64.codec.lbytes LA.B64.codec.lpos x, ∃ c r, LA.B64.triples p = c :: r ∧
        b64ok c = true ∧ c ≠ 61 := fun p hp => by
      obtain ⟨h1, -, hx⟩ := hmem p hp
      rw [b64_triples]
      exact b64_groups_head (fun b hbm => hb b (hx b hbm)) (List.ne_nil_of_length_pos h1)
    obtain ⟨h1, h57, hx1⟩ := hmem p1 (by rw [hps]; simp)
    have hb1 : Bytes p1 := fun b hbm => hb b (hx1 b hbm)
    have h57 : p1.length ≤ 57 := h57
    have hnext : ∃ d tl, ((ps.map LA.B64.codec.encLine).flatten ++ LA.B64.codec.trailer) = d :: tl ∧ b64ok d = true := by
      cases ps with
      | nil => exact ⟨61, _, rfl, by decide⟩
      | cons p2 ps' =>
        obtain ⟨c, r, hcr, hc, -⟩ := hhead p2 (by rw [hps]; simp)
        exact ⟨c, r ++ 10 :: ((ps'.map LA.B64.codec.encLine).flatten ++ LA.B64.codec.trailer),
          by simp [LA.B64.codec, LA.B64.encLine, hcr], hc⟩
    obtain ⟨d, tl, hdtl, hdu⟩ := hnext
    obtain ⟨c0, r0, hc0, -, hne⟩ := hhead p1 (by rw [hps]; simp)
    have hlen := groups_length LA.B64.ch 61 p1
    obtain ⟨n, hn1, hn2⟩ := bidTail_b64_data _ st2 (LA.B64.triples p1) r0 tl c0 d 20
      (b64_triples p1 ▸ b64_groups_ok p1 hb1) hc0 hne
      (e4 _ _ (by rw [← hdtl]; simp [LA.B64.codec, LA.B64.encLine]) (b64_triples p1 ▸ b64_groups_printable p1 hb1)
        (by rw [b64_triples, hlen]; omega)) e3 hdu
    exact ⟨n, by omega, hn2⟩

end LA.UuRead
