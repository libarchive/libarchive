/-
Helper lemmas for C04: `Sem` is kept by every system call the writer
issues on a path of the family of the checked entry path.
-/
import LA.Lemmas.FSExec
namespace LA.FS
open LA.PathClean (SLASH DOT splitSlash)

def HandleIn (c : Ctx) : Handle → Prop
  | .dir pos => c.T <+: pos
  | .file i => c.inS i

theorem sem_setFile {c : Ctx} {q : List Nat} {pr : Proc} (hS : Sem c q pr) (i : Nat) (node : FNode)
    (hi : c.inS i) (hk : node.kind ≠ .lnk) : Sem c q { pr with fs := setFile pr.fs i node } := by
  have := sem_setFiles hS (fun j => if j = i then some node else pr.fs.files j) pr.fs.next (Nat.le_refl _)
    (fun j hj => by
      have : j ≠ i := by rintro rfl; exact hj hi
      simp [this])
    (fun j _ hl => by
      by_cases hji : j = i
      · subst hji
        simp only [isLnk, if_true] at hl
        cases node <;> simp [FNode.kind] at hk hl
      · simpa [isLnk, hji] using hl)
  exact this

theorem sem_chmodH {c : Ctx} {q : List Nat} {pr : Proc} (hS : Sem c q pr) {h : Handle} (hh : HandleIn c h)
    {m : Nat} {fs' : FS} (he : chmodH pr.fs h m = .ok fs') : Sem c q { pr with fs := fs' } := by
  cases h with
  | dir pos =>
    obtain ⟨r, rfl⟩ := hh
    simp only [chmodH, Except.ok.injEq] at he
    subst he
    exact sem_setDirMeta hS r _
  | file i =>
    simp only [chmodH] at he
    split at he
    · simp only [Except.ok.injEq] at he; subst he; exact sem_setFile hS i _ hh (by simp [FNode.kind])
    · simp only [Except.ok.injEq] at he; subst he; exact sem_setFile hS i _ hh (by simp [FNode.kind])
    · simp at he
    · simp at he

theorem sem_setFile_lnk {c : Ctx} {q : List Nat} {pr : Proc} (hS : Sem c q pr) (i : Nat) (tg : List Nat)
    (hi : c.inS i) (hold : pr.fs.files i = some (.lnk tg)) : Sem c q { pr with fs := setFile pr.fs i (.lnk tg) } := by
  have : setFile pr.fs i (.lnk tg) = pr.fs := by
    cases hfs : pr.fs with
    | mk root files next =>
      simp only [setFile, FS.mk.injEq, true_and, and_true]
      funext j
      by_cases hj : j = i
      · subst hj; rw [hfs] at hold; simp only [] at hold; simp [hold]
      · simp [hj]
  rw [this]
  exact hS

theorem sem_utimensH {c : Ctx} {q : List Nat} {pr : Proc} (hS : Sem c q pr) {h : Handle} (hh : HandleIn c h)
    {t : Int} {fs' : FS} (he : utimensH pr.fs h t = .ok fs') : Sem c q { pr with fs := fs' } := by
  cases h with
  | dir pos =>
    obtain ⟨r, rfl⟩ := hh
    simp only [utimensH, Except.ok.injEq] at he
    subst he
    exact sem_setDirMeta hS r _
  | file i =>
    simp only [utimensH] at he
    split at he
    · simp only [Except.ok.injEq] at he; subst he; exact sem_setFile hS i _ hh (by simp [FNode.kind])
    · simp only [Except.ok.injEq] at he; subst he; exact sem_setFile hS i _ hh (by simp [FNode.kind])
    · rename_i tg hf
      simp only [Except.ok.injEq] at he; subst he
      exact sem_setFile_lnk hS i tg hh hf
    · simp at he

/-- The object a family path names (without following its last component) is inside. -/
theorem lookupNoFollow_fam {c : Ctx} {q p : List Nat} {pr : Proc} (hS : Sem c q pr) (hF : Fam q p)
    {pos : List Name} {t : Tree} (h : lookupNoFollow pr.fs pr.cwd p = .ok (pos, t)) :
    HandleIn c (handleOf pos t) ∧ c.T <+: pos ∧ get pr.fs.root pos = some t := by
  obtain ⟨tT, hT, hTd⟩ := hS.inv.tdir
  unfold lookupNoFollow at h
  split at h
  · simp at h
  · rename_i pos' hl
    obtain ⟨_, rfl⟩ := locate_fam_obj hS hF hl
    rw [hT] at h
    cases Except.ok.inj h
    refine ⟨?_, List.prefix_refl _, hT⟩
    cases t with
    | dir => exact List.prefix_refl _
    | file i => simp [Tree.isDir] at hTd
  · rename_i d n hl
    obtain ⟨r, rfl, _, _⟩ := locate_fam_entry hS hF hl
    split at h
    · rename_i t' ht'
      cases Except.ok.inj h
      have hg : get pr.fs.root (c.T ++ r ++ [n]) = some t := by rw [get_snoc]; exact ht'
      have hp : c.T <+: c.T ++ r ++ [n] := by rw [List.append_assoc]; exact List.prefix_append _ _
      refine ⟨?_, hp, hg⟩
      cases t with
      | dir => exact hp
      | file i =>
        apply hS.inv.refs tT hT (r ++ [n]) i
        rw [List.append_assoc, get_append, hT] at hg
        exact hg
    · simp at h

theorem sem_setFd {c : Ctx} {q : List Nat} {pr : Proc} (hS : Sem c q pr) (o : Option Nat)
    (ho : ∀ i, o = some i → c.inS i) : Sem c q { pr with fd := o } :=
  ⟨⟨hS.inv.tree, hS.inv.files, hS.inv.refs, hS.inv.next, hS.inv.tdir, hS.inv.cwd, ho, hS.inv.dfd, hS.inv.xfd⟩,
   hS.wf, hS.nl⟩

theorem sem_setDfd {c : Ctx} {q : List Nat} {pr : Proc} (hS : Sem c q pr) (o : Option (List Name))
    (ho : ∀ d, o = some d → c.T <+: d) : Sem c q { pr with dfd := o } :=
  ⟨⟨hS.inv.tree, hS.inv.files, hS.inv.refs, hS.inv.next, hS.inv.tdir, hS.inv.cwd, hS.inv.fd, ho, hS.inv.xfd⟩,
   hS.wf, hS.nl⟩

theorem sem_setXfd {c : Ctx} {q : List Nat} {pr : Proc} (hS : Sem c q pr) (o : Option Handle)
    (ho : ∀ h, o = some h → HandleIn c h) : Sem c q { pr with xfd := o } :=
  ⟨⟨hS.inv.tree, hS.inv.files, hS.inv.refs, hS.inv.next, hS.inv.tdir, hS.inv.cwd, hS.inv.fd, hS.inv.dfd,
    fun h hh => by have := ho h hh; cases h <;> exact this⟩, hS.wf, hS.nl⟩

theorem handleIn_of_xfd {c : Ctx} {pr : Proc} (hI : Inv c pr) {h : Handle} (hx : pr.xfd = some h) : HandleIn c h := by
  have := hI.xfd h hx
  cases h <;> exact this

theorem sem_alloc {c : Ctx} {q : List Nat} {pr : Proc} (hS : Sem c q pr) (node : FNode) :
    Sem c q { pr with fs := (alloc pr.fs node).1 } ∧ c.inS pr.fs.next := by
  have hin : c.inS pr.fs.next := Or.inr hS.inv.next
  refine ⟨?_, hin⟩
  have := sem_setFiles hS (fun j => if j = pr.fs.next then some node else pr.fs.files j) (pr.fs.next + 1)
    (Nat.le_succ _)
    (fun j hj => by
      have : j ≠ pr.fs.next := by rintro rfl; exact hj hin
      simp [this])
    (fun j hj hl => by
      have : j ≠ pr.fs.next := by omega
      simpa [isLnk, this] using hl)
  exact this

theorem sem_createFile {c : Ctx} {q p : List Nat} {pr : Proc} (hS : Sem c q pr) (hF : Fam q p) (node : FNode)
    (hk : node.kind ≠ .lnk ∨ compsOf p = compsOf q) {fs' : FS} {i : Nat}
    (h : createFile pr pr.cwd p node = .ok (fs', i)) : Sem c q { pr with fs := fs' } ∧ c.inS i := by
  unfold createFile at h
  split at h
  · simp at h
  · simp at h
  · rename_i d n hl
    obtain ⟨r, rfl, _, hcomps⟩ := locate_fam_entry hS hF hl
    split at h
    · simp at h
    · simp only [alloc, Except.ok.injEq, Prod.mk.injEq] at h
      obtain ⟨rfl, rfl⟩ := h
      obtain ⟨hS1, hin⟩ := sem_alloc hS node
      refine ⟨sem_putAt hS1 r n (.file pr.fs.next) (refsIn_file hin) (refsIn_file (by simp [alloc])) ?_, hin⟩
      refine hk.imp (fun hk => ⟨fun hd => by simp [Tree.isDir] at hd, fun _ => ?_⟩) (fun hk => hk.symm.trans hcomps)
      simp only [alloc, isLnk, if_true]
      cases node <;> simp [FNode.kind] at hk ⊢

theorem sem_doUnlink {c : Ctx} {q p : List Nat} {pr : Proc} (hS : Sem c q pr) (hF : Fam q p) :
    Sem c q (doUnlink pr pr.cwd p).2 := by
  unfold doUnlink
  split
  · exact hS
  · exact hS
  · rename_i d n hl
    obtain ⟨r, rfl, _, _⟩ := locate_fam_entry hS hF hl
    split
    · exact hS
    · exact hS
    · exact sem_delAt hS r n

theorem sem_exec_renameTmp {c : Ctx} {q : List Nat} {pr : Proc} (hS : Sem c q pr) (hF : Fam q q)
    (hT : Fam q (tmpName q)) : Sem c q (exec (.renameTmp q) pr).2 := by
  simp only [exec]
  split
  · rename_i d1 n1 d2 n2 hl1 hl2
    obtain ⟨r1, rfl, _, _⟩ := locate_fam_entry hS hT hl1
    obtain ⟨r2, rfl, _, hcomps⟩ := locate_fam_entry hS hF hl2
    obtain ⟨tT, hTT, _⟩ := hS.inv.tdir
    -- the temporary file's inode takes the place of whatever `q` named
    have hput : ∀ i, ((get pr.fs.root (c.T ++ r1)).bind (·.child n1)) = some (.file i) →
        Sem c q { pr with fs := putAt (delAt pr.fs (c.T ++ r1) n1) (c.T ++ r2) n2 (.file i) } := by
      intro i hi
      have hg : get pr.fs.root (c.T ++ (r1 ++ [n1])) = some (.file i) := by
        rw [← List.append_assoc, get_snoc]; exact hi
      have hin : c.inS i := by
        apply hS.inv.refs tT hTT (r1 ++ [n1]) i
        rw [get_append, hTT] at hg; exact hg
      exact sem_putAt (sem_delAt hS r1 n1) r2 n2 (.file i) (refsIn_file hin) (refsIn_file (hS.wf _ i hg))
        (Or.inr hcomps)
    split
    · rename_i i _ h1 _; exact hput i h1
    · rename_i i h1 _; exact hput i h1
    · exact hS
    · exact hS
  · exact hS
  · exact hS
  · exact hS

/-- Calls the writer issues while the entry whose cleaned path is `q` is being
restored; all of them keep `Sem c q` (`sem_exec`).  `link`, `chmod`, `dUnlink`
and `dOpenDir` need more than a path of the family and have lemmas of their own. -/
def QCall (q : List Nat) : Sys → Prop
  | .lstat _ | .stat _ | .getUmask | .fclose | .fwrite _ | .ftruncate _ | .fchmod _ | .futimens _
  | .xFstat | .xClose | .xChmod _ | .xUtimens _ | .dClose | .dOpenCwd | .dLstat _ | .dStat _ => True
  | .mkdir p _ | .unlink p | .rmdir p | .openCreat p _ | .mkfifo p _ | .utimens p _ | .lchmod p _
  | .openTrunc p | .xOpen p _ => Fam q p
  | .mkstemp p _ | .unlinkTmp p => Fam q (tmpName p)
  | .renameTmp p | .symlink _ p => p = q ∧ Fam q q ∧ Fam q (tmpName q)
  | .link _ _ | .chmod _ _ | .dUnlink _ | .dOpenDir _ => False
  | .chdir _ | .rOpenCwd | .rFchdir | .rClose => False      -- edit_deep_directories: pathnames ≥ PATH_MAX only

theorem sem_exec {c : Ctx} {q : List Nat} {pr : Proc} (hS : Sem c q pr) (s : Sys) (hq : QCall q s) :
    Sem c q (exec s pr).2 := by
  cases s with
  | lstat _ | stat _ | getUmask => exact hS
  | xFstat | dLstat _ | dStat _ => simp only [exec]; split <;> exact hS
  | fclose => exact sem_setFd hS none nofun
  | xClose => exact sem_setXfd hS none nofun
  | dClose => exact sem_setDfd hS none nofun
  | dOpenCwd => exact sem_setDfd hS (some pr.cwd) (fun d h => by cases h; rw [hS.inv.cwd]; exact List.prefix_refl _)
  | fwrite _ | ftruncate _ =>
    simp only [exec]
    split
    · exact hS
    · rename_i i hi
      split
      · exact sem_setFile hS i _ (hS.inv.fd i hi) (by simp [FNode.kind])
      · exact hS
  | fchmod m =>
    simp only [exec]
    split
    · exact hS
    · rename_i i hi
      split
      · rename_i fs' he; exact sem_chmodH hS (h := .file i) (hS.inv.fd i hi) he
      · exact hS
  | futimens t =>
    simp only [exec]
    split
    · exact hS
    · rename_i i hi
      split
      · rename_i fs' he; exact sem_utimensH hS (h := .file i) (hS.inv.fd i hi) he
      · exact hS
  | xChmod m =>
    simp only [exec]
    split
    · exact hS
    · rename_i h hx
      split
      · rename_i fs' he; exact sem_chmodH hS (handleIn_of_xfd hS.inv hx) he
      · exact hS
  | xUtimens t =>
    simp only [exec]
    split
    · exact hS
    · rename_i h hx
      split
      · rename_i fs' he; exact sem_utimensH hS (handleIn_of_xfd hS.inv hx) he
      · exact hS
  | lchmod p m =>
    simp only [exec]
    split
    · exact hS
    · rename_i pos tr h
      split
      · rename_i fs' he; exact sem_chmodH hS (lookupNoFollow_fam hS hq h).1 he
      · exact hS
  | utimens p t =>
    simp only [exec]
    split
    · exact hS
    · rename_i pos tr h
      split
      · rename_i fs' he; exact sem_utimensH hS (lookupNoFollow_fam hS hq h).1 he
      · exact hS
  | mkdir p m =>
    simp only [exec]
    split
    · exact hS
    · exact hS
    · rename_i d n hl
      obtain ⟨r, rfl, _, _⟩ := locate_fam_entry hS hq hl
      split
      · exact hS
      · exact sem_putAt hS r n _ (refsIn_emptyDir _ _) (refsIn_emptyDir _ _) (Or.inl (okx_emptyDir _ _ _))
  | rmdir p =>
    simp only [exec]
    split
    · exact hS
    · rename_i pos hl
      obtain ⟨rfl, _⟩ := locate_fam_obj hS hq hl
      rw [if_pos (by decide)]
      exact hS
    · rename_i d n hl
      obtain ⟨r, rfl, _, _⟩ := locate_fam_entry hS hq hl
      split
      · exact hS
      · exact hS
      · split
        · exact sem_delAt hS r n
        · exact hS
  | unlink p => exact sem_doUnlink hS hq
  | unlinkTmp p => exact sem_doUnlink hS hq
  | openCreat p m =>
    simp only [exec]
    split
    · exact hS
    · rename_i fs' i h
      obtain ⟨h1, h2⟩ := sem_createFile hS hq _ (Or.inl (by simp [FNode.kind])) h
      exact sem_setFd h1 (some i) (fun j hj => by cases hj; exact h2)
  | mkstemp p m =>
    simp only [exec]
    split
    · exact hS
    · rename_i fs' i h
      obtain ⟨h1, h2⟩ := sem_createFile hS hq _ (Or.inl (by simp [FNode.kind])) h
      exact sem_setFd h1 (some i) (fun j hj => by cases hj; exact h2)
  | mkfifo p m =>
    simp only [exec]
    split
    · exact hS
    · rename_i fs' i h
      exact (sem_createFile hS hq _ (Or.inl (by simp [FNode.kind])) h).1
  | symlink tg p =>
    obtain ⟨rfl, h2, _⟩ := hq
    simp only [exec]
    split
    · exact hS
    · split
      · exact hS
      · rename_i fs' i h
        exact (sem_createFile hS h2 _ (Or.inr rfl) h).1
  | openTrunc p =>
    simp only [exec]
    split
    · exact hS
    · exact hS
    · rename_i pos i h
      have hin : c.inS i := (lookupNoFollow_fam hS hq h).1
      split
      · exact sem_setFd (sem_setFile hS i _ hin (by simp [FNode.kind])) (some i) (fun j hj => by cases hj; exact hin)
      · exact hS
      · exact hS
      · exact hS
  | xOpen p b =>
    simp only [exec]
    split
    · exact hS
    · rename_i pos t h
      split
      · exact hS
      · split
        · exact hS
        · exact sem_setXfd hS _ (fun h' hh => by cases hh; exact (lookupNoFollow_fam hS hq h).1)
  | renameTmp p => obtain ⟨rfl, h2, h3⟩ := hq; exact sem_exec_renameTmp hS h2 h3
  | link _ _ | chmod _ _ | dUnlink _ | dOpenDir _ | chdir _ | rOpenCwd | rFchdir | rClose => exact hq.elim

end LA.FS
