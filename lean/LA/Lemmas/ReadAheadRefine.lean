/-
`ahead` and `consume` refine the sequential stream view `Spec`.
-/
import LA.Lemmas.ReadAheadConsume
namespace LA.RA

/-- Abstraction used for refinement: once failed, the rest of the stream is irrelevant. -/
def absN (s : State) : Spec :=
  if s.fatal then ⟨[], s.term, true⟩ else ⟨remaining s, s.term, false⟩

def specConsume (sp : Spec) (n : Int) : Int × Spec :=
  if n < 0 then (-30, sp)
  else if n = 0 then (0, sp)
  else if sp.fatal then (-30, sp)
  else if n.toNat ≤ sp.rem.length then (n, { sp with rem := sp.rem.drop n.toNat })
  else match sp.term with
    | .eof => (-30, { sp with rem := [] })
    | .err => (-30, ⟨[], sp.term, true⟩)

theorem absN_live {s : State} (hf : s.fatal = false) : absN s = ⟨remaining s, s.term, false⟩ := by
  unfold absN; rw [hf]; rfl

theorem absN_failed {s : State} (hf : s.fatal = true) : absN s = ⟨[], s.term, true⟩ := by
  unfold absN; rw [hf]; rfl

theorem ahead_failed {s : State} (hf : s.fatal = true) (min : Nat) : ahead s min = (.fatal, s) := by
  unfold ahead; rw [if_pos hf]

theorem ahead_live {s : State} (hf : s.fatal = false) (min : Nat) : ahead s min = aheadLoop s min := by
  unfold ahead; rw [hf]; rfl

theorem ahead_win (s : State) (min : Nat) : Win s (ahead s min).2 := by
  unfold ahead
  exact ite_ind (fun r : AheadR × State => Win s r.2) rfl (aheadLoop_frame s min).1

/-- **Refinement of `__archive_read_filter_ahead`.** -/
theorem ahead_refines (s : State) (min : Nat) (hi : Inv s) (hmin : min ≤ 2 ^ 62) :
    Inv (ahead s min).2 ∧ (ahead s min).2.skips = s.skips ∧
    obsOf min (ahead s min).1 = (specAhead (absN s) min).1 ∧
    absN (ahead s min).2 = (specAhead (absN s) min).2 ∧ (ahead s min).1 ≠ .stuck := by
  suffices h : Inv (ahead s min).2 ∧ obsOf min (ahead s min).1 = (specAhead (absN s) min).1 ∧
      absN (ahead s min).2 = (specAhead (absN s) min).2 ∧ (ahead s min).1 ≠ .stuck from
    ⟨h.1, (ahead_win s min).skips, h.2⟩
  have ht := (ahead_win s min).static.term
  by_cases hf : s.fatal = true
  · rw [ahead_failed hf]
    refine ⟨hi, ?_, ?_, fun h => by cases h⟩
    · rw [absN_failed hf]; rfl
    · show absN s = _
      rw [absN_failed hf]; rfl
  · have hf' : s.fatal = false := (Bool.not_eq_true _).mp hf
    rw [ahead_live hf'] at ht ⊢
    obtain ⟨g1, g2, g3⟩ := aheadLoop_spec s min hi hf' hmin
    refine ⟨g1, ?_⟩
    rw [absN_live hf']
    unfold specAhead
    simp only [Bool.false_eq_true, if_false]
    generalize aheadLoop s min = r at *
    obtain ⟨r1, s'⟩ := r
    cases r1 with
    | window w fc =>
      obtain ⟨⟨t, a2⟩, a3, a4⟩ := g3
      have hle : min ≤ (remaining s).length := by rw [← a2, List.length_append]; omega
      rw [if_pos hle]
      refine ⟨?_, by rw [absN_live a4, g2, ht], fun h => by cases h⟩
      show Obs.ok (w.take min) = _
      rw [← a2, List.take_append_of_le_length a3]
    | short k =>
      obtain ⟨a2, a3⟩ := g3
      rcases a3 with ⟨rfl, rfl⟩ | ⟨b1, b2, b3⟩
      · rw [if_pos (Nat.zero_le _)]
        exact ⟨rfl, by rw [absN_live a2, g2, ht], fun h => by cases h⟩
      · rw [if_neg (by omega), b3]
        refine ⟨?_, by rw [absN_live a2, g2, ht, b3], fun h => by cases h⟩
        show (if min = 0 then Obs.ok [] else Obs.short k) = _
        rw [if_neg (by omega), b2]
    | fatal =>
      obtain ⟨a1, a2, a3⟩ := g3
      rw [if_neg (by omega), a3]
      exact ⟨rfl, by rw [absN_failed a1, ht, a3], fun h => by cases h⟩
    | stuck => exact absurd g3 id

/-- **Refinement of `__archive_read_filter_consume`** for a well-behaved skip callback. -/
theorem consume_refines (s : State) (n : Int) (hi : Inv s) (hsk : SkipsOk s.skips) (hns : NoSeekSkip s) :
    Inv (consume s n).2 ∧ (consume s n).1 = (specConsume (absN s) n).1 ∧
    absN (consume s n).2 = (specConsume (absN s) n).2 := by
  rw [consume_eq]
  unfold specConsume
  by_cases h1 : n < 0
  · rw [if_pos h1, if_pos h1]; exact ⟨hi, rfl, rfl⟩
  · rw [if_neg h1, if_neg h1]
    by_cases h2 : n = 0
    · rw [if_pos h2, if_pos h2]; exact ⟨hi, rfl, rfl⟩
    · rw [if_neg h2, if_neg h2]
      by_cases hf : s.fatal = true
      · have ea : advance s n.toNat = (-1, s) := by rw [advance_eq, if_pos hf]
        rw [ea, if_neg (by omega : ¬ (-1 : Int) = n)]
        refine ⟨hi, ?_, ?_⟩
        · rw [absN_failed hf]; rfl
        · show absN s = _
          rw [absN_failed hf]; rfl
      · have hf' : s.fatal = false := (Bool.not_eq_true _).mp hf
        obtain ⟨g1, g2⟩ := advance_spec s n.toNat hi hf' hns
        have ht := (advance_seq s n.toNat).static.term
        rw [absN_live hf']
        simp only [Bool.false_eq_true, if_false]
        generalize advance s n.toNat = r at *
        rw [Nat.zero_add] at g2
        rcases g2 with ⟨a1, a2, a3, a4, a5⟩ | ⟨a1, a2, a3, a4⟩
        · by_cases hle : n.toNat ≤ (remaining s).length
          · have e : r.1 = n := by rw [a1, Nat.min_eq_left hle]; omega
            rw [if_pos e, if_pos hle]
            exact ⟨g1, e, by rw [absN_live a5, a3, ht]⟩
          · have e : ¬ r.1 = n := by rw [a1, Nat.min_eq_right (by omega)]; omega
            rw [if_neg e, if_neg hle, a2 (by omega)]
            exact ⟨g1, rfl, by rw [absN_live a5, a3, ht, a2 (by omega), List.drop_of_length_le (by omega)]⟩
        · obtain ⟨b1, b2⟩ := a4.resolve_left (fun h => h hsk)
          rw [if_neg (by omega : ¬ r.1 = n), if_neg (by omega), b2]
          exact ⟨g1, rfl, by rw [absN_failed a2, ht, b2]⟩

theorem consume_failed {s : State} (hf : s.fatal = true) (n : Int) : (consume s n).2 = s := by
  let P : Int × State → Prop := fun r => r.2 = s
  rw [consume_eq, advance_eq, if_pos hf]
  exact ite_ind P rfl (ite_ind P rfl (ite_ind P rfl rfl))

theorem drop_min (l : List Nat) (d : Nat) : l.drop (min d l.length) = l.drop d := by
  by_cases h : d ≤ l.length
  · rw [Nat.min_eq_left h]
  · rw [Nat.min_eq_right (by omega), List.drop_of_length_le (Nat.le_refl _), List.drop_of_length_le (by omega)]

/-- Whatever the skip callback does, `consume` keeps the invariant and what remains is a suffix
of what remained; while the filter stays alive `position` has moved by the length of the
difference. -/
theorem consume_drop (s : State) (n : Int) (hi : Inv s) (hns : NoSeekSkip s) :
    Inv (consume s n).2 ∧ ∃ d, remaining (consume s n).2 = (remaining s).drop d ∧ d ≤ (remaining s).length ∧
      ((consume s n).2.fatal = false → (consume s n).2.position = s.position + d) := by
  by_cases hf : s.fatal = true
  · rw [consume_failed hf]; exact ⟨hi, 0, rfl, Nat.zero_le _, fun _ => rfl⟩
  · have hf' : s.fatal = false := (Bool.not_eq_true _).mp hf
    let P : Int × State → Prop := fun r => Inv r.2 ∧ ∃ d, remaining r.2 = (remaining s).drop d ∧
      d ≤ (remaining s).length ∧ (r.2.fatal = false → r.2.position = s.position + d)
    have h0 : ∀ k : Int, P (k, s) := fun _ => ⟨hi, 0, rfl, Nat.zero_le _, fun _ => rfl⟩
    have ha : ∀ k : Int, P (k, (advance s n.toNat).2) := by
      intro k
      obtain ⟨g1, g2⟩ := advance_spec s n.toNat hi hf' hns
      refine ⟨g1, ?_⟩
      rcases g2 with ⟨_, _, a3, a4, _⟩ | ⟨_, a2, ⟨j, a3⟩, _⟩
      · exact ⟨min n.toNat (remaining s).length, by rw [a3, drop_min], Nat.min_le_right _ _, fun _ => a4⟩
      · exact ⟨min j (remaining s).length, by rw [a3, drop_min], Nat.min_le_right _ _, fun h => by rw [a2] at h; cases h⟩
    rw [consume_eq]
    exact ite_ind P (h0 _) (ite_ind P (h0 _) (ite_ind P (ha _) (ha _)))

end LA.RA
