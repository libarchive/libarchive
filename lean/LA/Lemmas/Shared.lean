import LA.Model.Shared
namespace LA.Shared

/-- Every compiled object with its reviewed class.  The review table is searched for the compiled objects
here and nowhere else; what the theorems of C13 say about their classes is read off this list. -/
theorem builtKeys_classOf :
    builtKeys.map (fun k => (k, classOf k)) = builtKeys.zip
      [some .idempotentInit, some .idempotentInit, some .idempotentInit, some .idempotentInit,
       some .racy, some .racy, some .idempotentInit, some .idempotentInit, some .mutexProtected,
       some .mutexProtected, some .mutexProtected, some .mutexProtected, some .mutexProtected] := by
  decide +kernel

theorem builtOfClass_eq (c : Cls) :
    builtOfClass c =
      (((builtKeys.map fun k => (k, classOf k)).filter (·.2 == some c)).map (·.1)).eraseDups := by
  simp [builtOfClass, List.filter_map, Function.comp_def]

end LA.Shared
