/-
Helper lemmas for C04: the in-place loop of `cleanup_pathname_fsobj`
(`LA.PathClean.scan`) computes the component-level reference `cleanSpec`, and
`strip_absolute_path` (`stripAbsolute`) never reads beyond the terminator and stops at
a byte that starts neither a separator nor a drive letter.
-/
import LA.Model.PathClean
namespace LA.PathClean

/-- A path component as it sits in a C string: no NUL, no '/'. -/
def Clean (c : List Nat) : Prop := ∀ x ∈ c, x ≠ 0 ∧ x ≠ SLASH

/-- The separator the loop writes in front of a component. -/
def sepOf (sep : Bool) : List Nat := if sep then [SLASH] else []

@[simp] theorem sepOf_true : sepOf true = [SLASH] := rfl
@[simp] theorem sepOf_false : sepOf false = [] := rfl

/-- What the loop writes for the surviving components: each one preceded by '/'
except possibly the first. -/
def emit : Bool → List (List Nat) → List Nat
  | _, [] => []
  | sep, c :: cs => sepOf sep ++ c ++ emit true cs

/-! ### the buffer

The loop reads at `src` and writes at `dest ≤ src`, so what it has still to read, `buf.drop src`, is
never overwritten: the lemmas below speak of `buf.drop src` (input) and `buf.take dest` (output). -/

section
variable {nd sep : Bool} {buf X c tl : List Nat} {src dest a t : Nat} {L : List (List Nat)} {r : Scan}

theorem getElem?_of_drop (h : buf.drop src = X) (k : Nat) :
    buf[src + k]? = X[k]? := by rw [← h, List.getElem?_drop]

theorem head_of_drop (h : buf.drop src = a :: X) : buf[src]? = some a :=
  getElem?_of_drop h 0

theorem drop_succ_of_cons {n : Nat} (h : buf.drop n = a :: X) : buf.drop (n + 1) = X := by
  rw [← List.drop_drop, h]; rfl

theorem take_set_succ {d : Nat} (x : Nat) (h : d < buf.length) :
    (buf.set d x).take (d + 1) = buf.take d ++ [x] := by
  rw [List.take_add_one, List.take_set_of_le (Nat.le_refl _), List.getElem?_set_self h]; rfl

theorem copyElem_spec : ∀ (c : List Nat), Clean c → ∀ (buf : List Nat) (src dest t : Nat) (tl : List Nat),
    (t = 0 ∨ t = SLASH) → dest ≤ src → buf.drop src = c ++ t :: tl →
    ∃ buf', copyElem buf src dest = some (buf', src + c.length, dest + c.length) ∧
      buf'.take (dest + c.length) = buf.take dest ++ c ∧ buf'.drop (src + c.length) = t :: tl ∧
      buf'.length = buf.length := by
  intro c
  induction c with
  | nil =>
    intro _ buf src dest t tl ht _ hd
    have h0 : buf[src]? = some t := head_of_drop hd
    refine ⟨buf, ?_, by simp, hd, rfl⟩
    unfold copyElem
    split
    · rename_i h; rw [h0] at h; cases h
    · rename_i c h; rw [h0] at h; cases h; simp [ht]
  | cons x c ih =>
    intro hc buf src dest t tl ht hle hd
    have hx := hc x (by simp)
    have h0 : buf[src]? = some x := head_of_drop hd
    have hlt : src < buf.length := (List.getElem?_eq_some_iff.mp h0).1
    obtain ⟨b', he, h1, h2, h3⟩ := ih (fun y hy => hc y (by simp [hy])) (buf.set dest x) (src + 1) (dest + 1) t tl ht
      (by omega) (by rw [List.drop_set_of_lt (by omega)]; exact drop_succ_of_cons hd)
    rw [take_set_succ x (by omega)] at h1
    rw [List.length_set] at h3
    rw [List.length_cons, ← Nat.add_assoc, ← Nat.add_assoc, Nat.add_right_comm src, Nat.add_right_comm dest]
    refine ⟨b', ?_, by simpa using h1, h2, h3⟩
    unfold copyElem
    split
    · rename_i h; rw [h0] at h; cases h
    · rename_i c0 h; rw [h0] at h; cases h
      rw [if_neg (by simp [hx.1, hx.2]), if_pos (by omega), he]

theorem scan_eq {c0 : Nat} (h : buf[src]? = some c0) :
    scan nd buf src dest sep =
      if c0 = 0 then .done buf dest sep
      else if c0 = SLASH then scan nd buf (src + 1) dest sep
      else match look nd buf src c0 with
        | .oob => .oob
        | .stop => .done buf dest sep
        | .fail => .failed
        | .skip2 => scan nd buf (src + 2) dest sep
        | .copy =>
          if dest < buf.length then
            match copyElem (if sep then buf.set dest SLASH else buf) src (if sep then dest + 1 else dest) with
            | none => .oob
            | some (buf2, src2, dest2) =>
              match buf2[src2]? with
              | none => .oob
              | some c => if c = 0 then .done buf2 dest2 sep else scan nd buf2 (src2 + 1) dest2 true
          else .oob := by
  rw [scan]
  split
  · rename_i h'; rw [h] at h'; cases h'
  · rename_i c h'; rw [h] at h'; cases h'
    -- the two sides branch alike; `split` on a goal of this size is slow
    by_cases h0 : c0 = 0
    · rw [if_pos h0, if_pos h0]
    rw [if_neg h0, if_neg h0]
    by_cases hs : c0 = SLASH
    · rw [if_pos hs, if_pos hs]
    rw [if_neg hs, if_neg hs]
    cases look nd buf src c0 <;> try rfl
    simp only []
    by_cases hd : dest < buf.length
    · rw [if_pos hd, if_pos hd]
      -- the definition names the equation of this `match`
      cases copyElem (if sep = true then buf.set dest SLASH else buf) src (if sep = true then dest + 1 else dest) <;> rfl
    · rw [if_neg hd, if_neg hd]

/-- The look-ahead only sees the unread input. -/
theorem look_eq (hd : buf.drop src = X) (c0 : Nat) :
    look nd buf src c0 = look nd X 0 c0 := by
  unfold look
  rw [getElem?_of_drop hd 1, getElem?_of_drop hd 2]

theorem look_copy {nd : Bool} {x : Nat} {c : List Nat} (t : Nat) (tl : List Nat)
    (hc : Clean (x :: c)) (hnd : x :: c ≠ [DOT]) (hdd : ¬ (nd = true ∧ x :: c = [DOT, DOT])) :
    look nd (x :: c ++ t :: tl) 0 x = .copy := by
  unfold look
  by_cases hx : x = DOT
  · rw [if_pos hx]
    subst hx
    cases c with
    | nil => exact absurd rfl hnd
    | cons y c2 =>
      have hy := hc y (by simp)
      simp only [List.cons_append, Nat.zero_add, List.getElem?_cons_succ, List.getElem?_cons_zero]
      rw [if_neg hy.1, if_neg hy.2]
      by_cases hyd : y = DOT
      · rw [if_pos hyd]
        subst hyd
        cases c2 with
        | nil =>
          have : nd = false := by
            cases nd
            · rfl
            · exact absurd ⟨rfl, rfl⟩ hdd
          subst this; simp
        | cons z c3 =>
          have hz := hc z (by simp)
          simp only [List.cons_append, List.getElem?_cons_zero]
          rw [if_neg (by simp [hz.1, hz.2])]
      · exact if_neg hyd
  · exact if_neg hx

/-! ### one iteration of the loop, from the start of a component `c` followed by `t` (NUL or '/') -/

/-- "" and ".": nothing is written. -/
theorem scan_skip (hc : c = [] ∨ c = [DOT]) (ht : t = 0 ∨ t = SLASH) (hd : buf.drop src = c ++ t :: tl) :
    scan nd buf src dest sep =
      if t = 0 then .done buf dest sep else scan nd buf (src + c.length + 1) dest sep := by
  rcases hc with rfl | rfl
  · rw [scan_eq (head_of_drop hd)]
    rcases ht with rfl | rfl <;> rfl
  · rw [scan_eq (head_of_drop hd), look_eq hd]
    rcases ht with rfl | rfl <;> rfl

/-- ".." under SECURE_NODOTDOT. -/
theorem scan_dotdot (ht : t = 0 ∨ t = SLASH) (hd : buf.drop src = [DOT, DOT] ++ t :: tl) :
    scan true buf src dest sep = .failed := by
  rw [scan_eq (head_of_drop hd), look_eq hd]
  rcases ht with rfl | rfl <;> rfl

/-- Any other component is copied behind what has been written, after a '/' when `sep`. -/
theorem scan_copy (hc : Clean c) (ht : t = 0 ∨ t = SLASH) (hd : buf.drop src = c ++ t :: tl)
    (hle : dest + (sepOf sep).length ≤ src)
    (h1 : c ≠ []) (h2 : c ≠ [DOT]) (hdd : ¬ (nd = true ∧ c = [DOT, DOT])) :
    ∃ buf', buf'.take (dest + (sepOf sep ++ c).length) = buf.take dest ++ (sepOf sep ++ c) ∧
      buf'.drop (src + c.length) = t :: tl ∧ buf'.length = buf.length ∧
      scan nd buf src dest sep =
        if t = 0 then .done buf' (dest + (sepOf sep ++ c).length) sep
        else scan nd buf' (src + c.length + 1) (dest + (sepOf sep ++ c).length) true := by
  obtain ⟨x, c', rfl⟩ := List.exists_cons_of_ne_nil h1
  have hx := hc x (by simp)
  have hsrc : src < buf.length := (List.getElem?_eq_some_iff.mp (head_of_drop hd)).1
  -- the byte at `dest` becomes '/' when `sep`; the unread input is behind it
  have hb : ∃ buf1, (if sep = true then buf.set dest SLASH else buf) = buf1 ∧ buf1.length = buf.length ∧
      buf1.drop src = x :: c' ++ t :: tl ∧ buf1.take (dest + (sepOf sep).length) = buf.take dest ++ sepOf sep ∧
      (if sep = true then dest + 1 else dest) = dest + (sepOf sep).length := by
    cases sep with
    | false => exact ⟨buf, rfl, rfl, hd, by simp [sepOf], rfl⟩
    | true =>
      have : dest < src := hle
      exact ⟨buf.set dest SLASH, rfl, List.length_set, by rw [List.drop_set_of_lt this]; exact hd,
        take_set_succ SLASH (by omega), rfl⟩
  obtain ⟨buf1, e1, hl1, hd1, ht1, e2⟩ := hb
  obtain ⟨b', he, h3, h4, h5⟩ := copyElem_spec _ hc buf1 src _ t tl ht hle hd1
  refine ⟨b', ?_, h4, h5.trans hl1, ?_⟩
  · rw [List.length_append, ← Nat.add_assoc, h3, ht1, List.append_assoc]
  · rw [scan_eq (head_of_drop hd), if_neg hx.1, if_neg hx.2, look_eq hd, look_copy t tl hc h2 hdd]
    simp only [if_pos (Nat.lt_of_le_of_lt (Nat.le_of_add_right_le hle) hsrc), e1, e2, he,
      head_of_drop h4, List.length_append, Nat.add_assoc]

/-- `joinSlash (c :: L) ++ [0]` seen as "component, terminator, rest". -/
def tailOf (L : List (List Nat)) : List Nat :=
  match L with
  | [] => [0]
  | _ :: _ => SLASH :: (joinSlash L ++ [0])

theorem join_view (c : List Nat) (L : List (List Nat)) :
    joinSlash (c :: L) ++ [0] = c ++ tailOf L := by
  cases L <;> simp [joinSlash, tailOf]

theorem tailOf_cases (L : List (List Nat)) :
    (L = [] ∧ tailOf L = [0]) ∨ (L ≠ [] ∧ tailOf L = SLASH :: (joinSlash L ++ [0])) := by
  cases L with
  | nil => exact Or.inl ⟨rfl, rfl⟩
  | cons a b => exact Or.inr ⟨nofun, rfl⟩

theorem keep_cons (c : List Nat) (L : List (List Nat)) :
    keep (c :: L) = if c = [] ∨ c = [DOT] then keep L else c :: keep L := by
  unfold keep
  rw [List.filter_cons]
  by_cases h1 : c = []
  · simp [h1]
  · by_cases h2 : c = [DOT]
    · simp [h2]
    · simp [h1, h2]

/-- Post-condition of `scan` started at a component boundary with `joinSlash L` still to read,
`dest` bytes written and buffer `buf`. -/
def ScanPost (nd : Bool) (L : List (List Nat)) (buf : List Nat) (dest : Nat) (sep : Bool) (r : Scan) : Prop :=
  if nd = true ∧ L.any isDotDot = true then r = .failed
  else ∃ buf' sep', r = .done buf' (dest + (emit sep (keep L)).length) sep' ∧
      buf'.take (dest + (emit sep (keep L)).length) = buf.take dest ++ emit sep (keep L) ∧
      buf'.length = buf.length ∧ (keep L = [] → sep' = sep)

/-- A skipped component (empty or ".") in front does not change the post-condition. -/
theorem ScanPost_skip (hc : c = [] ∨ c = [DOT]) (h : ScanPost nd L buf dest sep r) : ScanPost nd (c :: L) buf dest sep r := by
  have hdd : isDotDot c = false := by rcases hc with rfl | rfl <;> decide
  unfold ScanPost at h ⊢
  rwa [List.any_cons, hdd, Bool.false_or, keep_cons, if_pos hc]

/-- A copied component in front; `s` is `true` unless nothing follows. -/
theorem ScanPost_copy {buf1 : List Nat} {s : Bool} (hc1 : c ≠ []) (hc2 : c ≠ [DOT]) (hdd : ¬ (nd = true ∧ c = [DOT, DOT]))
    (ht : buf1.take (dest + (sepOf sep ++ c).length) = buf.take dest ++ (sepOf sep ++ c))
    (hl : buf1.length = buf.length) (hs : keep L ≠ [] → s = true)
    (h : ScanPost nd L buf1 (dest + (sepOf sep ++ c).length) s r) : ScanPost nd (c :: L) buf dest sep r := by
  have hany : (nd = true ∧ (c :: L).any isDotDot = true) ↔ (nd = true ∧ L.any isDotDot = true) := by
    rw [List.any_cons, Bool.or_eq_true]
    exact and_congr_right fun hn => or_iff_right fun hcd => hdd ⟨hn, by simpa [isDotDot] using hcd⟩
  have hem : emit s (keep L) = emit true (keep L) := by
    cases hk : keep L with
    | nil => rfl
    | cons d K => rw [hs (by simp [hk])]
  unfold ScanPost at h ⊢
  rw [keep_cons, if_neg (not_or.mpr ⟨hc1, hc2⟩)]
  rw [hem] at h
  by_cases hh : nd = true ∧ L.any isDotDot = true
  · rw [if_pos (hany.mpr hh)]; rwa [if_pos hh] at h
  · rw [if_neg (fun x => hh (hany.mp x))]; rw [if_neg hh] at h
    obtain ⟨b, s', h1, h2, h3, _⟩ := h
    have el : dest + (sepOf sep ++ c).length + (emit true (keep L)).length
        = dest + (emit sep (c :: keep L)).length := by
      simp only [emit, List.length_append]; omega
    rw [el, ht] at h2
    exact ⟨b, s', el ▸ h1, by simpa [emit] using h2, h3.trans hl, nofun⟩

theorem scan_spec (nd : Bool) : ∀ (L : List (List Nat)), L ≠ [] → (∀ c ∈ L, Clean c) →
    ∀ (buf : List Nat) (src dest : Nat) (sep : Bool), buf.drop src = joinSlash L ++ [0] →
    dest + (sepOf sep).length ≤ src → ScanPost nd L buf dest sep (scan nd buf src dest sep) := by
  intro L
  induction L with
  | nil => intro h; exact absurd rfl h
  | cons c L ih =>
    intro _ hcl buf src dest sep hd hle
    have hc : Clean c := hcl c (by simp)
    have hclL : ∀ d ∈ L, Clean d := fun d hd => hcl d (by simp [hd])
    rw [join_view] at hd
    -- after `c` the input ends, or goes on with '/' and the components `L`
    have hrest : ∀ {b : List Nat}, L ≠ [] → b.drop (src + c.length) = tailOf L →
        b.drop (src + c.length + 1) = joinSlash L ++ [0] := by
      intro b hL hb
      rw [((tailOf_cases L).resolve_left (fun h => hL h.1)).2] at hb
      exact drop_succ_of_cons hb
    have hdc : buf.drop (src + c.length) = tailOf L := by
      rw [← List.drop_drop, hd, List.drop_left' rfl]
    obtain ⟨t, tl, htl, ht⟩ : ∃ t tl, tailOf L = t :: tl ∧ ((L = [] ∧ t = 0) ∨ (L ≠ [] ∧ t = SLASH)) := by
      rcases tailOf_cases L with ⟨h1, h2⟩ | ⟨h1, h2⟩
      · exact ⟨_, _, h2, Or.inl ⟨h1, rfl⟩⟩
      · exact ⟨_, _, h2, Or.inr ⟨h1, rfl⟩⟩
    have ht' : t = 0 ∨ t = SLASH := ht.imp And.right And.right
    rw [htl] at hd
    by_cases hs : c = [] ∨ c = [DOT]
    · -- "Found '//', ignore second one.", "./" or a trailing "."
      rw [scan_skip hs ht' hd]
      apply ScanPost_skip hs
      rcases ht with ⟨rfl, rfl⟩ | ⟨hL, rfl⟩
      · unfold ScanPost
        rw [if_neg (by simp), if_pos rfl]
        exact ⟨buf, sep, rfl, by simp [keep, emit], rfl, fun _ => rfl⟩
      · rw [if_neg (by decide)]
        exact ih hL hclL buf _ dest sep (hrest hL hdc) (by omega)
    · have h1 : c ≠ [] := fun h => hs (Or.inl h)
      have h2 : c ≠ [DOT] := fun h => hs (Or.inr h)
      by_cases hdd : nd = true ∧ c = [DOT, DOT]
      · obtain ⟨rfl, rfl⟩ := hdd
        rw [scan_dotdot ht' hd]
        unfold ScanPost
        rw [if_pos ⟨rfl, by simp [isDotDot]⟩]
      · obtain ⟨buf1, hb1, hb2, hb3, he⟩ := scan_copy hc ht' hd hle h1 h2 hdd
        rw [he]
        rcases ht with ⟨rfl, rfl⟩ | ⟨hL, rfl⟩
        · refine ScanPost_copy (s := sep) h1 h2 hdd hb1 hb3 (fun h => absurd rfl h) ?_
          unfold ScanPost
          rw [if_neg (by simp), if_pos rfl]
          exact ⟨buf1, sep, rfl, by simp [keep, emit], rfl, fun _ => rfl⟩
        · rw [if_neg (by decide)]
          exact ScanPost_copy h1 h2 hdd hb1 hb3 (fun _ => rfl)
            (ih hL hclL buf1 _ _ true (hrest hL (htl ▸ hb2))
              (by simp only [List.length_append, sepOf_true, List.length_singleton]; omega))

end

theorem splitSlash_ne_nil (p : List Nat) : splitSlash p ≠ [] := by
  induction p with
  | nil => simp [splitSlash]
  | cons c r ih =>
    unfold splitSlash
    split
    · simp
    · split <;> simp

theorem splitSlash_cons_slash (r : List Nat) : splitSlash (SLASH :: r) = [] :: splitSlash r := by
  simp [splitSlash]

theorem splitSlash_cons_other (c : List Nat) (x : Nat) (hx : x ≠ SLASH) :
    ∃ h t, splitSlash c = h :: t ∧ splitSlash (x :: c) = (x :: h) :: t := by
  cases hs : splitSlash c with
  | nil => exact absurd hs (splitSlash_ne_nil c)
  | cons h t => exact ⟨h, t, rfl, by simp [splitSlash, hx, hs]⟩

theorem joinSlash_cons_cons (x : Nat) (h : List Nat) (t : List (List Nat)) :
    joinSlash ((x :: h) :: t) = x :: joinSlash (h :: t) := by
  cases t <;> simp [joinSlash]

theorem join_split (p : List Nat) : joinSlash (splitSlash p) = p := by
  induction p with
  | nil => simp [splitSlash, joinSlash]
  | cons c r ih =>
    by_cases hc : c = SLASH
    · subst hc
      rw [splitSlash_cons_slash]
      cases hs : splitSlash r with
      | nil => exact absurd hs (splitSlash_ne_nil r)
      | cons h t => rw [hs] at ih; simp [joinSlash, ih]
    · obtain ⟨h, t, h1, h2⟩ := splitSlash_cons_other r c hc
      rw [h2, joinSlash_cons_cons, ← h1, ih]

theorem splitSlash_mem : ∀ (p : List Nat), ∀ c ∈ splitSlash p, ∀ x ∈ c, x ∈ p ∧ x ≠ SLASH := by
  intro p
  induction p with
  | nil => intro c hc x hx; simp [splitSlash] at hc; subst hc; simp at hx
  | cons a r ih =>
    intro c hc x hx
    by_cases ha : a = SLASH
    · subst ha
      rw [splitSlash_cons_slash] at hc
      rcases List.mem_cons.mp hc with rfl | hc
      · simp at hx
      · exact ⟨List.mem_cons_of_mem _ (ih c hc x hx).1, (ih c hc x hx).2⟩
    · obtain ⟨h, t, h1, h2⟩ := splitSlash_cons_other r a ha
      rw [h2] at hc
      rcases List.mem_cons.mp hc with rfl | hc
      · rcases List.mem_cons.mp hx with rfl | hx
        · exact ⟨List.mem_cons_self, ha⟩
        · have := ih h (by simp [h1]) x hx
          exact ⟨List.mem_cons_of_mem _ this.1, this.2⟩
      · have := ih c (by simp [h1, hc]) x hx
        exact ⟨List.mem_cons_of_mem _ this.1, this.2⟩

theorem split_noslash (p : List Nat) : ∀ c ∈ splitSlash p, ∀ y ∈ c, y ≠ SLASH :=
  fun c hc y hy => (splitSlash_mem p c hc y hy).2

theorem split_clean (p : List Nat) (hnul : ∀ x ∈ p, x ≠ 0) : ∀ c ∈ splitSlash p, Clean c :=
  fun c hc x hx => ⟨hnul x (splitSlash_mem p c hc x hx).1, (splitSlash_mem p c hc x hx).2⟩

theorem splitSlash_append (a b : List Nat) :
    splitSlash (a ++ SLASH :: b) = splitSlash a ++ splitSlash b := by
  induction a with
  | nil => simp [splitSlash]
  | cons x a ih =>
    by_cases hx : x = SLASH
    · subst hx; simp [splitSlash_cons_slash, ih]
    · obtain ⟨h, t, h1, h2⟩ := splitSlash_cons_other a x hx
      obtain ⟨h', t', h1', h2'⟩ := splitSlash_cons_other (a ++ SLASH :: b) x hx
      rw [List.cons_append, h2', h2]
      rw [ih, h1] at h1'
      simp only [List.cons_append, List.cons.injEq] at h1'
      obtain ⟨rfl, rfl⟩ := h1'
      simp

theorem splitSlash_clean {c : List Nat} (hc : ∀ x ∈ c, x ≠ SLASH) : splitSlash c = [c] := by
  induction c with
  | nil => rfl
  | cons x c ih =>
    obtain ⟨h, t, h1, h2⟩ := splitSlash_cons_other c x (hc x (by simp))
    rw [ih (fun y hy => hc y (by simp [hy]))] at h1
    simp only [List.cons.injEq] at h1
    obtain ⟨rfl, rfl⟩ := h1
    exact h2

theorem split_join (K : List (List Nat)) (hK : K ≠ []) (hc : ∀ c ∈ K, ∀ x ∈ c, x ≠ SLASH) :
    splitSlash (joinSlash K) = K := by
  induction K with
  | nil => exact absurd rfl hK
  | cons c K ih =>
    cases K with
    | nil => simpa [joinSlash] using splitSlash_clean (hc c (by simp))
    | cons d K' =>
      simp only [joinSlash]
      rw [splitSlash_append, splitSlash_clean (hc c (by simp))]
      have := ih (by simp) (fun e he => hc e (by simp [he]))
      rw [this]; rfl

theorem join_eq_emit (K : List (List Nat)) : ∀ c : List Nat, joinSlash (c :: K) = c ++ emit true K := by
  induction K with
  | nil => intro c; simp [joinSlash, emit]
  | cons d K ih => intro c; simp only [joinSlash] at ih ⊢; rw [ih d]; simp [emit]

theorem emit_true (K : List (List Nat)) :
    emit true K = match K with | [] => [] | _ :: _ => SLASH :: joinSlash K := by
  cases K with
  | nil => rfl
  | cons c K => simp only []; rw [join_eq_emit]; simp [emit]

theorem emit_false (K : List (List Nat)) : emit false K = joinSlash K := by
  cases K with
  | nil => rfl
  | cons c K => rw [join_eq_emit]; simp [emit]

theorem joinSlash_len_tail (c : List Nat) (L : List (List Nat)) :
    (joinSlash L).length ≤ (joinSlash (c :: L)).length := by
  cases L with
  | nil => simp [joinSlash]
  | cons d L => simp [joinSlash]; omega

theorem emit_keep_len (L : List (List Nat)) : ∀ sep : Bool,
    (emit sep (keep L)).length ≤ (sepOf sep).length + (joinSlash L).length := by
  induction L with
  | nil => intro sep; simp [keep, emit]
  | cons c L ih =>
    intro sep
    rw [keep_cons]
    split
    · have := ih sep
      have := joinSlash_len_tail c L
      omega
    · simp only [emit, List.length_append]
      have h1 := ih true
      cases L with
      | nil => simp [keep, emit, joinSlash]
      | cons d L' =>
        simp only [joinSlash, List.length_append, List.length_cons, sepOf_true, List.length_nil] at h1 ⊢
        omega

theorem keep_mem {L : List (List Nat)} {c : List Nat} (h : c ∈ keep L) : c ∈ L ∧ c ≠ [] ∧ c ≠ [DOT] := by
  simp only [keep, List.mem_filter] at h
  obtain ⟨h1, h2⟩ := h
  simp at h2
  exact ⟨h1, h2.1, h2.2⟩

theorem joinSlash_ne_nil {K : List (List Nat)} (hK : K ≠ []) (hne : ∀ c ∈ K, c ≠ []) : joinSlash K ≠ [] := by
  cases K with
  | nil => exact absurd rfl hK
  | cons c K =>
    have := hne c (by simp)
    cases K with
    | nil => simpa [joinSlash]
    | cons d K' => simp [joinSlash]

theorem keep_join_ne_nil (L : List (List Nat)) (h : keep L ≠ []) : joinSlash (keep L) ≠ [] :=
  joinSlash_ne_nil h (fun _ hc => (keep_mem hc).2.1)

/-- `cleanSpec` case by case: the three refusals in the order they are tested, and the result otherwise. -/
theorem cleanSpec_cases (f : Flags) (p : List Nat) :
    (p = [] ∧ cleanSpec f p = .failed .empty) ∨
    (p ≠ [] ∧ p.head? = some SLASH ∧ f.noabs = true ∧ cleanSpec f p = .failed .absolute) ∨
    (p ≠ [] ∧ ¬ (p.head? = some SLASH ∧ f.noabs = true) ∧ f.nodotdot = true ∧ (splitSlash p).any isDotDot = true ∧
      cleanSpec f p = .failed .dotdot) ∨
    (p ≠ [] ∧ ¬ (p.head? = some SLASH ∧ f.noabs = true) ∧ ¬ (f.nodotdot = true ∧ (splitSlash p).any isDotDot = true) ∧
      cleanSpec f p = .ok (if p.head? = some SLASH then SLASH :: joinSlash (keep (splitSlash p))
        else if joinSlash (keep (splitSlash p)) = [] then [DOT] else joinSlash (keep (splitSlash p)))) := by
  unfold cleanSpec
  by_cases h1 : p = []
  · exact Or.inl ⟨h1, if_pos h1⟩
  · rw [if_neg h1]
    by_cases h2 : p.head? = some SLASH ∧ f.noabs = true
    · exact Or.inr (Or.inl ⟨h1, h2.1, h2.2, if_pos h2⟩)
    · rw [if_neg h2]
      by_cases h3 : f.nodotdot = true ∧ (splitSlash p).any isDotDot = true
      · exact Or.inr (Or.inr (Or.inl ⟨h1, h2, h3.1, h3.2, if_pos h3⟩))
      · rw [if_neg h3]
        refine Or.inr (Or.inr (Or.inr ⟨h1, h2, h3, ?_⟩))
        dsimp only
        split
        · rfl
        · split <;> rfl

/-- What `cleanup_pathname_fsobj` makes of the outcome of its loop. -/
theorem cleanup_finish {nd sep : Bool} {L : List (List Nat)} {buf : List Nat} {r : Scan}
    (h : ScanPost nd L buf 0 sep r) (hlen : (sepOf sep).length + (joinSlash L).length < buf.length)
    (h1 : 1 < buf.length) :
    (match r with
      | .oob => Res.oob
      | .failed => .failed .dotdot
      | .done buf1 dest sep =>
        if dest = 0 then
          if 1 < buf1.length then .ok [if sep then SLASH else DOT] else .oob
        else if dest < buf1.length then .ok (buf1.take dest) else .oob) =
    if nd = true ∧ L.any isDotDot = true then .failed .dotdot
    else if keep L = [] then .ok [if sep then SLASH else DOT] else .ok (emit sep (keep L)) := by
  have hle := emit_keep_len L sep
  unfold ScanPost at h
  split at h
  · rename_i hh; rw [h, if_pos hh]
  · rename_i hh
    obtain ⟨b, s', rfl, h2, h3, h4⟩ := h
    rw [if_neg hh]
    simp only [Nat.zero_add, List.take_zero, List.nil_append] at h2 ⊢
    cases hk : keep L with
    | nil => rw [h4 hk, h3]; simp [emit, h1]
    | cons d K =>
      rw [hk] at h2 hle
      have hd : d ≠ [] := (keep_mem (hk ▸ List.mem_cons_self)).2.1
      have hpos : 0 < (emit sep (d :: K)).length := by
        simp only [emit, List.length_append]; have := List.length_pos_iff.mpr hd; omega
      rw [if_neg (Nat.ne_of_gt hpos), if_pos (by omega), h2, if_neg (List.cons_ne_nil _ _)]

theorem cleanup_eq_spec (f : Flags) (p : List Nat) (hnul : ∀ x ∈ p, x ≠ 0) :
    cleanup f p = cleanSpec f p := by
  cases p with
  | nil => simp [cleanup, cleanSpec]
  | cons c r =>
    have hc0 : c ≠ 0 := hnul c (by simp)
    unfold cleanup cleanSpec
    simp only [List.cons_append, List.getElem?_cons_zero, hc0, if_false, List.head?_cons,
      Option.some.injEq, reduceCtorEq]
    by_cases habs : c = SLASH
    · subst habs
      simp only [true_and, if_true, decide_true]
      by_cases hna : f.noabs = true
      · simp [hna]
      · rw [if_neg hna, if_neg hna]
        have key := scan_spec f.nodotdot (splitSlash r) (splitSlash_ne_nil r)
          (split_clean r fun x hx => hnul x (by simp [hx])) (SLASH :: (r ++ [0])) 1 0 true
          (by rw [join_split]; rfl) (by simp)
        refine (cleanup_finish key (by rw [join_split]; simp; omega) (by simp)).trans ?_
        rw [splitSlash_cons_slash, List.any_cons, keep_cons, if_pos (Or.inl rfl), emit_true]
        cases keep (splitSlash r) <;> simp [joinSlash, isDotDot]
    · simp only [habs, false_and, if_false, decide_false]
      have key := scan_spec f.nodotdot (splitSlash (c :: r)) (splitSlash_ne_nil _) (split_clean _ hnul)
        (c :: (r ++ [0])) 0 0 false (by rw [join_split]; rfl) (by simp)
      refine (cleanup_finish key (by rw [join_split]; simp) (by simp)).trans ?_
      rw [emit_false]
      by_cases hk : keep (splitSlash (c :: r)) = []
      · rw [hk]; rfl
      · rw [if_neg hk, if_neg (keep_join_ne_nil _ hk)]

/-- Every spelling of a `..` component: at the start or after a '/', and at the
end or before a '/'. -/
theorem dotdot_spelled (a b : List Nat) (ha : a = [] ∨ ∃ a', a = a' ++ [SLASH])
    (hb : b = [] ∨ ∃ b', b = SLASH :: b') : [DOT, DOT] ∈ splitSlash (a ++ [DOT, DOT] ++ b) := by
  have h2 : [DOT, DOT] ∈ splitSlash ([DOT, DOT] ++ b) := by
    have e : splitSlash [DOT, DOT] = [[DOT, DOT]] := by decide
    rcases hb with rfl | ⟨b', rfl⟩
    · simp [e]
    · rw [splitSlash_append, e]; simp
  rcases ha with rfl | ⟨a', rfl⟩
  · simpa using h2
  · have : a' ++ [SLASH] ++ [DOT, DOT] ++ b = a' ++ SLASH :: ([DOT, DOT] ++ b) := by simp
    rw [this, splitSlash_append]
    exact List.mem_append_right _ h2

theorem any_isDotDot_iff (L : List (List Nat)) : L.any isDotDot = true ↔ [DOT, DOT] ∈ L := by
  simp [List.any_eq_true, isDotDot]

/-- What ARCHIVE_OK under NODOTDOT|NOABSOLUTEPATHS says about the input and the result. -/
theorem cleanup_secure_ok {p q : List Nat} (hn : ∀ x ∈ p, x ≠ 0)
    (h : cleanup { nodotdot := true, noabs := true } p = .ok q) :
    p ≠ [] ∧ p.head? ≠ some SLASH ∧ [DOT, DOT] ∉ splitSlash p ∧
    ((q = [DOT] ∧ keep (splitSlash p) = []) ∨
     (keep (splitSlash p) ≠ [] ∧ q = joinSlash (keep (splitSlash p)) ∧ splitSlash q = keep (splitSlash p))) := by
  rw [cleanup_eq_spec _ _ hn] at h
  obtain ⟨_, he⟩ | ⟨_, _, _, he⟩ | ⟨_, _, _, _, he⟩ | ⟨hne, habs, hdd, he⟩ := cleanSpec_cases ⟨true, true⟩ p
  · rw [he] at h; cases h
  · rw [he] at h; cases h
  · rw [he] at h; cases h
  · have habs' : p.head? ≠ some SLASH := fun e => habs ⟨e, rfl⟩
    rw [he, if_neg habs'] at h
    refine ⟨hne, habs', fun hm => hdd ⟨rfl, (any_isDotDot_iff _).mpr hm⟩, ?_⟩
    by_cases hk : keep (splitSlash p) = []
    · rw [hk] at h ⊢
      exact Or.inl ⟨(Res.ok.inj h).symm, rfl⟩
    · rw [if_neg (keep_join_ne_nil _ hk)] at h
      cases Res.ok.inj h
      exact Or.inr ⟨hk, rfl, split_join _ hk (fun c hc x hx => (split_clean p hn c (keep_mem hc).1 x hx).2)⟩

theorem join_keep_len (p : List Nat) : (joinSlash (keep (splitSlash p))).length ≤ p.length := by
  have := emit_keep_len (splitSlash p) false
  rw [emit_false, join_split] at this
  simpa using this

/-- The rewrite is in place: the result is never longer than the input. -/
theorem cleanup_len_le (f : Flags) (p q : List Nat) (hp : ∀ x ∈ p, x ≠ 0) (h : cleanup f p = .ok q) :
    q.length ≤ p.length := by
  rw [cleanup_eq_spec _ _ hp] at h
  obtain ⟨_, he⟩ | ⟨_, _, _, he⟩ | ⟨_, _, _, _, he⟩ | ⟨hne, _, _, he⟩ := cleanSpec_cases f p
  · rw [he] at h; cases h
  · rw [he] at h; cases h
  · rw [he] at h; cases h
  · rw [he] at h
    injection h with h
    subst h
    have hpos : 0 < p.length := List.length_pos_iff.mpr hne
    split
    · rename_i habs
      cases p with
      | nil => exact absurd rfl hne
      | cons c r =>
        simp only [List.head?_cons, Option.some.injEq] at habs; subst habs
        rw [splitSlash_cons_slash, keep_cons, if_pos (Or.inl rfl)]
        exact Nat.succ_le_succ (join_keep_len r)
    · split
      · exact hpos
      · exact join_keep_len p

theorem tst_some_of_le {s : List Nat} {i : Nat} (f : Nat → Bool) (h : i ≤ s.length) :
    ∃ b, tst s i f = some b := by
  simp only [tst, rd]
  by_cases h1 : i < s.length
  · simp [h1]
  · have : i = s.length := by omega
    simp [this]

theorem andRd_true {a : Option Bool} {b : Unit → Option Bool} (h : andRd a b = some true) :
    a = some true ∧ b () = some true := by
  unfold andRd at h
  split at h <;> simp_all

/-- A guarded read chain never reads beyond the terminator: a test at `i ≤ length` yields a value, and the
next read happens only if it came out true, which it does not at the terminator. -/
theorem andRd_tst {s : List Nat} {i : Nat} {f : Nat → Bool} {k : Unit → Option Bool} (hf : f 0 = false)
    (hi : i ≤ s.length) (hk : i < s.length → ∃ z, k () = some z) : ∃ z, andRd (tst s i f) k = some z := by
  obtain ⟨x, hx⟩ := tst_some_of_le f hi
  rw [hx]
  cases x with
  | false => exact ⟨false, rfl⟩
  | true => exact hk (tst_true_lt hf hx)

theorem isSep0 : isSep 0 = false := by decide

theorem winPrefix_some (s : List Nat) : ∃ k, winPrefix s = some k ∧ k ≤ s.length := by
  unfold winPrefix
  have c1 : ∃ z, (andRd (tst s 0 isSep) fun _ => andRd (tst s 1 isSep) fun _ =>
        andRd (tst s 2 fun c => c == DOT || c == 63) fun _ => tst s 3 isSep) = some z := by
    apply andRd_tst isSep0 (by omega); intro h0
    apply andRd_tst isSep0 (by omega); intro h1
    apply andRd_tst (by decide) (by omega); intro h2
    exact tst_some_of_le _ (by omega)
  obtain ⟨z, hz⟩ := c1
  rw [hz]
  cases z with
  | false => exact ⟨0, rfl, by omega⟩
  | true =>
    simp only
    obtain ⟨_, h⟩ := andRd_true hz
    obtain ⟨_, h⟩ := andRd_true h
    obtain ⟨_, h⟩ := andRd_true h
    have l3 := tst_true_lt isSep0 h
    have c2 : ∃ z, (andRd (tst s 2 (· == 63)) fun _ => andRd (tst s 4 fun c => c == 85 || c == 117) fun _ =>
          andRd (tst s 5 fun c => c == 78 || c == 110) fun _ =>
          andRd (tst s 6 fun c => c == 67 || c == 99) fun _ => tst s 7 isSep) = some z := by
      apply andRd_tst (by decide) (by omega); intro _
      apply andRd_tst (by decide) (by omega); intro h4
      apply andRd_tst (by decide) (by omega); intro h5
      apply andRd_tst (by decide) (by omega); intro h6
      exact tst_some_of_le _ (by omega)
    obtain ⟨z2, hz2⟩ := c2
    rw [hz2]
    cases z2 with
    | false => exact ⟨4, rfl, by omega⟩
    | true =>
      obtain ⟨_, h⟩ := andRd_true hz2
      obtain ⟨_, h⟩ := andRd_true h
      obtain ⟨_, h⟩ := andRd_true h
      obtain ⟨_, h⟩ := andRd_true h
      have := tst_true_lt isSep0 h
      exact ⟨8, rfl, by omega⟩

theorem stripSlashes_some (s : List Nat) : ∀ (n i : Nat), s.length + 1 - i = n → i ≤ s.length →
    ∃ j, stripSlashes s i = some j ∧ tst s j isSep = some false := by
  intro n
  induction n using Nat.strongRecOn with
  | _ n ih =>
    intro i hn hi
    unfold stripSlashes
    obtain ⟨b, hb⟩ := tst_some_of_le isSep hi
    split
    · rename_i h; rw [hb] at h; simp at h
    · rename_i h; exact ⟨i, rfl, h⟩
    · rename_i h
      have hlt := tst_true_lt isSep0 h
      have c1 : ∃ z, (andRd (tst s (i + 1) (· == DOT)) fun _ => andRd (tst s (i + 2) (· == DOT)) fun _ =>
          tst s (i + 3) isSep) = some z := by
        apply andRd_tst (by decide) (by omega); intro h1
        apply andRd_tst (by decide) (by omega); intro h2
        exact tst_some_of_le _ (by omega)
      obtain ⟨z, hz⟩ := c1
      rw [hz]
      cases z with
      | true =>
        obtain ⟨_, h'⟩ := andRd_true hz
        obtain ⟨_, h'⟩ := andRd_true h'
        have := tst_true_lt isSep0 h'
        exact ih _ (by omega) (i + 3) rfl (by omega)
      | false =>
        simp only
        have c2 : ∃ z, (andRd (tst s (i + 1) (· == DOT)) fun _ => tst s (i + 2) isSep) = some z := by
          apply andRd_tst (by decide) (by omega); intro h1
          exact tst_some_of_le _ (by omega)
        obtain ⟨z2, hz2⟩ := c2
        rw [hz2]
        cases z2 with
        | true =>
          obtain ⟨_, h'⟩ := andRd_true hz2
          have := tst_true_lt isSep0 h'
          exact ih _ (by omega) (i + 2) rfl (by omega)
        | false => exact ih _ (by omega) (i + 1) rfl (by omega)

theorem stripPass_some (s : List Nat) (i : Nat) (hi : i ≤ s.length) : ∃ j, stripPass s i = some j := by
  unfold stripPass
  have c : ∃ z, (andRd (tst s i isAlpha) fun _ => tst s (i + 1) (· == 58)) = some z := by
    apply andRd_tst (by decide) hi; intro h
    exact tst_some_of_le _ (by omega)
  obtain ⟨z, hz⟩ := c
  rw [hz]
  cases z with
  | false => obtain ⟨j, hj, _⟩ := stripSlashes_some s _ i rfl hi; exact ⟨j, by simpa using hj⟩
  | true =>
    obtain ⟨_, h'⟩ := andRd_true hz
    have := tst_true_lt (f := (· == 58)) (by decide) h'
    obtain ⟨j, hj, _⟩ := stripSlashes_some s _ (i + 2) rfl (by omega)
    exact ⟨j, by simpa using hj⟩

theorem stripLoop_some (s : List Nat) : ∀ (n i : Nat), s.length + 1 - i = n → i ≤ s.length →
    ∃ k, stripLoop s i = some k ∧ i ≤ k ∧ k ≤ s.length ∧ stripPass s k = some k := by
  intro n
  induction n using Nat.strongRecOn with
  | _ n ih =>
    intro i hn hi
    obtain ⟨j, hj⟩ := stripPass_some s i hi
    have hge := stripPass_ge s i j hj
    have hle := stripPass_le s i j hj
    rw [stripLoop]
    split
    · rename_i h; rw [hj] at h; simp at h
    · rename_i j' h; rw [hj] at h; simp at h; subst h
      by_cases hji : j = i
      · subst hji; simp; exact ⟨hi, hj⟩
      · rw [if_neg hji]
        obtain ⟨k, h1, h2, h3, h4⟩ := ih _ (by omega) j rfl hle
        exact ⟨k, h1, by omega, h3, h4⟩

/-- A fixed point of `stripPass` is neither a separator nor a drive-letter prefix. -/
theorem stripPass_fix {s : List Nat} {k : Nat} (h : stripPass s k = some k) :
    tst s k isSep = some false ∧
    (andRd (tst s k isAlpha) fun _ => tst s (k + 1) (· == 58)) = some false := by
  unfold stripPass at h
  split at h
  · simp at h
  · rename_i d hd
    cases d with
    | true => have := (stripSlashes_bounds s _ _ rfl k h).1; simp at this; omega
    | false =>
      simp only [Bool.false_eq_true, if_false] at h
      refine ⟨?_, hd⟩
      unfold stripSlashes at h
      split at h
      · simp at h
      · assumption
      · exfalso
        split at h
        · simp at h
        · have := (stripSlashes_bounds s _ _ rfl k h).1; omega
        · split at h
          · simp at h
          · have := (stripSlashes_bounds s _ _ rfl k h).1; omega
          · have := (stripSlashes_bounds s _ _ rfl k h).1; omega

theorem stripAbsolute_spec (s : List Nat) : ∃ k, stripAbsolute s = some k ∧ k ≤ s.length ∧
    tst s k isSep = some false ∧
    (andRd (tst s k isAlpha) fun _ => tst s (k + 1) (· == 58)) = some false := by
  obtain ⟨w, hw, hwl⟩ := winPrefix_some s
  obtain ⟨k, h1, _, h3, h4⟩ := stripLoop_some s _ w rfl hwl
  exact ⟨k, by simp [stripAbsolute, hw, h1], h3, stripPass_fix h4⟩

end LA.PathClean
