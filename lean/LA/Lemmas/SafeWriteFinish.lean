/-
Lemmas for C19: finish_entry and close.

`Fin`: nothing that can still happen on this handle changes what the target name
resolves to, and no temporary file is left (unless an unlink of it was itself made to
fail); `Settled`: moreover the cleaning unlink was only ever issued after some other call
had been made to fail.  finish_entry takes an open entry to a settled one, and a settled
one stays settled.
-/
import LA.Lemmas.SafeWriteData
namespace LA.SafeWrite

variable {F : Nat → Bool} {cfg : Cfg} {old new c : Bytes} {s : S}

structure Fin (old new : Bytes) (s : S) : Prop where
  log : LogGood old new s.w
  notmp : Leak s.w ∨ s.w.fs.tmp = none
  wtmp : s.wd.tmpname = false
  data : s.wd.state = .data → s.wd.fd = false ∧ Pre old s.w.fs

structure Settled (F : Nat → Bool) (old new : Bytes) (s : S) : Prop where
  fin : Fin old new s
  uaf : UAF F s.w

/-- The entry was given up, or was never opened, with the target untouched. -/
theorem Settled.of_safe (h : Safe F old new s.w) (hn : Leak s.w ∨ s.w.fs.tmp = none)
    (ht : s.wd.tmpname = false) (hfd : s.wd.fd = false) : Settled F old new s :=
  ⟨⟨h.log, hn, ht, fun _ => ⟨hfd, h.pre⟩⟩, h.uaf⟩

/-- Called after an injected failure, `close_file_descriptor` abandons the entry. -/
theorem closeFd_settled (hleg : cfg.legacy.finishLeak = false) (h : Open F old new c s) (hi : HasInj F s.w) :
    Settled F old new (closeFd F cfg s) := by
  unfold closeFd
  simp only [h.fd, h.tmp, hleg, ↓reduceIte, Bool.not_false, Bool.and_self]
  exact .of_safe ((h.safe.sys (op := .close) rfl nofun).sys rfl fun _ => hasInj_mono hi) (sys_unlink_tmp F _)
    rfl rfl

/-- What "Pad or truncate file to the right size" leaves: the entry still open, on a
temporary file whose content satisfies `Q`, or given up. -/
def Padded (F : Nat → Bool) (old new : Bytes) (inc : Bool) (r : S × Option Status) (Q : Bytes → Prop) : Prop :=
  (r.2 = none → ∃ c', Open F old new c' r.1 ∧ r.1.wd.incomplete = inc ∧ Q c') ∧
  (r.2 ≠ none → Settled F old new r.1)

theorem Padded.imp {inc : Bool} {r : S × Option Status} {Q Q' : Bytes → Prop}
    (h : Padded F old new inc r Q) (hq : ∀ c', Q c' → Q' c') : Padded F old new inc r Q' :=
  ⟨fun hn => let ⟨c', h1, h2, h3⟩ := h.1 hn; ⟨c', h1, h2, hq c' h3⟩, h.2⟩

/-- A call of the padding code whose failure makes finish_entry give up. -/
theorem padded_guard {op : Op} {v : Nat} {c' : Bytes} {wd : WD} {w : World} {inc : Bool} {Q : Bytes → Prop}
    {st : Status} {k : S × Option Status} (hl1 : cfg.legacy.finishLeak = false) (h : Open F old new c ⟨wd, w⟩)
    (hq : op.quiet = true) (hst : (shapeFS old c).step op = (shapeFS old c', some v))
    (hk : Open F old new c' ⟨wd, (sys F w op).1⟩ → Padded F old new inc k Q) (hc : op ≠ .close := by nofun) :
    Padded F old new inc (if !(sys F w op).2.isOk then (closeFd F cfg ⟨wd, (sys F w op).1⟩, some st) else k) Q := by
  rcases h.call hq hst hc with ⟨h1, hi, ho⟩ | ⟨h1, ho⟩
  · rw [h1, Res.isOk_inj, Bool.not_false, if_pos rfl]
    exact ⟨nofun, fun _ => closeFd_settled hl1 ho hi⟩
  · rw [h1, Res.isOk_ok, Bool.not_true, if_neg Bool.false_ne_true]
    exact hk ho

theorem padFallback_spec (h : Open F old new c s)
    (hl1 : cfg.legacy.finishLeak = false) (hl2 : cfg.legacy.statTarget = false) :
    Padded F old new s.wd.incomplete (padFallback F cfg s) fun c' =>
      c.length ≤ cfg.size → c' = padTo cfg.size c := by
  obtain ⟨hwd, ho, hsz⟩ := lazyStat_open (cfg := cfg) (s := ⟨{ s.wd with pst := false }, s.w⟩) h.of_wd
  unfold padFallback
  generalize lazyStat F cfg ⟨{ s.wd with pst := false }, s.w⟩ = l at hwd ho hsz ⊢
  simp only []
  have hinc : l.1.wd.incomplete = s.wd.incomplete := by rw [hwd]
  rcases hsz with ⟨hnone, hi⟩ | ⟨sz, hsome, hszc⟩
  · -- lazy_stat failed
    rw [hnone]
    exact ⟨nofun, fun _ => closeFd_settled hl1 ho hi⟩
  · rw [hsome]
    cases hszc hl2
    have ho : Open F old new c ⟨{ l.1.wd with pst := true }, l.1.w⟩ := ho.of_wd
    simp only []
    by_cases hlt : c.length < cfg.size
    · rw [if_pos hlt]
      refine padded_guard hl1 ho rfl (step_lseek_shape old c _) fun ho => ?_
      refine padded_guard hl1 ho rfl (step_write_shape old c _ _) fun ho => ?_
      refine ⟨fun _ => ⟨_, ho.of_wd, hinc, fun _ => ?_⟩, fun k => absurd rfl k⟩
      rw [writeAt_append _ (by omega), show ([0] : Bytes) = zeros 1 from rfl, padTo_append_zeros (by omega)]
      congr 1; omega
    · rw [if_neg hlt]
      exact ⟨fun _ => ⟨c, ho, hinc, fun _ => (padTo_of_le (by omega)).symm⟩, fun k => absurd rfl k⟩

theorem extendFile_spec (h : Open F old new c s)
    (hl1 : cfg.legacy.finishLeak = false) (hl2 : cfg.legacy.statTarget = false) :
    Padded F old new s.wd.incomplete (extendFile F cfg s) fun c' =>
      c.length = s.wd.fdOffset → c.length ≤ cfg.size → c' = padTo cfg.size c := by
  unfold extendFile
  simp only [h.fd, Bool.not_true, Bool.false_eq_true, ↓reduceIte]
  split
  · rename_i heq
    exact ⟨fun _ => ⟨c, h, rfl, fun hlen _ => (padTo_of_le (by rw [hlen, heq]; exact Nat.le_refl _)).symm⟩,
      fun k => absurd rfl k⟩
  · rcases h.call (op := .ftruncate cfg.size) rfl (step_ftruncate_shape old c _) with ⟨h1, hi, ho⟩ | ⟨h1, ho⟩
    · -- ftruncate made to fail
      simp only [h1, Res.isOk_inj, Bool.not_false, true_and]
      split
      · exact ⟨nofun, fun _ => closeFd_settled hl1 ho hi⟩
      · exact (padFallback_spec ho hl1 hl2).imp fun _ q _ => q
    · simp only [h1, Res.isOk_ok, Bool.not_true, Bool.false_eq_true, false_and, ↓reduceIte]
      refine (padFallback_spec ho hl1 hl2).imp fun c' q _ hle => ?_
      have ht : truncTo cfg.size c = padTo cfg.size c := truncTo_of_le hle
      rw [q (by rw [ht]; simp; omega), ht, padTo_padTo (Nat.le_refl _)]

/-- "Restore metadata" only issues calls without effect on the file system, and of the
writer's fields only changes TODO_OWNER. -/
def Tweak (F : Nat → Bool) (s s' : S) : Prop :=
  Frame F s.w s'.w ∧ ∃ t, s'.wd = { s.wd with todoOwner := t }

theorem Tweak.refl (s : S) : Tweak F s s := ⟨Frame.refl _, s.wd.todoOwner, rfl⟩

theorem Tweak.trans {a b c : S} (h1 : Tweak F a b) (h2 : Tweak F b c) : Tweak F a c := by
  obtain ⟨t1, e1⟩ := h1.2
  obtain ⟨t2, e2⟩ := h2.2
  exact ⟨h1.1.trans h2.1, t2, by rw [e2, e1]⟩

theorem setOwnership_tweak (F : Nat → Bool) (s : S) : Tweak F s (setOwnership F s).1 := by
  unfold setOwnership
  cases s.wd.fd
  · simp only [Bool.false_eq_true, ↓reduceIte]
    split
    · exact ⟨(Frame.refl _).snoc rfl, false, rfl⟩
    · exact ⟨(Frame.refl _).snoc rfl, s.wd.todoOwner, rfl⟩
  · simp only [↓reduceIte]
    split
    · exact ⟨(Frame.refl _).snoc rfl, false, rfl⟩
    · split
      · exact ⟨((Frame.refl _).snoc rfl).snoc rfl, false, rfl⟩
      · exact ⟨((Frame.refl _).snoc rfl).snoc rfl, s.wd.todoOwner, rfl⟩

theorem setMode_tweak (F : Nat → Bool) (s : S) : Tweak F s (setMode F s).1 :=
  ⟨(Frame.refl _).snoc (by split <;> rfl), s.wd.todoOwner, rfl⟩

theorem setTimes_tweak (F : Nat → Bool) (s : S) : Tweak F s (setTimes F s).1 :=
  ⟨(Frame.refl _).snoc (by split <;> rfl), s.wd.todoOwner, rfl⟩

/-- A step of "Restore metadata" that is only taken when something is pending. -/
theorem Tweak.ite {p : Prop} [Decidable p] {r : S × Status} (h : Tweak F s r.1) :
    Tweak F s (if p then r else (s, .ok)).1 := by
  split
  · exact h
  · exact Tweak.refl s

theorem fixups_tweak (F : Nat → Bool) (cfg : Cfg) (s : S) : Tweak F s (fixups F cfg s).1 :=
  ((Tweak.ite (setOwnership_tweak F s)).trans (Tweak.ite (setMode_tweak F _))).trans
    (Tweak.ite (setTimes_tweak F _))

theorem Open.tweak {s' : S} (h : Open F old new c s) (ht : Tweak F s s') :
    Open F old new c s' ∧ s'.wd.incomplete = s.wd.incomplete := by
  obtain ⟨hfr, t, hwd⟩ := ht
  exact ⟨⟨hfr.fs_eq ▸ h.fs, by rw [hwd]; exact h.fd, by rw [hwd]; exact h.tmp, by rw [hwd]; exact h.st,
    hfr.safe h.safe, fun hi => hfr.hasInj (h.inc (by rw [hwd] at hi; exact hi))⟩, by rw [hwd]⟩

/-- The file system after the descriptor on the temporary file has been closed. -/
def closedFS (old c : Bytes) : FS :=
  { target := some 0, tmp := some 1, inodes := [old, c], fd := none, fdOn := .tmp }

theorem pre_closedFS (old c : Bytes) : Pre old (closedFS old c) :=
  ⟨rfl, rfl, by simp [closedFS], by simp [closedFS]⟩

/-- close(2) releases the descriptor even when it reports an error. -/
theorem sys_close_shape {w : World} (h : w.fs = shapeFS old c) : (sys F w .close).1.fs = closedFS old c := by
  rcases sys_cases F w .close with ⟨_, _, h2⟩ | ⟨_, h2⟩ <;> (rw [h2, h]; rfl)

theorem step_rename_closed (old c : Bytes) :
    (closedFS old c).step (.rename .tmp .target) = ({ closedFS old c with target := some 1, tmp := none }, some 0) :=
  rfl

/-- `finish_metadata:` on an open entry: the temporary file is renamed over the target only
if it is the complete new file; otherwise, or if the rename fails, it is unlinked. -/
theorem finishMetadata_spec (ret : Status) (h : Open F old new c s)
    (hleg : cfg.legacy.renameAfterFailedWrite = false) (hc : s.wd.incomplete = false → c = new) :
    Settled F old new (finishMetadata F cfg ret s).1 := by
  unfold finishMetadata
  simp only [h.fd, h.tmp, hleg, ↓reduceIte, Bool.not_false, Bool.and_true]
  have hsafe1 : Safe F old new (sys F s.w .close).1 := h.safe.sys rfl nofun
  have hfs1 : (sys F s.w .close).1.fs = closedFS old c := sys_close_shape h.fs
  split
  · -- incomplete: unlink instead of rename
    rename_i hinc
    exact .of_safe (hsafe1.sys (op := .unlink .tmp) rfl fun _ => hasInj_mono (h.inc hinc)) (sys_unlink_tmp F _)
      rfl rfl
  · rename_i hinc
    rcases sys_of_step (F := F) hfs1 (step_rename_closed old c) with ⟨h1, h2⟩ | ⟨h1, h2⟩
    · -- rename made to fail: everything is as it was; unlink
      simp only [h1, Res.isOk_inj, Bool.false_eq_true, ↓reduceIte]
      have hp : Pre old (sys F (sys F s.w .close).1 (.rename .tmp .target)).1.fs := by
        rw [h2]; exact pre_closedFS old c
      have hsafe2 : Safe F old new (sys F (sys F s.w .close).1 (.rename .tmp .target)).1 :=
        ⟨hp, sys_logGood hsafe1.log (Or.inl hp.view), sys_UAF hsafe1.uaf nofun⟩
      exact .of_safe (hsafe2.sys (op := .unlink .tmp) rfl fun _ => sys_inj_hasInj h1) (sys_unlink_tmp F _)
        rfl rfl
    · -- renamed: the target now is the complete new file
      simp only [h1, Res.isOk_ok, ↓reduceIte]
      refine ⟨⟨sys_logGood hsafe1.log (Or.inr ?_), Or.inr (by rw [h2]), rfl, nofun⟩, sys_UAF hsafe1.uaf nofun⟩
      rw [h2, ← hc (by simpa using hinc)]
      rfl

theorem finishEntry_open (hleg : cfg.legacy = {}) (h : Open F old new c s)
    (hc : s.wd.incomplete = false → c.length = s.wd.fdOffset ∧ c.length ≤ cfg.size ∧ padTo cfg.size c = new) :
    Settled F old new (finishEntry F cfg s).1 := by
  have hl1 : cfg.legacy.finishLeak = false := by rw [hleg]
  have hl2 : cfg.legacy.statTarget = false := by rw [hleg]
  have hl3 : cfg.legacy.renameAfterFailedWrite = false := by rw [hleg]
  unfold finishEntry
  simp only [h.st]
  obtain ⟨e1, e2⟩ := extendFile_spec (cfg := cfg) h hl1 hl2
  split
  · rename_i st hst
    exact e2 (by rw [hst]; nofun)
  · rename_i hnone
    obtain ⟨c', ho, hinc, hc'⟩ := e1 hnone
    obtain ⟨hf, hincf⟩ := ho.tweak (fixups_tweak F cfg _)
    refine finishMetadata_spec _ hf hl3 fun hi => ?_
    obtain ⟨k1, k2, k3⟩ := hc (by rw [← hinc, ← hincf]; exact hi)
    rw [hc' k1 k2, k3]

/-- finish_entry (and close, free) once the entry is settled. -/
theorem finishEntry_settled (h : Settled F old new s) : Settled F old new (finishEntry F cfg s).1 := by
  unfold finishEntry
  split
  · exact h
  · exact h
  · rename_i hst
    obtain ⟨hfd, hpre⟩ := h.fin.data hst
    have he : extendFile F cfg s = (s, none) := by unfold extendFile; simp [hfd]
    simp only [he]
    obtain ⟨hfr, t, hwd⟩ := fixups_tweak F cfg s
    have hfd' : (fixups F cfg s).1.wd.fd = false := by rw [hwd]; exact hfd
    unfold finishMetadata
    simp only [hfd', Bool.false_eq_true, ↓reduceIte]
    refine ⟨⟨hfr.logGood (Or.inl hpre.view) h.fin.log, ?_, by rw [hwd]; exact h.fin.wtmp, nofun⟩, hfr.uaf h.uaf⟩
    rcases h.fin.notmp with k | k
    · exact Or.inl (hfr.leak k)
    · right; show (fixups F cfg s).1.w.fs.tmp = none; rw [hfr.fs_eq]; exact k

end LA.SafeWrite
