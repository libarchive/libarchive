/- Helper lemmas for `LA.WinZipAes`. -/
import LA.Model.WinZipAes
import LA.Lemmas.Ctr
import LA.Lemmas.ZipCrypt
import LA.Lemmas.Passphrase
namespace LA.WinZipAes
open LA.Passphrase (P St)
open LA.Gen.Crypt

/-- the derived key material of the writer -/
def dkW (pr : Prims) (enc : Enc) (pw : P) (salt : List UInt8) : List UInt8 :=
  pr.kdf pw salt kdfRoundsW (enc.keyLen * 2 + 2)

/-- the cipher text the writer produces for a payload -/
def cipherOf (pr : Prims) (enc : Enc) (pw : P) (salt : List UInt8) (payload : List UInt8) : List UInt8 :=
  LA.Ctr.xorStream (LA.Ctr.ksByte (pr.aes ((dkW pr enc pw salt).take enc.keyLen)) 0) 0 payload

def macOf (pr : Prims) (enc : Enc) (pw : P) (salt : List UInt8) (ct : List UInt8) : List UInt8 :=
  (pr.hmac (((dkW pr enc pw salt).drop enc.keyLen).take enc.keyLen) ct).take authCodeSize

theorem pwvMatches_self (pr : Prims) (enc : Enc) (pw : P) (salt : List UInt8) (v0 v1 : UInt8)
    (h0 : (dkW pr enc pw salt)[enc.keyLen * 2]? = some v0)
    (h1 : (dkW pr enc pw salt)[enc.keyLen * 2 + 1]? = some v1) :
    pwvMatches pr salt enc.keyLen [v0, v1] pw = true := by
  have hr : kdfRoundsR = kdfRoundsW := rfl
  unfold dkW at h0 h1
  simp [pwvMatches, hr, h0, h1]

variable (pr : Prims) (enc : Enc) (pw : P) (salt : List UInt8)

theorem cipherOf_length (payload : List UInt8) :
    (cipherOf pr enc pw salt payload).length = payload.length :=
  LA.Ctr.xorStream_length ..

theorem macOf_length (hmacLen : ∀ k m, authCodeSize ≤ (pr.hmac k m).length) (ct : List UInt8) :
    (macOf pr enc pw salt ct).length = authCodeSize := by
  rw [macOf, List.length_take]
  exact Nat.min_eq_left (hmacLen ..)

theorem dk_get (hkdf : ∀ p s r n, (pr.kdf p s r n).length = n) (i : Nat) (hi : i < enc.keyLen * 2 + 2) :
    ∃ v, (dkW pr enc pw salt)[i]? = some v :=
  ⟨_, List.getElem?_eq_getElem (by rw [dkW, hkdf]; exact hi)⟩

theorem writeEntry_eq (hkdf : ∀ p s r n, (pr.kdf p s r n).length = n) (hsalt : salt.length = enc.saltLen)
    (payload : List (List UInt8)) :
    ∃ v0 v1, (dkW pr enc pw salt)[enc.keyLen * 2]? = some v0 ∧
      (dkW pr enc pw salt)[enc.keyLen * 2 + 1]? = some v1 ∧
      writeEntry pr enc pw salt payload = some
        { bytes := salt ++ [v0, v1] ++ cipherOf pr enc pw salt payload.flatten ++
            macOf pr enc pw salt (cipherOf pr enc pw salt payload.flatten),
          compressedWritten := (salt ++ [v0, v1]).length +
            (cipherOf pr enc pw salt payload.flatten).length + authCodeSize } := by
  obtain ⟨v0, h0⟩ := dk_get pr enc pw salt hkdf (enc.keyLen * 2) (by omega)
  obtain ⟨v1, h1⟩ := dk_get pr enc pw salt hkdf (enc.keyLen * 2 + 1) (by omega)
  refine ⟨v0, v1, h0, h1, ?_⟩
  obtain ⟨c, os, hr, hf⟩ := LA.Ctr.run_init (pr.aes ((dkW pr enc pw salt).take enc.keyLen)) payload
  unfold dkW at h0 h1 hr hf
  simp only [writeEntry, h0, h1, hr, hf, cipherOf, macOf, dkW, List.take_of_length_le (Nat.le_of_eq hsalt)]

theorem strengthR_enc (enc : Enc) : strengthR enc.strengthByte = some (enc.saltLen, enc.keyLen) := by
  cases enc <;> rfl

/-- The reader on a well-formed entry area `salt ‖ pv ‖ ct ‖ mac` followed by anything,
once the retry loop has settled on a passphrase: every field is taken from its place,
the cipher text is decrypted with the key derived from that passphrase, and the
status is decided by the comparison of the two authentication codes alone. -/
theorem readEntry_layout (strength saltLen keyLen : Nat)
    (hs : strengthR strength = some (saltLen, keyLen))
    (pv ct mac trailing : List UInt8)
    (hsl : salt.length = saltLen) (hpv : pv.length = 2) (hml : mac.length = authCodeSizeR)
    (st st' : St) (t : Nat)
    (hfound : LA.Passphrase.retryLoop retryCapAes (pwvMatches pr salt keyLen pv) st 0 = .found st' pw t) :
    readEntry pr strength (saltLen + 2 + ct.length + authCodeSizeR) (salt ++ pv ++ ct ++ mac ++ trailing) st =
      { status := if (pr.hmac (((pr.kdf pw salt kdfRoundsR (keyLen * 2 + 2)).drop keyLen).take keyLen) ct).take
                      authCodeSizeR == mac then .ok else .warn,
        data := LA.Ctr.xorStream (LA.Ctr.ksByte (pr.aes ((pr.kdf pw salt kdfRoundsR (keyLen * 2 + 2)).take keyLen)) 0) 0 ct,
        st := st',
        consumed := saltLen + 2 + ct.length + authCodeSizeR } := by
  subst hsl
  obtain ⟨c, os, hr, hf⟩ := LA.Ctr.run_init (pr.aes ((pr.kdf pw salt kdfRoundsR (keyLen * 2 + 2)).take keyLen)) [ct]
  rw [List.flatten_cons, List.flatten_nil, List.append_nil] at hf
  have hbody : (salt ++ (pv ++ (ct ++ (mac ++ trailing)))).drop (salt.length + 2) = ct ++ (mac ++ trailing) := by
    rw [← hpv, List.drop_length_add_append, List.drop_left]
  have hlen : ¬ salt.length + (pv.length + (ct.length + (mac.length + trailing.length))) < salt.length + 2 := by
    omega
  have hsize : salt.length + 2 + ct.length + authCodeSizeR = salt.length + 2 + authCodeSizeR + ct.length :=
    Nat.add_right_comm ..
  have hc1 : ¬ salt.length + 2 + authCodeSizeR + ct.length < salt.length + 2 + authCodeSizeR :=
    Nat.not_lt.mpr (Nat.le_add_right ..)
  have hc2 : ¬ ct.length + (mac.length + trailing.length) < ct.length + authCodeSizeR := by omega
  simp only [readEntry, hs, List.append_assoc, List.length_append, hlen, if_false, List.take_left, List.drop_left,
    List.take_left' hpv, hfound, hbody, hsize, hc1, Nat.add_sub_cancel_left, hc2, hr, hf, List.take_left' hml]

/-- The reader on a traditional-PKWARE entry area `hdr(12) ‖ ct` followed by anything, once
the retry loop has settled on a passphrase that primes the keys to `k`. -/
theorem readTraditional_layout (zcrc : UInt32 → UInt8 → UInt32) (decdat c : UInt8) (k : LA.ZipCrypt.Keys)
    (hdr ct trailing : List UInt8) (hh : hdr.length = 12) (st st' : St) (t : Nat)
    (hfound : LA.Passphrase.retryLoop retryCapTrad (fun p => LA.ZipCrypt.accepts zcrc p hdr decdat) st 0
      = .found st' pw t)
    (hinit : LA.ZipCrypt.initR zcrc pw hdr 12 = .ok k c) :
    readTraditional zcrc decdat (12 + ct.length) (hdr ++ ct ++ trailing) st =
      { status := .ok, data := (LA.ZipCrypt.decLoop zcrc k ct).2, st := st', consumed := 12 + ct.length } := by
  have hc : ¬ (12 + ct.length < LA.ZipCrypt.headerSize ∨
      hdr.length + (ct.length + trailing.length) < 12 + ct.length) := by
    have : LA.ZipCrypt.headerSize = 12 := rfl
    omega
  simp only [readTraditional, List.append_assoc, List.length_append, hc, if_false, List.take_left' hh,
    List.drop_left' hh, Nat.add_sub_cancel_left, List.take_left, hfound, hinit]

end LA.WinZipAes
