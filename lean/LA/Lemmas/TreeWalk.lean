/-
C12: the directory walker (`capture`) visits every object of the tree exactly once,
under its own path, parents before children.
-/
import LA.Lemmas.TreeDefs
namespace LA.Tree

theorem Node.entry_path (p : Path) (x : Node) : (x.entry p).path = p := by
  cases x <;> rfl

theorem Node.entry_fresh (p : Path) (x : Node) :
    (x.entry p).hardlink = none ∧ (x.entry p).sizeSet = true := by
  cases x <;> exact ⟨rfl, rfl⟩

theorem Node.entry_dir (p : Path) (m : Meta) (cs : Forest) : ((Node.dir m cs).entry p).ftype = .dir := rfl

mutual
theorem Forest.count_walk (a : Entry) : (p : Path) → (cs : Forest) →
    (cs.level p).count a + (cs.sub p).count a = (cs.objects p).count a
  | p, .nil => by simp [Forest.level, Forest.sub, Forest.objects]
  | p, .cons n x rest => by
    have h1 := Forest.count_walk a p rest
    have h2 := Node.count_walk a (p ++ [n]) x
    simp only [Forest.level, Forest.sub, Forest.objects, List.count_append, List.count_cons] at *
    omega
theorem Node.count_walk (a : Entry) : (p : Path) → (x : Node) →
    (x.entry p :: x.inside p).count a = (x.objects p).count a
  | p, .dir m cs => by
    have h := Forest.count_walk a p cs
    simp only [Node.inside, Node.objects, List.count_cons, List.count_append] at *
    omega
  | p, .leaf i => by simp [Node.inside, Node.objects]
end

theorem Forest.walk_perm (p : Path) (cs : Forest) : (cs.level p ++ cs.sub p).Perm (cs.objects p) := by
  rw [List.perm_iff_count]; intro a
  rw [List.count_append]; exact Forest.count_walk a p cs

theorem Node.walk_perm (p : Path) (x : Node) : (x.entry p :: x.inside p).Perm (x.objects p) := by
  rw [List.perm_iff_count]; intro a
  exact Node.count_walk a p x

/-- The walker's order (all children of a directory, then the sub-directories last-pushed-first)
is a permutation of the depth-first enumeration of the tree's objects. -/
theorem capture_perm_objects (t : Node) : (capture t).Perm (t.objects []) :=
  Node.walk_perm [] t

/- Every object is the entry of a node, under a path below the starting point. -/
mutual
theorem Forest.objects_eq : (p : Path) → (cs : Forest) →
    ∀ e ∈ cs.objects p, ∃ n r y, n ∈ cs.names ∧ e = Node.entry (p ++ n :: r) y
  | p, .nil => by simp [Forest.objects]
  | p, .cons n x rest => by
    intro e he
    simp only [Forest.objects, List.mem_append] at he
    rcases he with he | he
    · obtain ⟨r, y, hr⟩ := Node.objects_eq (p ++ [n]) x e he
      exact ⟨n, r, y, by simp [Forest.names], by simp [hr]⟩
    · obtain ⟨n', r, y, hn, hr⟩ := Forest.objects_eq p rest e he
      exact ⟨n', r, y, by simp [Forest.names, hn], hr⟩
theorem Node.objects_eq : (p : Path) → (x : Node) →
    ∀ e ∈ x.objects p, ∃ r y, e = Node.entry (p ++ r) y
  | p, .dir m cs => by
    intro e he
    simp only [Node.objects, List.mem_cons] at he
    rcases he with he | he
    · exact ⟨[], _, by rw [he, List.append_nil]⟩
    · obtain ⟨n, r, y, _, hr⟩ := Forest.objects_eq p cs e he
      exact ⟨n :: r, y, hr⟩
  | p, .leaf i => by
    intro e he
    simp only [Node.objects, List.mem_singleton] at he
    exact ⟨[], _, by rw [he, List.append_nil]⟩
end

mutual
theorem Forest.objects_nodup : (p : Path) → (cs : Forest) → cs.namesOk = true →
    ((cs.objects p).map (·.path)).Nodup
  | p, .nil, _ => by simp [Forest.objects]
  | p, .cons n x rest, h => by
    simp only [Forest.namesOk, Bool.and_eq_true, Bool.not_eq_true', List.contains_eq_mem,
      decide_eq_false_iff_not] at h
    obtain ⟨⟨⟨_, hn⟩, hx⟩, hr⟩ := h
    simp only [Forest.objects, List.map_append]
    rw [List.nodup_append]
    refine ⟨Node.objects_nodup (p ++ [n]) x hx, Forest.objects_nodup p rest hr, ?_⟩
    intro a ha b hb hab
    simp only [List.mem_map] at ha hb
    obtain ⟨ea, hea, rfl⟩ := ha
    obtain ⟨eb, heb, rfl⟩ := hb
    obtain ⟨r, y, rfl⟩ := Node.objects_eq (p ++ [n]) x ea hea
    obtain ⟨n', r', y', hn', rfl⟩ := Forest.objects_eq p rest eb heb
    simp only [Node.entry_path, List.append_assoc, List.append_cancel_left_eq, List.cons_append,
      List.nil_append, List.cons.injEq] at hab
    exact hn (hab.1 ▸ hn')
theorem Node.objects_nodup : (p : Path) → (x : Node) → x.namesOk = true →
    ((x.objects p).map (·.path)).Nodup
  | p, .dir m cs, h => by
    simp only [Node.namesOk] at h
    simp only [Node.objects, List.map_cons, List.nodup_cons, Node.entry_path]
    refine ⟨?_, Forest.objects_nodup p cs h⟩
    intro hp
    obtain ⟨e, he, hpe⟩ := List.mem_map.mp hp
    obtain ⟨n, r, y, _, rfl⟩ := Forest.objects_eq p cs e he
    simpa [Node.entry_path] using congrArg List.length hpe
  | p, .leaf i, _ => by simp [Node.objects]
end

/-- Distinct valid sibling names ⇒ every object has its own path. -/
theorem objects_paths_nodup (t : Node) (h : t.namesOk = true) : ((t.objects []).map (·.path)).Nodup :=
  Node.objects_nodup [] t h

theorem capture_paths_nodup (t : Node) (h : t.namesOk = true) : ((capture t).map (·.path)).Nodup :=
  ((capture_perm_objects t).map (·.path)).nodup_iff.mpr (objects_paths_nodup t h)

theorem Node.inside_path_ne (p : Path) (x : Node) : ∀ e ∈ x.inside p, e.path ≠ p := by
  cases x with
  | leaf i => simp [Node.inside]
  | dir m cs =>
    intro e he hp
    simp only [Node.inside] at he
    have he' := (Forest.walk_perm p cs).mem_iff.mp he
    obtain ⟨n, r, y, _, rfl⟩ := Forest.objects_eq p cs e he'
    simpa [Node.entry_path] using congrArg List.length hp

theorem capture_head (t : Node) : ∃ r, capture t = t.entry [] :: r ∧ (∀ e ∈ r, e.path ≠ []) :=
  ⟨t.inside [], rfl, Node.inside_path_ne [] t⟩

theorem Forest.objects_fresh : (p : Path) → (cs : Forest) →
    ∀ e ∈ cs.objects p, e.hardlink = none ∧ e.sizeSet = true :=
  fun p cs e he => let ⟨_, _, y, _, h⟩ := Forest.objects_eq p cs e he; h ▸ Node.entry_fresh _ y

theorem capture_fresh (t : Node) : ∀ e ∈ capture t, e.hardlink = none ∧ e.sizeSet = true :=
  fun e he => let ⟨_, y, h⟩ := Node.objects_eq [] t e ((capture_perm_objects t).mem_iff.mp he); h ▸ Node.entry_fresh _ y

/-- The directories available after the entries `l` went by, starting from `ds`. -/
def avail : List Path → List Entry → List Path
  | ds, [] => ds
  | ds, e :: r => avail (if e.ftype = .dir then e.path :: ds else ds) r

theorem mem_avail {d : Path} : (l : List Entry) → (ds : List Path) → d ∈ ds → d ∈ avail ds l
  | [], _, h => h
  | e :: r, ds, h => by
    simp only [avail]
    apply mem_avail r
    split
    · exact List.mem_cons_of_mem _ h
    · exact h

theorem parentsOk_append : (a b : List Entry) → (ds : List Path) →
    (ParentsOk ds (a ++ b) ↔ ParentsOk ds a ∧ ParentsOk (avail ds a) b)
  | [], b, ds => by simp [ParentsOk, avail]
  | e :: r, b, ds => by
    simp only [List.cons_append, ParentsOk, avail, parentsOk_append r b, and_assoc]

mutual
theorem Forest.walk_parents : (p : Path) → (cs : Forest) → (ds : List Path) → p ∈ ds →
    ParentsOk ds (cs.level p ++ cs.sub p)
  | p, .nil, ds, _ => by simp [Forest.level, Forest.sub, ParentsOk]
  | p, .cons n x rest, ds, h => by
    simp only [Forest.level, Forest.sub, List.cons_append, ParentsOk, Node.entry_path]
    refine ⟨by simp, by simp [h], ?_⟩
    rw [← List.append_assoc, parentsOk_append]
    constructor
    · apply Forest.walk_parents p rest
      split
      · exact List.mem_cons_of_mem _ h
      · exact h
    · cases x with
      | leaf i => simp [Node.inside, ParentsOk]
      | dir m cs =>
        apply Node.walk_parents (p ++ [n]) (.dir m cs)
        apply mem_avail
        simp [Node.entry_dir]
theorem Node.walk_parents : (p : Path) → (x : Node) → (ds : List Path) → p ∈ ds →
    ParentsOk ds (x.inside p)
  | p, .dir m cs, ds, h => by
    simp only [Node.inside]
    exact Forest.walk_parents p cs ds h
  | p, .leaf i, ds, _ => by simp [Node.inside, ParentsOk]
end

/-- A directory is always emitted before everything below it: each entry's parent directory is
the root or the path of an earlier directory entry. -/
theorem capture_parents (m : Meta) (cs : Forest) : ParentsOk [[]] ((Node.dir m cs).inside []) :=
  Node.walk_parents [] (.dir m cs) [[]] (by simp)

end LA.Tree
