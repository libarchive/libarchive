/- Helper lemmas for `LA.Ctr` (AES-CTR layer of archive_cryptor.c). -/
import LA.Model.Ctr
namespace LA.Ctr

theorem bs16 : BS = 16 := rfl

theorem toUInt8_succ (x : Nat) : (x + 1).toUInt8 = x.toUInt8 + 1 := UInt8.ofNat_add x 1

theorem toUInt8_ne_zero (x : Nat) : (x.toUInt8 != 0) = true ↔ x % 256 ≠ 0 :=
  bne_iff_ne.trans (not_congr (UInt8.ofNat_eq_iff_mod_eq_toNat x 0))

theorem leBytes_succ (m k : Nat) : leBytes (m + 1) k = k.toUInt8 :: leBytes m (k / 256) :=
  congrArg (· :: _) UInt8.ofNat_mod_size

/-- The byte-wise carry loop is `+1` on the little-endian number (mod 256^m): the carry
goes on exactly when the new low byte is 0, which is when the quotient by 256 grows. -/
theorem incBytes_leBytes (m k : Nat) : incBytes (leBytes m k) = leBytes m (k + 1) := by
  induction m generalizing k with
  | zero => rfl
  | succ m ih =>
    rw [leBytes_succ, leBytes_succ, incBytes, ← toUInt8_succ]
    by_cases h : (k + 1) % 256 = 0
    · rw [if_neg (fun c => (toUInt8_ne_zero _).mp c h), ih, Nat.succ_div_of_mod_eq_zero h]
    · rw [if_pos ((toUInt8_ne_zero _).mpr h), Nat.succ_div_of_mod_ne_zero h]

/-- `aes_ctr_increase_counter` maps counter block `k` to counter block `k+1`. -/
theorem incCounter_counterBlock (k : Nat) : incCounter (counterBlock k) = counterBlock (k + 1) := by
  apply Vector.toArray_inj.mp
  simp [incCounter, counterBlock, leBytes_length, incBytes_leBytes]

theorem leBytes_wrap (m k : Nat) : leBytes m (k + 256 ^ m) = leBytes m k := by
  induction m generalizing k with
  | zero => rfl
  | succ m ih =>
    rw [leBytes, Nat.pow_succ, Nat.add_mul_mod_self_right, Nat.add_mul_div_right _ _ (by decide), ih]
    rfl

/-- The counter is a 64-bit quantity: it wraps at 2^64. -/
theorem counterBlock_wrap (k : Nat) : counterBlock (k + 2 ^ 64) = counterBlock k := by
  apply Vector.toArray_inj.mp
  have h := leBytes_wrap 8 k
  have e : (256 : Nat) ^ 8 = 2 ^ 64 := by decide
  rw [e] at h
  simp only [counterBlock, h]

theorem init_eq_initAt : init = initAt 0 := rfl

theorem xorStream_length (ks : Nat → UInt8) (n : Nat) (l : List UInt8) :
    (xorStream ks n l).length = l.length := by
  induction l generalizing n with
  | nil => rfl
  | cons b r ih => simp [xorStream, ih]

theorem xorStream_append (ks : Nat → UInt8) (n : Nat) (a b : List UInt8) :
    xorStream ks n (a ++ b) = xorStream ks n a ++ xorStream ks (n + a.length) b := by
  induction a generalizing n with
  | nil => rfl
  | cons x r ih => rw [List.cons_append, xorStream, ih, List.length_cons, Nat.add_right_comm]; rfl

theorem xorStream_involutive (ks : Nat → UInt8) (n : Nat) (l : List UInt8) :
    xorStream ks n (xorStream ks n l) = l := by
  induction l generalizing n with
  | nil => rfl
  | cons b r ih => rw [xorStream, xorStream, ih, UInt8.xor_assoc, UInt8.xor_self, UInt8.xor_zero]

variable {E : Block → Block} {k0 : Nat}

theorem ksByte_block (q : Nat) {i : Nat} (hi : i < BS) :
    ksByte E k0 (BS * q + i) = (E (counterBlock (k0 + q + 1)))[i] := by
  simp only [ksByte, Nat.mul_add_div (by decide : 0 < BS), Nat.mul_add_mod, Nat.div_eq_of_lt hi,
    Nat.mod_eq_of_lt hi, Nat.add_zero]

/-- XOR with the rest of the buffer that holds `E(k0+q+1)` is XOR with the key stream. -/
theorem zipWith_drop_eq (q : Nat) (l : List UInt8) (j : Nat) (h : j + l.length ≤ BS) :
    List.zipWith (· ^^^ ·) l ((E (counterBlock (k0 + q + 1))).toList.drop j)
      = xorStream (ksByte E k0) (BS * q + j) l := by
  induction l generalizing j with
  | nil => simp [xorStream]
  | cons b r ih =>
    obtain ⟨hj, h'⟩ : j < BS ∧ j + 1 + r.length ≤ BS := by rw [List.length_cons] at h; omega
    rw [List.drop_eq_getElem_cons (by simpa using hj), List.zipWith_cons_cons, ih (j + 1) h', xorStream,
      ksByte_block q hj]
    rfl

theorem xorBlock_eq (q : Nat) (l : List UInt8) (h : l.length ≤ BS) :
    xorBlock (E (counterBlock (k0 + q + 1))) l = xorStream (ksByte E k0) (BS * q) l := by
  simpa [xorBlock] using zipWith_drop_eq (E := E) (k0 := k0) q l 0 (by omega)

theorem Res.prepend_nil (r : Res) : r.prepend [] = r := by cases r <;> rfl

theorem Res.cons_prepend (b : UInt8) (l : List UInt8) (r : Res) :
    (r.prepend l).cons b = r.prepend (b :: l) := by cases r <;> rfl

theorem Res.prepend_append (a b : List UInt8) (r : Res) :
    r.prepend (a ++ b) = (r.prepend b).prepend a := by
  cases r <;> simp [Res.prepend]

theorem loop_nil (nonce ebuf : Block) (pos : Nat) :
    loop E nonce ebuf pos [] = .ok { nonce, ebuf, pos } [] := by
  rw [loop]

/-- The byte path: as long as the buffer lasts, the input is XORed with it. -/
theorem loop_bytes (nonce ebuf : Block) (a b : List UInt8) (pos : Nat) (h : pos + a.length ≤ BS) :
    loop E nonce ebuf pos (a ++ b) =
      (loop E nonce ebuf (pos + a.length) b).prepend (List.zipWith (· ^^^ ·) a (ebuf.toList.drop pos)) := by
  induction a generalizing pos with
  | nil => simp [Res.prepend_nil]
  | cons x a ih =>
    obtain ⟨hp, h'⟩ : pos < BS ∧ pos + 1 + a.length ≤ BS := by rw [List.length_cons] at h; omega
    rw [List.drop_eq_getElem_cons (i := pos) (by simpa using hp), List.cons_append, loop,
      if_neg (Nat.ne_of_lt hp), dif_pos hp, ih (pos + 1) h', Res.cons_prepend, Nat.add_right_comm]
    rfl

theorem loop_within (nonce ebuf : Block) (a : List UInt8) (pos : Nat) (h : pos + a.length ≤ BS) :
    loop E nonce ebuf pos a =
      .ok { nonce, ebuf, pos := pos + a.length } (List.zipWith (· ^^^ ·) a (ebuf.toList.drop pos)) := by
  have := loop_bytes (E := E) nonce ebuf a [] pos h
  rwa [List.append_nil, loop_nil, Res.prepend, List.append_nil] at this

/-- With the buffer used up, the fast path runs first and the byte path takes what it
leaves (`encr_pos = 0`: the block the fast path encrypted last is still unused). -/
theorem loop_fresh {nonce ebuf n2 e2 : Block} {b : UInt8} {tl r2 o2 : List UInt8}
    (h : blocks E (incCounter nonce) (E (incCounter nonce)) (b :: tl) = (n2, e2, r2, o2)) :
    loop E nonce ebuf BS (b :: tl) = (loop E n2 e2 0 r2).prepend o2 := by
  rw [loop, if_pos rfl]
  dsimp only
  split
  · next h' => rw [h] at h'; cases h'; simp [loop, Res.prepend]
  · next h' => rw [h] at h'; cases h'; simp [loop]

variable (E k0)

/-- The states `aes_ctr_update` leaves behind, `n` bytes into the stream that started at
counter `k0`: at a block border the buffer is used up and the counter names the block
just finished; inside block `q` the counter is one ahead and the buffer holds its
encryption, `i` bytes of it used. -/
inductive Inv : Nat → Ctx → Prop
  | border (q : Nat) (ebuf : Block) : Inv (BS * q) ⟨counterBlock (k0 + q), ebuf, BS⟩
  | inside (q i : Nat) (h : i < BS) :
      Inv (BS * q + i) ⟨counterBlock (k0 + q + 1), E (counterBlock (k0 + q + 1)), i⟩

theorem inv_initAt : Inv E k0 0 (initAt k0) :=
  .border 0 zeroBlock

variable {E k0}

theorem Inv.of_eq {n n' : Nat} {c : Ctx} (h : Inv E k0 n c) (e : n = n') : Inv E k0 n' c := e ▸ h

/-- The fast path from block `q+1` on, then the byte path on the rest. -/
theorem blocks_loop {nonce ebuf n2 e2 : Block} {rest r2 o2 : List UInt8} (q : Nat)
    (hb : blocks E nonce ebuf rest = (n2, e2, r2, o2))
    (hn : nonce = counterBlock (k0 + q + 1)) (he : ebuf = E nonce) :
    ∃ c', (loop E n2 e2 0 r2).prepend o2 = .ok c' (xorStream (ksByte E k0) (BS * q) rest) ∧
      Inv E k0 (BS * q + rest.length) c' := by
  fun_induction blocks E nonce ebuf rest generalizing q n2 e2 r2 o2 with
  | case1 nonce ebuf rest h =>
    rename_i heq ih
    cases hb
    subst hn he
    obtain ⟨c', hc, hi⟩ := ih (q + 1) heq (incCounter_counterBlock _) rfl
    have hl : (rest.take BS).length = BS := List.length_take_of_le h
    refine ⟨c', ?_, hi.of_eq (by rw [Nat.mul_succ, List.length_drop, Nat.add_assoc, Nat.add_sub_cancel' h])⟩
    have hx := xorStream_append (ksByte E k0) (BS * q) (rest.take BS) (rest.drop BS)
    rw [List.take_append_drop, hl] at hx
    rw [Res.prepend_append, hc, hx, ← xorBlock_eq q (rest.take BS) (Nat.le_of_eq hl)]
    rfl
  | case2 nonce ebuf rest h =>
    cases hb
    subst hn he
    rw [Res.prepend_nil, loop_within _ _ rest 0 (by omega), zipWith_drop_eq q _ 0 (by omega), Nat.zero_add]
    exact ⟨_, rfl, .inside q rest.length (by omega)⟩

theorem loop_border (q : Nat) (ebuf : Block) (rest : List UInt8) :
    ∃ c', loop E (counterBlock (k0 + q)) ebuf BS rest = .ok c' (xorStream (ksByte E k0) (BS * q) rest) ∧
      Inv E k0 (BS * q + rest.length) c' := by
  cases rest with
  | nil => exact ⟨_, loop_nil .., .border q ebuf⟩
  | cons b tl =>
    rw [loop_fresh rfl]
    exact blocks_loop q rfl (incCounter_counterBlock _) rfl

theorem loop_spec {n : Nat} {nonce ebuf : Block} {pos : Nat} (rest : List UInt8)
    (h : Inv E k0 n { nonce, ebuf, pos }) :
    ∃ c', loop E nonce ebuf pos rest = .ok c' (xorStream (ksByte E k0) n rest) ∧
      Inv E k0 (n + rest.length) c' := by
  cases h with
  | border q => exact loop_border q ebuf rest
  | inside q _ hi =>
    by_cases hfit : pos + rest.length < BS
    · rw [loop_within _ _ rest pos (Nat.le_of_lt hfit), zipWith_drop_eq q _ pos (Nat.le_of_lt hfit)]
      exact ⟨_, rfl, (Inv.inside q _ hfit).of_eq (Nat.add_assoc ..).symm⟩
    · -- the buffer runs out: what is left of it, then on from the block border
      obtain ⟨a, b, rfl, ha⟩ : ∃ a b, rest = a ++ b ∧ pos + a.length = BS :=
        ⟨_, _, (List.take_append_drop (BS - pos) rest).symm, by rw [List.length_take]; omega⟩
      obtain ⟨c', hc, hI⟩ := loop_border (E := E) (k0 := k0) (q + 1) (E (counterBlock (k0 + q + 1))) b
      refine ⟨c', ?_, hI.of_eq ?_⟩
      · rw [loop_bytes _ _ a b pos (Nat.le_of_eq ha), zipWith_drop_eq q _ pos (Nat.le_of_eq ha),
          xorStream_append, ha, Nat.add_assoc (BS * q), ha]
        exact congrArg (Res.prepend _) hc
      · rw [List.length_append, ← Nat.add_assoc, Nat.add_assoc _ pos, ha]
        rfl

variable (E k0)

theorem update_spec (n : Nat) (c : Ctx) (inp : List UInt8) (cap : Nat) (h : Inv E k0 n c) :
    ∃ c', update E c inp cap = .ok c' (xorStream (ksByte E k0) n (inp.take (min inp.length cap))) ∧
      Inv E k0 (n + min inp.length cap) c' := by
  obtain ⟨c', h1, h2⟩ := loop_spec (inp.take (min inp.length cap)) h
  exact ⟨c', h1, h2.of_eq (by rw [List.length_take, Nat.min_eq_left (Nat.min_le_left ..)])⟩

theorem run_spec (chunks : List (List UInt8)) (n : Nat) (c : Ctx) (h : Inv E k0 n c) :
    ∃ c' os, run E c chunks = some (c', os) ∧
      os.flatten = xorStream (ksByte E k0) n chunks.flatten ∧
      os.map List.length = chunks.map List.length ∧
      Inv E k0 (n + chunks.flatten.length) c' := by
  induction chunks generalizing n c with
  | nil => exact ⟨c, [], rfl, rfl, rfl, h⟩
  | cons ch r ih =>
    obtain ⟨c1, h1, hi1⟩ := update_spec E k0 n c ch ch.length h
    rw [Nat.min_self] at h1 hi1
    rw [List.take_length] at h1
    obtain ⟨c2, os, h2, hf, hl, hi2⟩ := ih _ _ hi1
    refine ⟨c2, xorStream (ksByte E k0) n ch :: os, by simp only [run, h1, h2], ?_, ?_, ?_⟩
    · rw [List.flatten_cons, hf, List.flatten_cons, xorStream_append]
    · rw [List.map_cons, hl, xorStream_length, List.map_cons]
    · rw [List.flatten_cons, List.length_append, ← Nat.add_assoc]; exact hi2

/-- From `aes_ctr_init` itself (counter 0: the first block used is `E(1)`). -/
theorem run_init (chunks : List (List UInt8)) :
    ∃ c os, run E init chunks = some (c, os) ∧ os.flatten = xorStream (ksByte E 0) 0 chunks.flatten := by
  rw [init_eq_initAt]
  obtain ⟨c, os, h1, h2, _⟩ := run_spec E 0 chunks 0 (initAt 0) (inv_initAt E 0)
  exact ⟨c, os, h1, h2⟩

end LA.Ctr
