/-
`LA.Match` (model of archive_match.c): the marking loop of `path_excluded` as a map and its
counter, the time comparisons as a lexicographic order, the per-pathname records of `add_entry`,
and the owner tests (sorted insert, binary search) as membership.
-/
import LA.Model.Match
import LA.Lemmas.PmSpec
namespace LA.Match
open LA.Pm

def unmatchedOf (l : List Pat) : Nat := (l.filter (fun m => !m.matched)).length

/-- The first loop of `path_excluded` as a map: a pattern is marked afterwards iff it was marked
or matches; `markInclusions_newly` counts the marks that are new. -/
theorem markInclusions_marks (st : State) (pn : Option (List Nat)) (l : List Pat) :
    (markInclusions st pn l).1 =
      l.map fun m => { m with matched := m.matched || matchPathInclusion st m pn } := by
  induction l with
  | nil => rfl
  | cons m ms ih =>
    obtain ⟨pat, matched⟩ := m
    simp only [markInclusions, List.map_cons, ← ih]
    cases matched <;> cases matchPathInclusion st ⟨pat, _⟩ pn <;> simp

theorem markInclusions_newly (st : State) (pn : Option (List Nat)) (l : List Pat) :
    (markInclusions st pn l).2 = l.countP fun m => !m.matched && matchPathInclusion st m pn := by
  induction l with
  | nil => rfl
  | cons m ms ih => simp only [markInclusions, List.countP_cons, ← ih]; split <;> rfl

theorem markInclusions_count (st : State) (pn : Option (List Nat)) (l : List Pat) :
    (markInclusions st pn l).2 + unmatchedOf (markInclusions st pn l).1 = unmatchedOf l := by
  rw [markInclusions_marks, markInclusions_newly]
  induction l with
  | nil => rfl
  | cons m ms ih =>
    simp only [unmatchedOf, List.countP_cons, List.map_cons, List.filter_cons] at ih ⊢
    cases m.matched <;> cases matchPathInclusion st m pn <;> simp <;> omega

theorem markInclusions_pats (st : State) (pn : Option (List Nat)) (l : List Pat) :
    (markInclusions st pn l).1.map (·.pat) = l.map (·.pat) := by
  rw [markInclusions_marks, List.map_map]; rfl

def CountInv (st : State) : Prop := st.unmatchedCount = (unmatchedOf st.inclusions : Int)

theorem CountInv.congr {st st' : State} (h : CountInv st) (hi : st'.inclusions = st.inclusions)
    (hc : st'.unmatchedCount = st.unmatchedCount) : CountInv st' := by
  unfold CountInv at *; rw [hi, hc]; exact h

theorem pathExcluded_inv (st : State) (pn : Option (List Nat)) (h : CountInv st) :
    CountInv (pathExcluded st pn).1 := by
  have := markInclusions_count st pn st.inclusions
  unfold CountInv at *
  simp only [pathExcluded]
  omega

theorem includePattern_inv (st st' : State) (p : Option (List Nat)) (h : CountInv st)
    (hs : includePattern st p = some st') : CountInv st' := by
  unfold includePattern at hs
  split at hs
  · cases hs
  · cases hs
  · cases hs
    unfold CountInv at *
    simp [unmatchedOf, List.filter_append] at h ⊢
    omega

/-- A call that may fail leaves the object as it was. -/
theorem getD_elim {α : Type} {P : α → Prop} {o : Option α} {a : α} (ha : P a) (h : ∀ b, o = some b → P b) :
    P (o.getD a) := by
  cases o with
  | none => exact ha
  | some b => exact h b rfl

theorem foldl_invariant {α β : Type} {P : α → Prop} {f : α → β → α} (hf : ∀ a b, P a → P (f a b))
    (l : List β) {a : α} (ha : P a) : P (l.foldl f a) := by
  induction l generalizing a with
  | nil => exact ha
  | cons b l ih => exact ih (hf a b ha)

def tlt (a b : Int × Int) : Prop := a.1 < b.1 ∨ (a.1 = b.1 ∧ a.2 < b.2)

theorem newerRejects_iff (f : TimeFilter) (sec nsec : Int) :
    newerRejects f sec nsec = true ↔
      f.filter ≠ 0 ∧ (tlt (sec, nsec) (f.sec, f.nsec) ∨
        ((sec, nsec) = (f.sec, f.nsec) ∧ has f.filter LA.Gen.MatchFlags.matchEqual = false)) := by
  simp only [newerRejects, tlt, Bool.and_eq_true, Bool.or_eq_true, decide_eq_true_eq, bne_iff_ne, ne_eq,
    beq_iff_eq, Bool.not_eq_true', Prod.mk.injEq, and_or_left, or_assoc, and_assoc]

theorem olderRejects_iff (f : TimeFilter) (sec nsec : Int) :
    olderRejects f sec nsec = true ↔
      f.filter ≠ 0 ∧ (tlt (f.sec, f.nsec) (sec, nsec) ∨
        ((sec, nsec) = (f.sec, f.nsec) ∧ has f.filter LA.Gen.MatchFlags.matchEqual = false)) := by
  simp only [olderRejects, tlt, Bool.and_eq_true, Bool.or_eq_true, decide_eq_true_eq, bne_iff_ne, ne_eq,
    beq_iff_eq, Bool.not_eq_true', Prod.mk.injEq, gt_iff_lt, and_or_left, or_assoc, and_assoc,
    eq_comm (a := f.sec)]

/-- `add_entry`: after a successful registration for pathname `pn` the records are the old ones of
other pathnames and the record just registered. -/
theorem mem_excludeEntry {st st' : State} {flag : Nat} {e : Entry} {pn : List Nat} (hp : e.path = some pn)
    (h : excludeEntry st flag e = some st') (g : ExclFile) :
    g ∈ st'.exclFiles ↔ (g ∈ st.exclFiles ∧ g.path ≠ pn) ∨
      g = ⟨pn, flag, e.mtimeSec, e.mtimeNsec, e.ctimeSec, e.ctimeNsec⟩ := by
  unfold excludeEntry at h
  split at h
  · cases h
  · simp only [hp] at h
    split at h <;> cases h
    · -- a record for `pn` exists: every such record is overwritten
      rename_i hany
      obtain ⟨g0, hg0, hg0p⟩ := List.any_eq_true.mp hany
      simp only [List.mem_map]
      constructor
      · rintro ⟨g1, hg1, rfl⟩
        by_cases h1 : g1.path = pn <;> simp [h1, hg1]
      · rintro (⟨hg, hne⟩ | rfl)
        · exact ⟨g, hg, by simp [hne]⟩
        · exact ⟨g0, hg0, by simp [beq_iff_eq.mp hg0p]⟩
    · -- none exists: the new record is appended
      rename_i hany
      simp only [List.mem_append, List.mem_singleton]
      constructor
      · rintro (hg | rfl)
        · exact .inl ⟨hg, fun hgp => hany (List.any_eq_true.mpr ⟨g, hg, beq_iff_eq.mpr hgp⟩)⟩
        · exact .inr rfl
      · rintro (⟨hg, _⟩ | rfl)
        · exact .inl hg
        · exact .inr rfl

def Sorted (l : List Int) : Prop := l.Pairwise (· < ·)

theorem mem_insertId (l : List Int) (id x : Int) : x ∈ insertId l id ↔ x = id ∨ x ∈ l := by
  induction l with
  | nil => simp [insertId]
  | cons a as ih =>
    simp only [insertId]
    split
    · split
      · rename_i h; subst h; simp
      · simp
    · simp [ih]; constructor
      · rintro (h | h | h) <;> simp [h]
      · rintro (h | h | h) <;> simp [h]

theorem insertId_sorted (l : List Int) (id : Int) (h : Sorted l) : Sorted (insertId l id) := by
  induction l with
  | nil => simp [insertId, Sorted]
  | cons a as ih =>
    unfold Sorted at *
    rw [List.pairwise_cons] at h
    simp only [insertId]
    split
    · rename_i hge
      split
      · exact List.pairwise_cons.mpr h
      · rename_i hne
        refine List.pairwise_cons.mpr ⟨?_, List.pairwise_cons.mpr h⟩
        intro x hx
        rcases List.mem_cons.mp hx with rfl | hx
        · omega
        · have := h.1 x hx; omega
    · rename_i hlt
      refine List.pairwise_cons.mpr ⟨?_, ih h.2⟩
      intro x hx
      rcases (mem_insertId as id x).mp hx with rfl | hx
      · omega
      · exact h.1 x hx

theorem sorted_ids_congr {st st' : State} (h : Sorted st.uids ∧ Sorted st.gids) (hu : st'.uids = st.uids)
    (hg : st'.gids = st.gids) : Sorted st'.uids ∧ Sorted st'.gids := by
  rw [hu, hg]; exact h

theorem Sorted.lt_of_lt {l : List Int} (h : Sorted l) {i j : Nat} (hi : i < l.length) (hj : j < l.length)
    (hlt : l[i] < l[j]) : i < j := by
  rcases Nat.lt_trichotomy i j with h' | rfl | h'
  · exact h'
  · omega
  · have := List.pairwise_iff_getElem.mp h j i hj hi h'; omega

theorem bsearch_iff (l : List Int) (h : Sorted l) (id : Int) (t b : Nat) (hb : b ≤ l.length) :
    bsearch l.toArray id t b = true ↔ ∃ i, t ≤ i ∧ ∃ hi : i < b, l[i]'(by omega) = id := by
  fun_induction bsearch l.toArray id t b with
  | case1 t b htb m hm =>
    have hm2 : m = (t + b) / 2 := rfl
    rw [List.getElem?_toArray, List.getElem?_eq_getElem (by omega)] at hm
    exact iff_of_true rfl ⟨m, by omega, by omega, Option.some.inj hm⟩
  | case2 t b htb m _ hlt ih =>
    -- the probe is below `id`: so is everything up to it
    have hm2 : m = (t + b) / 2 := rfl
    have hml : m < l.length := by omega
    rw [List.getElem?_toArray, List.getElem?_eq_getElem hml, Option.getD_some] at hlt
    rw [ih hb]
    exact ⟨fun ⟨i, h1, h2, h3⟩ => ⟨i, by omega, h2, h3⟩,
      fun ⟨i, h1, h2, h3⟩ => ⟨i, h.lt_of_lt hml (by omega) (h3 ▸ hlt), h2, h3⟩⟩
  | case3 t b htb m hm hge ih =>
    -- the probe is above `id`: so is everything from it on
    have hm2 : m = (t + b) / 2 := rfl
    have hml : m < l.length := by omega
    rw [List.getElem?_toArray, List.getElem?_eq_getElem hml] at hm hge
    have hgt : id < l[m] := by
      have : l[m] ≠ id := fun h => hm (by rw [h])
      simp only [Option.getD_some] at hge; omega
    rw [ih (by omega)]
    exact ⟨fun ⟨i, h1, h2, h3⟩ => ⟨i, h1, by omega, h3⟩,
      fun ⟨i, h1, h2, h3⟩ => ⟨i, h1, h.lt_of_lt (by omega) hml (h3 ▸ hgt), h3⟩⟩
  | case4 t b htb => exact iff_of_false (by simp) fun ⟨i, h1, h2, _⟩ => by omega

theorem matchOwnerId_iff (l : List Int) (h : Sorted l) (id : Int) : matchOwnerId l id = true ↔ id ∈ l := by
  unfold matchOwnerId
  rw [bsearch_iff l h id 0 l.length (Nat.le_refl _)]
  constructor
  · rintro ⟨i, _, hi, rfl⟩; exact List.getElem_mem _
  · intro hm
    obtain ⟨i, hi, rfl⟩ := List.getElem_of_mem hm
    exact ⟨i, Nat.zero_le _, hi, rfl⟩

theorem matchOwnerName_iff (names : List Pat) (name : Option (List Nat)) :
    matchOwnerName names name = true ↔ ∃ n, name = some n ∧ n ≠ [] ∧ n ∈ names.map (·.pat) := by
  unfold matchOwnerName
  split
  · simp
  · simp
  · rename_i n hne
    simp only [List.any_eq_true, beq_iff_eq, Option.some.injEq, List.mem_map]
    constructor
    · rintro ⟨m, hm, rfl⟩; exact ⟨_, rfl, fun h => hne (by rw [h]), m, hm, rfl⟩
    · rintro ⟨n', rfl, _, m, hm, rfl⟩; exact ⟨m, hm, rfl⟩

/-- `owner_excluded()` on sorted id arrays: some non-empty criterion does not contain the entry's value. -/
theorem ownerExcluded_iff (st : State) (hu : Sorted st.uids) (hg : Sorted st.gids) (e : Entry) :
    ownerExcluded st e = true ↔
      (st.uids ≠ [] ∧ e.uid ∉ st.uids) ∨ (st.gids ≠ [] ∧ e.gid ∉ st.gids) ∨
      (st.unames ≠ [] ∧ ¬ ∃ n, e.uname = some n ∧ n ≠ [] ∧ n ∈ st.unames.map (·.pat)) ∨
      (st.gnames ≠ [] ∧ ¬ ∃ n, e.gname = some n ∧ n ≠ [] ∧ n ∈ st.gnames.map (·.pat)) := by
  have id_false : ∀ (l : List Int) (h : Sorted l) (x : Int), matchOwnerId l x = false ↔ x ∉ l :=
    fun l h x => by rw [← Bool.not_eq_true, matchOwnerId_iff l h]
  have name_false : ∀ (l : List Pat) (x : Option (List Nat)),
      matchOwnerName l x = false ↔ ¬ ∃ n, x = some n ∧ n ≠ [] ∧ n ∈ l.map (·.pat) :=
    fun l x => by rw [← Bool.not_eq_true, matchOwnerName_iff]
  simp only [ownerExcluded, Bool.if_true_left, Bool.if_false_right, Bool.and_true, Bool.or_eq_true,
    decide_eq_true_eq, Bool.and_eq_true, Bool.not_eq_true', List.isEmpty_eq_false_iff, id_false _ hu,
    id_false _ hg, name_false]

theorem first_nonzero (r : Int) (a b : Prop) [Decidable a] [Decidable b] :
    (if r ≠ 0 then r else if a then 1 else if b then 1 else 0) ≠ 0 ↔ r ≠ 0 ∨ a ∨ b := by
  by_cases hr : r = 0 <;> by_cases ha : a <;> by_cases hb : b <;> simp [hr, ha, hb]

end LA.Match
