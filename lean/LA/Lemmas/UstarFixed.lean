/- The read-back of a ustar header is a fixed point of write-then-read (C02). Core Lean only. -/
import LA.Lemmas.UstarSpec
namespace LA.Codec
open LA.NumFmt LA.Gen.TarLayout LA.Gen.CodecConsts

/-- `archive_entry_filetype` bits go back to the file type they stand for. -/
theorem toEntry_ftype (r : RB) (ft : FType) (h : r.ftype = ft.bits) : r.toEntry.ftype = ft := by
  unfold RB.toEntry
  simp only [h]
  cases ft <;> rfl

/-- **Fixed point at the header level**: the entry a client copies from the record read back
(`RB.toEntry`) is again an entry the writer accepts, under the same pathname and with the same size,
and its own record is the very same record. -/
theorem readback_fixed_point (e : Entry) (p0 : List Nat) (hp : e.path = some p0) (hOK : UstarEntryOK e)
    (hnf : ustarFailed e (dirSlash e.ftype p0) (ustarSize e) none true = false) :
    (ustarRB e (dirSlash e.ftype p0)).toEntry.path = some (dirSlash e.ftype p0) ∧
    dirSlash (ustarRB e (dirSlash e.ftype p0)).toEntry.ftype (dirSlash e.ftype p0) = dirSlash e.ftype p0 ∧
    ustarSize (ustarRB e (dirSlash e.ftype p0)).toEntry = ustarSize e ∧
    UstarEntryOK (ustarRB e (dirSlash e.ftype p0)).toEntry ∧
    ustarFailed (ustarRB e (dirSlash e.ftype p0)).toEntry (dirSlash e.ftype p0) (ustarSize e) none true = false ∧
    ustarRB (ustarRB e (dirSlash e.ftype p0)).toEntry (dirSlash e.ftype p0) = ustarRB e (dirSlash e.ftype p0) := by
  obtain ⟨hwf, hlinks, hnotrail, hnodbl⟩ := hOK
  obtain ⟨h1, h2, h3, h4, h5, h6⟩ := (ustarFailed_eq_false e _ _).1 hnf
  generalize hpd : dirSlash e.ftype p0 = p at *
  generalize he2 : (ustarRB e p).toEntry = e2
  -- the copy, field by field
  have c_path : e2.path = some p := by rw [← he2]; rfl
  have c_hard : e2.hard = e.hard := by rw [← he2]; rfl
  have c_ft : e2.ftype = if e.hard ≠ [] then .none else e.ftype := by
    rw [← he2]; apply toEntry_ftype; show (if e.hard ≠ [] then 0 else e.ftype.bits) = _; split <;> rfl
  have c_sym : e2.sym = if e.hard = [] ∧ e.ftype = .lnk then e.sym else [] := by rw [← he2]; rfl
  have c_size : e2.sizeV = ustarSize e := by rw [← he2]; rfl
  have c_perm : e2.perm % 4096 = e.perm % 4096 := by rw [← he2]; show e.perm % 4096 % 4096 % 4096 = _; omega
  have c_num : e2.uid = e.uid ∧ e2.gid = e.gid ∧ e2.mtime = e.mtime ∧ e2.uname = e.uname ∧ e2.gname = e.gname := by
    rw [← he2]; exact ⟨rfl, rfl, rfl, rfl, rfl⟩
  have c_rdev : e2.rdevmajor = (if e.hard = [] ∧ (e.ftype = .chr ∨ e.ftype = .blk) then e.rdevmajor else 0) ∧
      e2.rdevminor = (if e.hard = [] ∧ (e.ftype = .chr ∨ e.ftype = .blk) then e.rdevminor else 0) := by
    rw [← he2]; exact ⟨rfl, rfl⟩
  obtain ⟨c_uid, c_gid, c_mt, c_un, c_gn⟩ := c_num
  -- a hard link comes back without its type, anything else with the type it had
  have hds : dirSlash e2.ftype p = p := by
    rw [c_ft]; split
    · exact if_neg fun h => nomatch h.1
    · rw [← hpd]; exact dirSlash_idem ..
  have hsz : ustarSize e2 = ustarSize e := by
    unfold ustarSize
    rw [c_hard, c_ft, c_sym, c_size]
    unfold ustarSize
    by_cases hh : e.hard = []
    · by_cases hl : e.ftype = .lnk <;> by_cases hs : e.sym = [] <;> by_cases hr : e.ftype = .reg <;> simp [hl, hs, hh, hr]
    · simp [hh]
  have hlink : tarLink e2 = tarLink e ∨ tarLink e2 = [] := by
    unfold tarLink
    rw [c_hard, c_sym]
    by_cases hh : e.hard = []
    · by_cases hl : e.ftype = .lnk <;> simp [hh, hl]
    · simp [hh]
  have hOK2 : UstarEntryOK e2 := by
    refine ⟨⟨fun q hq => ?_, c_un ▸ hwf.2.1, c_gn ▸ hwf.2.2.1, ?_, c_hard ▸ hwf.2.2.2.2⟩, fun h => ?_,
      fun q hq hr hh => ?_, fun q k hq hk => ?_⟩
    · rw [c_path] at hq; cases hq; rw [← hpd]; exact wfStr_dirSlash _ _ (hwf.1 p0 hp)
    · rw [c_sym]; split
      · exact hwf.2.2.2.1
      · exact wfStr_nil
    · rw [c_sym, if_neg fun h' => h (c_hard ▸ h'.1)]
    · rw [c_path] at hq; cases hq
      rw [c_hard] at hh
      rw [c_ft, if_neg (fun h => h hh)] at hr
      rw [← hpd, hr, dirSlash_reg]; exact hnotrail p0 hp hr hh
    · rw [c_path] at hq; cases hq
      rw [hds] at hk ⊢
      rw [← hpd] at hk ⊢; exact hnodbl p0 k hp hk
  refine ⟨c_path, hds, hsz, hOK2, (ustarFailed_eq_false e2 _ _).2 ⟨h1, ?_, c_un ▸ h3, c_gn ▸ h4, ?_, ?_⟩, ?_⟩
  · rcases hlink with h | h <;> rw [h]
    · exact h2
    · exact Nat.zero_le _
  · rw [ustarNumFields_ok] at h5 ⊢
    rw [c_perm, c_uid, c_gid, c_mt, c_ft, c_rdev.1, c_rdev.2]
    refine ⟨h5.1, h5.2.1, h5.2.2.1, h5.2.2.2.1, h5.2.2.2.2.1, fun hd => ?_⟩
    by_cases hh : e.hard = []
    · rw [if_neg (fun h => h hh)] at hd
      rw [if_pos ⟨hh, hd.symm⟩, if_pos ⟨hh, hd.symm⟩]; exact h5.2.2.2.2.2 hd
    · rw [if_pos hh] at hd; rcases hd with h | h <;> cases h
  · unfold ustarType at h6 ⊢
    simp only [] at h6 ⊢
    rw [c_hard, c_ft]
    by_cases hh : e.hard = []
    · rw [if_neg (fun h => h hh)] at h6 ⊢; rw [if_neg (fun h => h hh)]; exact h6
    · rw [if_pos hh]; rfl
  · unfold ustarRB
    rw [hsz, c_hard, c_ft, c_sym, c_perm, c_uid, c_gid, c_mt, c_un, c_gn, c_rdev.1, c_rdev.2]
    by_cases hh : e.hard = []
    · by_cases hl : e.ftype = .lnk <;> by_cases hd : e.ftype = .chr ∨ e.ftype = .blk <;> simp [hh, hl, hd]
    · simp [hh]

end LA.Codec
