/- The ar writers against the ar reader (C02). Core Lean only. -/
import LA.Model.Ar
import LA.Lemmas.Bytes
import LA.Lemmas.NumFmt
import LA.Lemmas.Stream
namespace LA.Codec
open LA.NumFmt LA.Gen.ArLayout LA.Gen.CodecConsts

/-! ### `format_decimal` / `format_octal` against `ar_atol10` / `ar_atol8` -/

/-- The reader's loop over a digit string, far from UINT64_MAX. -/
theorem arAtolLoop_digitsBE (b : Nat) (hb0 : 0 < b) (v s l : Nat) (tail : List Nat)
    (h : l * b ^ s + v % b ^ s < 18446744073709551615 / b) :
    arAtolLoop b (digitsBE b (c0 + ·) v s ++ tail) l = arAtolLoop b tail (l * b ^ s + v % b ^ s) := by
  refine read_digitsBE (arAtolLoop b) b hb0 _ _ (fun d l tail hd h => ?_) v s l tail h
  have : l ≤ l * b := Nat.le_mul_of_pos_right l hb0
  rw [arAtolLoop, if_pos (by omega), if_neg (by omega), Nat.add_sub_cancel_left]

theorem arField_back (b : Nat) (hb : 2 ≤ b) (hb10 : b ≤ 10) (v : Int) (s : Nat) (hs : 0 < s)
    (hok : (arFormat b v s).1 = false) (hsmall : b ^ s < 18446744073709551615 / b) :
    arAtol b (arFormat b v s).2 = v.toNat ∧ 0 ≤ v ∧ v.toNat < b ^ s := by
  obtain ⟨s', rfl⟩ : ∃ s', s = s' + 1 := ⟨s - 1, by omega⟩
  have hv : 0 ≤ v := Int.not_lt.1 fun h => by unfold arFormat at hok; rw [if_pos h] at hok; cases hok
  obtain ⟨k, hk0, hk, hlt, heq⟩ := arFormat_eq b hb v s' hv
  rw [heq] at hok ⊢
  by_cases hfit : v.toNat < b ^ (s' + 1)
  · refine ⟨?_, hv, hfit⟩
    obtain ⟨k', rfl⟩ : ∃ k', k = k' + 1 := ⟨k - 1, by omega⟩
    have hd := Nat.mod_lt (v.toNat / b ^ k') (show 0 < b by omega)
    have hle : b ^ (k' + 1) ≤ b ^ (s' + 1) := Nat.pow_le_pow_right (by omega) hk
    have hmod := Nat.mod_eq_of_lt (hlt hfit)
    -- the first byte is a digit, the digits are followed by a blank or the end of the field
    unfold arAtol
    rw [if_pos hfit, digitsBE, List.cons_append, dropBlanks, if_neg (by simp only [c0, sp]; omega), ← List.cons_append,
      ← digitsBE, arAtolLoop_digitsBE b (by omega) _ _ 0 _ (by rw [Nat.zero_mul, Nat.zero_add, hmod]; omega),
      Nat.zero_mul, Nat.zero_add, hmod]
    cases s' + 1 - (k' + 1) with
    | zero => rfl
    | succ n => rw [List.replicate_succ, arAtolLoop, if_neg (by simp only [c0, sp]; omega)]
  · rw [if_neg hfit] at hok; cases hok

/-- The fields of the header of an accepted member with name field `nf`: the magic, the name, the
five numbers. -/
def arFields (e : Entry) (size : Int) (nf : List Nat) : List FieldW :=
  [⟨ar_fmag_offset, 2, [96, 10]⟩, ⟨ar_name_offset, ar_name_size, nf⟩,
   ⟨ar_date_offset, ar_date_size, (arFormat 10 e.mtime ar_date_size).2⟩,
   ⟨ar_uid_offset, ar_uid_size, (arFormat 10 e.uid ar_uid_size).2⟩,
   ⟨ar_gid_offset, ar_gid_size, (arFormat 10 e.gid ar_gid_size).2⟩,
   ⟨ar_mode_offset, ar_mode_size, (arFormat 8 (e.mode : Nat) ar_mode_size).2⟩,
   ⟨ar_size_offset, ar_size_size, (arFormat 10 size ar_size_size).2⟩]

def arHdr (e : Entry) (size : Int) (nf : List Nat) : List Nat :=
  applyWrites (List.replicate 60 sp) (fieldWrites (arFields e size nf))

theorem slice_replicate (n o k c : Nat) (h : o + k ≤ n) : slice (List.replicate n c) o k = List.replicate k c := by
  unfold slice
  rw [List.drop_replicate, List.take_replicate, Nat.min_eq_left (by omega)]

theorem arTable (e : Entry) (size : Int) (nf : List Nat) (hnf : nf.length ≤ 16) :
    FieldTable (List.replicate 60 sp) (arFields e size nf) where
  disjoint := pairwise_disjoint_of_cuts (show [(58, 2), (0, 16), (16, 12), (28, 6), (34, 6), (40, 8), (48, 10)].Pairwise _ by decide)
  fit := by
    simp only [arFields, List.forall_mem_cons, List.not_mem_nil, false_imp_iff, implies_true, and_true,
      arFormat_length 10 (by decide) _ ar_date_size (by decide), arFormat_length 10 (by decide) _ ar_uid_size (by decide),
      arFormat_length 10 (by decide) _ ar_gid_size (by decide), arFormat_length 8 (by decide) _ ar_mode_size (by decide),
      arFormat_length 10 (by decide) _ ar_size_size (by decide), List.length_replicate]
    exact ⟨by decide, ⟨hnf, by decide⟩, by decide, by decide, by decide, by decide, by decide⟩

theorem arHdr_slices (e : Entry) (size : Int) (nf : List Nat) (hnf : nf.length ≤ 16) :
    (arHdr e size nf).length = 60 ∧
    slice (arHdr e size nf) ar_fmag_offset 2 = [96, 10] ∧
    slice (arHdr e size nf) ar_name_offset ar_name_size = nf ++ List.replicate (16 - nf.length) sp ∧
    slice (arHdr e size nf) ar_date_offset ar_date_size = (arFormat 10 e.mtime ar_date_size).2 ∧
    slice (arHdr e size nf) ar_uid_offset ar_uid_size = (arFormat 10 e.uid ar_uid_size).2 ∧
    slice (arHdr e size nf) ar_gid_offset ar_gid_size = (arFormat 10 e.gid ar_gid_size).2 ∧
    slice (arHdr e size nf) ar_mode_offset ar_mode_size = (arFormat 8 (e.mode : Nat) ar_mode_size).2 ∧
    slice (arHdr e size nf) ar_size_offset ar_size_size = (arFormat 10 size ar_size_size).2 := by
  have T := arTable e size nf hnf
  have hr : ∀ f ∈ arFields e size nf,
      slice (arHdr e size nf) f.off f.width = f.bytes ++ List.replicate (f.width - f.bytes.length) sp := fun f hf => by
    have := (T.fit f hf).2
    rw [List.length_replicate] at this
    rw [arHdr, field_read T f hf, slice_replicate 60 _ _ _ this, List.drop_replicate]
  simp only [arFields, List.forall_mem_cons, List.not_mem_nil, false_imp_iff, implies_true, and_true,
    arFormat_length 10 (by decide) _ ar_date_size (by decide), arFormat_length 10 (by decide) _ ar_uid_size (by decide),
    arFormat_length 10 (by decide) _ ar_gid_size (by decide), arFormat_length 8 (by decide) _ ar_mode_size (by decide),
    arFormat_length 10 (by decide) _ ar_size_size (by decide), List.length_cons, List.length_nil,
    show ar_name_size = 16 from rfl, Nat.sub_self, List.replicate_zero, List.append_nil] at hr
  exact ⟨by rw [arHdr, fieldWrites_length T, List.length_replicate], hr⟩

theorem poke_snoc_same (h x : List Nat) (c : Nat) (hx : h[x.length]? = some c) :
    poke h 0 (x ++ [c]) = poke h 0 x := by
  unfold poke
  simp only [List.take_zero, List.nil_append, Nat.zero_add, List.length_append, List.length_singleton, List.append_assoc]
  congr 1
  have hlt : x.length < h.length := by
    rcases Nat.lt_or_ge x.length h.length with h1 | h1
    · exact h1
    · rw [List.getElem?_eq_none h1] at hx; cases hx
  rw [List.getElem?_eq_getElem hlt] at hx
  have := List.drop_eq_getElem_cons hlt
  rw [this, Option.some.inj hx]; rfl

/-- BSD short names: the blank the C writes after the name is a blank already. -/
theorem arHdr_snoc_sp (e : Entry) (size : Int) (name : List Nat) (hn : name.length ≤ 16) :
    arHdr e size (name ++ [sp]) = arHdr e size name := by
  unfold arHdr arFields
  simp only [fieldWrites, List.map, applyWrites]
  have key : poke (poke (List.replicate 60 sp) ar_fmag_offset [96, 10]) ar_name_offset (name ++ [sp])
      = poke (poke (List.replicate 60 sp) ar_fmag_offset [96, 10]) ar_name_offset name := by
    apply poke_snoc_same
    unfold poke
    simp only [ar_fmag_offset]
    rw [List.getElem?_append_left (by
        simp only [List.length_append, List.length_take, List.length_replicate, List.length_cons, List.length_nil]
        omega),
      List.getElem?_append_left (by simp only [List.length_take, List.length_replicate]; omega),
      List.getElem?_take_of_lt (by omega), List.getElem?_replicate, if_pos (by omega)]
  rw [key]

theorem splitSlash_cons (c : Nat) (p : List Nat) :
    splitSlash (c :: p) = if c = slash then [] :: splitSlash p
      else (c :: (splitSlash p).headD []) :: (splitSlash p).tail := by
  unfold splitSlash
  simp only [List.foldr_cons]
  split <;> simp

theorem splitSlash_ne_nil (p : List Nat) : splitSlash p ≠ [] := by unfold splitSlash; simp

theorem basename_spec (p : List Nat) :
    (∀ c ∈ basename p, c ≠ slash ∧ c ∈ p) ∧ (p ≠ [] → p.getLast? ≠ some slash → basename p ≠ []) := by
  induction p with
  | nil => unfold basename splitSlash; simp
  | cons c p ih =>
    obtain ⟨ih1, ih2⟩ := ih
    have hne := splitSlash_ne_nil p
    unfold basename at ih1 ih2 ⊢
    rw [splitSlash_cons]
    obtain ⟨x, xs, hS⟩ : ∃ x xs, splitSlash p = x :: xs := by
      cases h : splitSlash p with
      | nil => exact absurd h hne
      | cons x xs => exact ⟨x, xs, rfl⟩
    rw [hS] at ih1 ih2 ⊢
    have up : ∀ a, a ≠ slash ∧ a ∈ p → a ≠ slash ∧ a ∈ c :: p := fun a h => ⟨h.1, List.mem_cons_of_mem _ h.2⟩
    have tail : p ≠ [] → (c :: p).getLast? = p.getLast? := fun h => by
      cases p with
      | nil => exact absurd rfl h
      | cons c' p' => rfl
    by_cases hc : c = slash
    · rw [if_pos hc]
      simp only [List.getLast?_cons_cons] at ih1 ih2 ⊢
      refine ⟨fun a ha => up a (ih1 a ha), fun _ hl => ?_⟩
      have hp : p ≠ [] := by rintro rfl; simp [hc] at hl
      exact ih2 hp (tail hp ▸ hl)
    · rw [if_neg hc]
      simp only [List.headD_cons, List.tail_cons]
      cases xs with
      | nil =>
        simp only [List.getLast?_singleton, Option.getD_some] at ih1 ih2 ⊢
        refine ⟨fun a ha => ?_, fun _ _ => by simp⟩
        rcases List.mem_cons.1 ha with rfl | ha
        · exact ⟨hc, List.mem_cons_self ..⟩
        · exact up a (ih1 a ha)
      | cons y ys =>
        simp only [List.getLast?_cons_cons] at ih1 ih2 ⊢
        refine ⟨fun a ha => up a (ih1 a ha), fun _ hl => ?_⟩
        have hp : p ≠ [] := by rintro rfl; unfold splitSlash at hS; simp at hS
        exact ih2 hp (tail hp ▸ hl)

theorem trimSpaces_append (x : List Nat) (k : Nat) (hx : x.getLast? ≠ some sp) :
    trimSpaces (x ++ List.replicate k sp) = x := by
  unfold trimSpaces
  rw [List.reverse_append, List.reverse_replicate]
  have h1 : ∀ (k : Nat) (r : List Nat), (List.replicate k sp ++ r).dropWhile (· = sp) = r.dropWhile (· = sp) := by
    intro k r
    induction k with
    | zero => rfl
    | succ k ih => simp only [List.replicate_succ, List.cons_append, List.dropWhile_cons, decide_true, if_true]; exact ih
  rw [h1]
  cases hr : x.reverse with
  | nil => rw [List.reverse_eq_nil_iff] at hr; rw [hr]; rfl
  | cons a r =>
    have ha : a ≠ sp := by
      intro h
      apply hx
      have : x = (a :: r).reverse := by rw [← hr, List.reverse_reverse]
      rw [this, h]; simp
    simp only [List.dropWhile_cons, ha, decide_false, Bool.false_eq_true, if_false]
    rw [← hr, List.reverse_reverse]

theorem arStatFields_some (e : Entry) (size : Int) (fs : List (Nat × List Nat)) (h : arStatFields e size = some fs) :
    (arFormat 10 e.mtime ar_date_size).1 = false ∧ (arFormat 10 e.uid ar_uid_size).1 = false ∧
    (arFormat 10 e.gid ar_gid_size).1 = false ∧ (arFormat 8 (e.mode : Nat) ar_mode_size).1 = false ∧
    e.ftype = .reg ∧ (arFormat 10 size ar_size_size).1 = false ∧
    fs = [(ar_date_offset, (arFormat 10 e.mtime ar_date_size).2), (ar_uid_offset, (arFormat 10 e.uid ar_uid_size).2),
          (ar_gid_offset, (arFormat 10 e.gid ar_gid_size).2), (ar_mode_offset, (arFormat 8 (e.mode : Nat) ar_mode_size).2),
          (ar_size_offset, (arFormat 10 size ar_size_size).2)] := by
  unfold arStatFields at h
  simp only [] at h
  split at h
  · cases h
  · rename_i h1
    split at h
    · cases h
    · rename_i h2
      split at h
      · cases h
      · rename_i h3
        simp only [not_or, Bool.not_eq_true] at h1
        simp only [ne_eq, Decidable.not_not] at h2
        simp only [Bool.not_eq_true] at h3
        exact ⟨h1.1, h1.2.1, h1.2.2.1, h1.2.2.2, h2, h3, (Option.some.inj h).symm⟩

/-- The entry `ar_parse_common_header` builds from an accepted header. -/
def arRB (e : Entry) (size : Int) (path : List Nat) : RB :=
  { rbSetMode { ({} : RB) with path := path, mtime := some e.mtime, uid := e.uid, gid := e.gid, size := some size } e.mode
    with ftype := AE_IFREG }

theorem toI64_toNat (v : Int) (h0 : 0 ≤ v) (h : v.toNat < 9223372036854775808) : toI64 v.toNat = v := by
  rw [toI64_small _ h]
  exact Int.toNat_of_nonneg h0

theorem arCommon_hdr (e : Entry) (size : Int) (nf path : List Nat) (hnf : nf.length ≤ 16)
    (fs : List (Nat × List Nat)) (hst : arStatFields e size = some fs) :
    arCommon (arHdr e size nf) path = (arRB e size path, size.toNat) := by
  obtain ⟨h1, h2, h3, h4, _, h6, _⟩ := arStatFields_some e size fs hst
  obtain ⟨_, _, _, fd, fu, fg, fm, fsz⟩ := arHdr_slices e size nf hnf
  obtain ⟨e1, n1, b1⟩ := arField_back 10 (by omega) (by omega) e.mtime ar_date_size (by decide) h1 (by decide)
  obtain ⟨e2, n2, b2⟩ := arField_back 10 (by omega) (by omega) e.uid ar_uid_size (by decide) h2 (by decide)
  obtain ⟨e3, n3, b3⟩ := arField_back 10 (by omega) (by omega) e.gid ar_gid_size (by decide) h3 (by decide)
  obtain ⟨e4, _, _⟩ := arField_back 8 (by omega) (by omega) (e.mode : Nat) ar_mode_size (by decide) h4 (by decide)
  obtain ⟨e6, n6, b6⟩ := arField_back 10 (by omega) (by omega) size ar_size_size (by decide) h6 (by decide)
  have p12 : (10 : Nat) ^ ar_date_size = 1000000000000 := by decide
  have p6 : (10 : Nat) ^ ar_uid_size = 1000000 := by decide
  have p6' : (10 : Nat) ^ ar_gid_size = 1000000 := by decide
  have p10 : (10 : Nat) ^ ar_size_size = 10000000000 := by decide
  unfold arCommon arRB
  simp only [fd, fu, fg, fm, fsz]
  rw [e1, e2, e3, e4, e6, Int.toNat_natCast, toI64_toNat _ n1 (by omega), toI64_toNat _ n6 (by omega),
    Nat.mod_eq_of_lt (by omega : e.uid.toNat < 4294967296), Nat.mod_eq_of_lt (by omega : e.gid.toNat < 4294967296),
    Int.toNat_of_nonneg n2, Int.toNat_of_nonneg n3, if_neg (by omega : ¬ size < 0)]

/-- The reader's view of the name field: C string, trailing blanks cut, one trailing '/' cut. -/
def arTrimmed (h : List Nat) : List Nat :=
  let t := trimSpaces (cstr (slice h ar_name_offset ar_name_size))
  if t.head? ≠ some slash ∧ t.length > 1 ∧ t.getLast? = some slash then t.dropLast else t

/-- A name that is none of the special forms the reader dispatches on. -/
def ArPlainName (name : List Nat) : Prop :=
  name ≠ [] ∧ (∀ c ∈ name, c ≠ slash) ∧ name ≠ [95, 95, 46, 83, 89, 77, 68, 69, 70]

theorem arPlain_dispatch (name : List Nat) (h : ArPlainName name) :
    ¬ (name = [47, 47] ∨ name = [47] ∨ name = [47, 83, 89, 77, 54, 52, 47] ∨ name = [95, 95, 46, 83, 89, 77, 68, 69, 70]) ∧
    ¬ (name.head? = some slash ∧ c0 ≤ name.getD 1 0 ∧ name.getD 1 0 ≤ c9) ∧
    ¬ (name.take 3 = [35, 49, 47]) := by
  obtain ⟨hne, hns, hsym⟩ := h
  have hhead : name.head? ≠ some slash := by
    cases name with
    | nil => simp
    | cons a r => simp only [List.head?_cons, ne_eq, Option.some.injEq]; exact hns a (List.mem_cons_self ..)
  refine ⟨?_, fun h => hhead h.1, ?_⟩
  · rintro (h | h | h | h)
    · exact hns 47 (by rw [h]; simp) rfl
    · exact hns 47 (by rw [h]; simp) rfl
    · exact hns 47 (by rw [h]; simp) rfl
    · exact hsym h
  · intro h
    have : slash ∈ name.take 3 := by rw [h]; simp [slash]
    exact hns slash (List.mem_of_mem_take this) rfl

/-- What the reader does with the `remaining` body bytes and the pad byte behind a member header. -/
def arBody (rest : List Nat) (fmt : Nat) (acc : List RB) (rb : RB) (remaining pad : Nat) : ReadResult :=
  if rest.length < remaining + pad then
    ⟨fmt, ({ rb with body := rest.take remaining, bodySt := .fatal } :: acc).reverse, .fatal, 0⟩
  else arRead false (rest.drop (remaining + pad)) fmt ({ rb with body := rest.take remaining } :: acc)

theorem arBody_eq (rb : RB) (body more : List Nat) (pad fmt : Nat) (acc : List RB) :
    arBody (body ++ (List.replicate pad 10 ++ more)) fmt acc rb body.length pad
      = arRead false more fmt ({ rb with body := body } :: acc) := by
  unfold arBody
  rw [if_neg (by simp only [List.length_append, List.length_replicate]; omega), List.take_left, ← List.append_assoc,
    List.drop_left' (by simp only [List.length_append, List.length_replicate])]

/-- The reader on a header block whose name `t` is none of the pseudo members: an ordinary member, or a
BSD long name, which stands in front of the body and is counted in the size field. -/
theorem arRead_hdr (H rest : List Nat) (fmt : Nat) (acc : List RB) (hlen : H.length = 60)
    (hmag : slice H ar_fmag_offset 2 = [96, 10]) (t : List Nat) (ht : arTrimmed H = t) (ht0 : t ≠ [])
    (hd1 : ¬ (t = [47, 47] ∨ t = [47] ∨ t = [47, 83, 89, 77, 54, 52, 47] ∨ t = [95, 95, 46, 83, 89, 77, 68, 69, 70]))
    (hd2 : ¬ (t.head? = some slash ∧ c0 ≤ t.getD 1 0 ∧ t.getD 1 0 ≤ c9)) :
    ∃ fmt', arRead false (H ++ rest) fmt acc =
      if t.take 3 = [35, 49, 47] then
        if arAtol 10 (slice H (ar_name_offset + 3) (ar_name_size - 3)) > 1048576 ∨
            arAtol 10 (slice H (ar_name_offset + 3) (ar_name_size - 3)) > (arCommon H t).2 then
          ⟨fmt', acc.reverse, .fatal, 0⟩
        else if rest.length < arAtol 10 (slice H (ar_name_offset + 3) (ar_name_size - 3)) then ⟨fmt', acc.reverse, .fatal, 0⟩
        else arBody (rest.drop (arAtol 10 (slice H (ar_name_offset + 3) (ar_name_size - 3)))) fmt' acc
          { (arCommon H t).1 with
            path := cstr (rest.take (arAtol 10 (slice H (ar_name_offset + 3) (ar_name_size - 3))))
            size := some (((arCommon H t).2 - arAtol 10 (slice H (ar_name_offset + 3) (ar_name_size - 3)) : Nat) : Int) }
          ((arCommon H t).2 - arAtol 10 (slice H (ar_name_offset + 3) (ar_name_size - 3))) ((arCommon H t).2 % 2)
      else arBody rest fmt' acc (arCommon H t).1 (arCommon H t).2 ((arCommon H t).2 % 2) := by
  unfold arTrimmed at ht
  simp only [] at ht
  rw [arRead, if_neg (by simp only [List.length_append, hlen]; omega)]
  simp only [← hlen, List.take_left, List.drop_left, hmag, ne_eq, not_true_eq_false, if_false, ht]
  rw [if_neg ht0, if_neg hd1, if_neg hd2]
  simp only [Bool.false_eq_true, false_and, if_false]
  exact ⟨_, rfl⟩

/-- A member with a short name: header, body, one "\n" after an odd-sized body. -/
theorem arRead_short (H : List Nat) (name body more : List Nat) (fmt : Nat) (acc : List RB)
    (hlen : H.length = 60) (hmag : slice H ar_fmag_offset 2 = [96, 10])
    (hname : arTrimmed H = name) (hpl : ArPlainName name)
    (hsize : (arCommon H name).2 = body.length) :
    ∃ fmt', arRead false (H ++ (body ++ (List.replicate (body.length % 2) 10 ++ more))) fmt acc
      = arRead false more fmt' ({ (arCommon H name).1 with body := body } :: acc) := by
  obtain ⟨hd1, hd2, hd3⟩ := arPlain_dispatch name hpl
  obtain ⟨fmt', h⟩ := arRead_hdr H (body ++ (List.replicate (body.length % 2) 10 ++ more)) fmt acc hlen hmag name hname
    hpl.1 hd1 hd2
  exact ⟨fmt', by rw [h, if_neg hd3, hsize, arBody_eq]⟩

/-- A BSD member with a long name: header with `#1/<len>`, the name, the body, the pad byte. -/
theorem arRead_long (H : List Nat) (ds name body more : List Nat) (fmt : Nat) (acc : List RB)
    (hlen : H.length = 60) (hmag : slice H ar_fmag_offset 2 = [96, 10])
    (ht : arTrimmed H = 35 :: 49 :: 47 :: ds)
    (hnum : arAtol 10 (slice H (ar_name_offset + 3) (ar_name_size - 3)) = name.length)
    (hnl : name.length ≤ 1048576) (hnn : noNul name)
    (hsize : (arCommon H (35 :: 49 :: 47 :: ds)).2 = name.length + body.length) :
    ∃ fmt', arRead false (H ++ (name ++ (body ++ (List.replicate ((name.length + body.length) % 2) 10 ++ more)))) fmt acc
      = arRead false more fmt'
          ({ ({ (arCommon H (35 :: 49 :: 47 :: ds)).1 with path := name, size := some ((body.length : Nat) : Int) } : RB)
             with body := body } :: acc) := by
  obtain ⟨fmt', h⟩ := arRead_hdr H (name ++ (body ++ (List.replicate ((name.length + body.length) % 2) 10 ++ more))) fmt acc
    hlen hmag _ ht (by simp) (by simp) (by simp [slash])
  refine ⟨fmt', ?_⟩
  rw [h, if_pos (show (35 :: 49 :: 47 :: ds).take 3 = [35, 49, 47] from rfl), hnum, hsize, if_neg (by omega),
    if_neg (by simp only [List.length_append]; omega), List.take_left, List.drop_left, cstr_full name hnn,
    Nat.add_sub_cancel_left, arBody_eq]

theorem noNul_append {a b : List Nat} (ha : noNul a) (hb : noNul b) : noNul (a ++ b) := by
  intro c hc
  rcases List.mem_append.1 hc with h | h
  · exact ha c h
  · exact hb c h

theorem noNul_replicate_sp (k : Nat) : noNul (List.replicate k sp) := by
  intro c hc; rw [(List.mem_replicate.1 hc).2]; decide

theorem getLast?_append_ne (a b : List Nat) (hb : b ≠ []) : (a ++ b).getLast? = b.getLast? := by
  rw [List.getLast?_append]
  cases h : b.getLast? with
  | none => rw [List.getLast?_eq_none_iff] at h; exact absurd h hb
  | some x => rfl

theorem arTrimmed_svr4 (e : Entry) (size : Int) (name : List Nat) (hn : name.length ≤ 15) (hnn : noNul name)
    (hne : name ≠ []) (hns : ∀ c ∈ name, c ≠ slash) :
    arTrimmed (arHdr e size (name ++ [slash])) = name := by
  obtain ⟨_, _, fname, _⟩ := arHdr_slices e size (name ++ [slash]) (by simp; omega)
  unfold arTrimmed
  rw [fname]
  have hnul : noNul (name ++ [slash] ++ List.replicate (16 - (name ++ [slash]).length) sp) :=
    noNul_append (noNul_append hnn (by intro c hc; simp at hc; rw [hc]; decide)) (noNul_replicate_sp _)
  rw [cstr_full _ hnul, trimSpaces_append _ _ (by simp [slash, sp])]
  simp only []
  have h1 : (name ++ [slash]).head? ≠ some slash := by
    cases name with
    | nil => exact absurd rfl hne
    | cons a r => simp only [List.cons_append, List.head?_cons, ne_eq, Option.some.injEq]; exact hns a (List.mem_cons_self ..)
  have h2 : (name ++ [slash]).length > 1 := by
    have : name.length ≠ 0 := fun h => hne (List.eq_nil_of_length_eq_zero h)
    simp only [List.length_append, List.length_singleton]; omega
  have h3 : (name ++ [slash]).getLast? = some slash := by simp
  rw [if_pos ⟨h1, h2, h3⟩]
  simp

theorem arTrimmed_bsd_short (e : Entry) (size : Int) (name : List Nat) (hn : name.length ≤ 16) (hnn : noNul name)
    (hns : ∀ c ∈ name, c ≠ slash) (hsp : ¬ name.contains sp) :
    arTrimmed (arHdr e size name) = name := by
  obtain ⟨_, _, fname, _⟩ := arHdr_slices e size name hn
  unfold arTrimmed
  rw [fname]
  have hnul : noNul (name ++ List.replicate (16 - name.length) sp) := noNul_append hnn (noNul_replicate_sp _)
  have hlast : name.getLast? ≠ some sp := by
    intro h
    apply hsp
    have : sp ∈ name := List.mem_of_getLast? h
    simpa using this
  rw [cstr_full _ hnul, trimSpaces_append _ _ hlast]
  simp only []
  have h3 : ¬ (name.head? ≠ some slash ∧ name.length > 1 ∧ name.getLast? = some slash) := by
    intro h
    exact hns slash (List.mem_of_getLast? h.2.2) rfl
  rw [if_neg h3]

theorem arTrimmed_bsd_long (e : Entry) (size : Int) (len : Nat)
    (hok : (arFormat 10 (len : Nat) (ar_name_size - 3)).1 = false) :
    ∃ ds, arTrimmed (arHdr e size ([35, 49, 47] ++ (arFormat 10 (len : Nat) (ar_name_size - 3)).2)) = 35 :: 49 :: 47 :: ds ∧
      arAtol 10 (slice (arHdr e size ([35, 49, 47] ++ (arFormat 10 (len : Nat) (ar_name_size - 3)).2))
        (ar_name_offset + 3) (ar_name_size - 3)) = len := by
  obtain ⟨hback, -, hfit⟩ := arField_back 10 (by decide) (by decide) (len : Nat) (ar_name_size - 3) (by decide) hok (by decide)
  obtain ⟨k, hk0, hk, -, heq⟩ := arFormat_eq 10 (by decide) (len : Nat) 12 (by omega)
  obtain ⟨k', rfl⟩ : ∃ k', k = k' + 1 := ⟨k - 1, by omega⟩
  rw [show ar_name_size - 3 = 12 + 1 from rfl] at hback hfit ⊢
  rw [heq, if_pos hfit, Int.toNat_natCast] at hback ⊢
  simp only [] at hback ⊢
  have hdig : ∀ c ∈ digitsBE 10 (c0 + ·) len (k' + 1), 48 ≤ c ∧ c ≤ 57 := fun c hc => by
    obtain ⟨d, hd, rfl⟩ := digitsBE_mem 10 (by decide) _ _ _ c hc
    simp only [c0]; omega
  have hlast : ([35, 49, 47] ++ digitsBE 10 (c0 + ·) len (k' + 1)).getLast? = some (c0 + len % 10) := by
    rw [digitsBE_snoc, ← List.append_assoc, List.getLast?_concat]
  have hm := Nat.mod_lt len (show 0 < 10 by decide)
  have hnul : noNul ([35, 49, 47] ++ (digitsBE 10 (c0 + ·) len (k' + 1) ++ List.replicate (12 + 1 - (k' + 1)) sp)) :=
    noNul_append (by intro c hc; simp at hc; rcases hc with rfl | rfl | rfl <;> decide)
      (noNul_append (fun c hc => by have := hdig c hc; omega) (noNul_replicate_sp _))
  have hl : ([35, 49, 47] ++ (digitsBE 10 (c0 + ·) len (k' + 1) ++ List.replicate (12 + 1 - (k' + 1)) sp)).length = 16 := by
    simp only [List.length_append, digitsBE_length, List.length_replicate, List.length_cons, List.length_nil]; omega
  obtain ⟨-, -, fname, -⟩ := arHdr_slices e size _ (Nat.le_of_eq hl)
  rw [hl, Nat.sub_self, List.replicate_zero, List.append_nil] at fname
  refine ⟨digitsBE 10 (c0 + ·) len (k' + 1), ?_, by
    show arAtol 10 (slice _ (ar_name_offset + 3) (ar_name_size - 3)) = len
    rw [slice_drop, fname]; exact hback⟩
  unfold arTrimmed
  rw [fname, cstr_full _ hnul, ← List.append_assoc, trimSpaces_append _ _ (by rw [hlast]; simp only [c0, sp]; simp; omega)]
  simp only []
  rw [if_neg (by rw [hlast]; simp only [c0, slash]; simp; omega)]
  rfl

end LA.Codec
