/-
C12 helper: `sortDir` (model of `sort_dir_list` in archive_write_disk_posix.c)
is a permutation, sorts descending by `strcmp`, and therefore puts every
directory after all of its descendants.
-/
import LA.Model.Tree
namespace LA.Tree

private theorem ln_lt_append_cons (l : List Nat) (c : Nat) (m : List Nat) : l < l ++ c :: m := by
  induction l with
  | nil => exact List.nil_lt_cons c m
  | cons x l ih =>
    rw [List.cons_append, List.cons_lt_cons_iff]
    exact Or.inr ⟨rfl, ih⟩

theorem mergeFix_perm (a b : List Fixup) : (mergeFix a b).Perm (a ++ b) := by
  fun_induction mergeFix a b with
  | case1 b => simp
  | case2 a _ => simp
  | case3 x a y b hgt ih =>
    exact (List.Perm.cons x ih)
  | case4 x a y b hgt ih =>
    have h1 : (y :: mergeFix (x :: a) b).Perm (y :: (x :: a ++ b)) := List.Perm.cons y ih
    exact h1.trans (List.perm_middle.symm)

/-- The order `sortDir` produces: nothing later is strictly `strcmp`-greater. -/
private abbrev Desc (x y : Fixup) : Prop := ¬ (joined x.path < joined y.path)

private theorem mergeFix_sorted (a b : List Fixup)
    (ha : a.Pairwise Desc) (hb : b.Pairwise Desc) : (mergeFix a b).Pairwise Desc := by
  fun_induction mergeFix a b with
  | case1 b => exact hb
  | case2 a _ => exact ha
  | case3 x a y b hgt ih =>
    have hxa := (List.pairwise_cons.mp ha)
    have hyb := (List.pairwise_cons.mp hb)
    have hlt : joined y.path < joined x.path := by
      simpa [nameGt] using hgt
    refine List.pairwise_cons.mpr ⟨?_, ih hxa.2 hb⟩
    intro z hz
    have hz' : z ∈ a ++ y :: b := (mergeFix_perm a (y :: b)).mem_iff.mp hz
    rcases List.mem_append.mp hz' with hza | hzyb
    · exact hxa.1 z hza
    · rcases List.mem_cons.mp hzyb with rfl | hzb
      · exact fun h' => List.lt_irrefl _ (List.lt_trans hlt h')
      · intro hxz
        exact hyb.1 z hzb (List.lt_trans hlt hxz)
  | case4 x a y b hgt ih =>
    have hxa := (List.pairwise_cons.mp ha)
    have hyb := (List.pairwise_cons.mp hb)
    have hnlt : ¬ (joined y.path < joined x.path) := by
      simpa [nameGt] using hgt
    refine List.pairwise_cons.mpr ⟨?_, ih ha hyb.2⟩
    intro z hz
    have hz' : z ∈ (x :: a) ++ b := (mergeFix_perm (x :: a) b).mem_iff.mp hz
    rcases List.mem_append.mp hz' with hzxa | hzb
    · rcases List.mem_cons.mp hzxa with rfl | hza
      · exact hnlt
      · intro hyz
        -- x ≤ y < z, so x < z, contradicting sortedness of `x :: a`
        exact hxa.1 z hza (List.lt_of_le_of_lt (List.not_lt.mp hnlt) hyz)
    · exact hyb.1 z hzb

theorem sortDir_perm (l : List Fixup) : (sortDir l).Perm l := by
  fun_induction sortDir l with
  | case1 l h => exact List.Perm.refl l
  | case2 l h k ih1 ih2 =>
    refine (mergeFix_perm _ _).trans ?_
    have := List.Perm.append ih1 ih2
    rwa [List.take_append_drop] at this

theorem sortDir_sorted (l : List Fixup) : (sortDir l).Pairwise Desc := by
  fun_induction sortDir l with
  | case1 l h =>
    match l, h with
    | [], _ => exact List.Pairwise.nil
    | [x], _ => exact List.pairwise_singleton _ _
    | _ :: _ :: _, h => simp at h; omega
  | case2 l h k ih1 ih2 => exact mergeFix_sorted _ _ ih1 ih2

/-- a path is strcmp-smaller than each of its proper extensions -/
theorem joined_lt_of_prefix (p : Path) (n : Name) (r : Path) : joined p < joined (p ++ n :: r) := by
  unfold joined
  rw [List.cons_lt_cons_iff]
  refine Or.inr ⟨rfl, ?_⟩
  rw [List.flatMap_append, List.flatMap_cons, List.cons_append]
  exact ln_lt_append_cons _ _ _

/-- hence: in the sorted fix-up list a directory comes after every one of its descendants -/
theorem sortDir_descendants_first (l : List Fixup) (pre post : List Fixup) (f g : Fixup)
    (h : sortDir l = pre ++ f :: post) (n : Name) (r : Path) (hg : g.path = f.path ++ n :: r) :
    g ∉ post := by
  intro hmem
  have hs := sortDir_sorted l
  rw [h] at hs
  have hs2 := (List.pairwise_append.mp hs).2.1
  have hfg := (List.pairwise_cons.mp hs2).1 g hmem
  apply hfg
  rw [hg]
  exact joined_lt_of_prefix f.path n r

theorem sortDir_mem (l : List Fixup) (f : Fixup) : f ∈ sortDir l ↔ f ∈ l :=
  (sortDir_perm l).mem_iff

theorem sortDir_nodup (l : List Fixup) (h : (l.map (·.path)).Nodup) :
    ((sortDir l).map (·.path)).Nodup :=
  (((sortDir_perm l).map (·.path)).nodup_iff).mpr h

end LA.Tree
