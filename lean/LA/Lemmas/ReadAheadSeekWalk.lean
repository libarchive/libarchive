/-
`__archive_read_filter_seek`, the `dataset[]` bookkeeping (`begin_position` / `total_size`)
and the two forward node walks.
-/
import LA.Lemmas.ReadAheadSeek
namespace LA.RA

/-- The `dataset[]` bookkeeping is sound: one entry per node, the first node begins at 0,
and whatever is recorded (≥ 0) is true. -/
structure CacheOk (s : State) : Prop where
  ne : 0 < s.nodes.length
  lb : s.begins.length = s.nodes.length
  lz : s.sizes.length = s.nodes.length
  b0 : s.begins[0]? = some 0
  bt : ∀ i b, s.begins[i]? = some b → 0 ≤ b → b = (prefixLen s.nodes i : Int)
  zt : ∀ i z, s.sizes[i]? = some z → 0 ≤ z → z = (nlen s.nodes i : Int)

def Known (s : State) (c : Nat) : Prop :=
  (∀ j, j ≤ c → s.begins[j]? = some (prefixLen s.nodes j : Int)) ∧
  (∀ j, j < c → s.sizes[j]? = some (nlen s.nodes j : Int))

/-- Every node before `c` ends at or before the offset looked for (SEEK_SET walks). -/
def Passed (stopAt : Option Int) (ns : List (List Nat)) (c : Nat) : Prop :=
  ∀ off, stopAt = some off → ∀ j, j < c → (prefixLen ns (j + 1) : Int) ≤ off

theorem known_zero (s : State) (h : CacheOk s) : Known s 0 :=
  ⟨fun j hj => by obtain rfl : j = 0 := Nat.le_zero.mp hj; rw [h.b0, prefixLen_zero]; rfl,
   fun _ hj => absurd hj (Nat.not_lt_zero _)⟩

theorem passed_zero (stopAt : Option Int) (ns : List (List Nat)) : Passed stopAt ns 0 :=
  fun _ _ _ hj => absurd hj (Nat.not_lt_zero _)

theorem passed_succ {stopAt : Option Int} {ns : List (List Nat)} {c : Nat} (hp : Passed stopAt ns c)
    (h : ¬ holds stopAt (prefixLen ns (c + 1) : Int) = true) : Passed stopAt ns (c + 1) := by
  intro off ho j hj
  by_cases hjc : j = c
  · subst hjc ho
    simpa [holds] using h
  · exact hp off ho j (by omega)

theorem cacheOk_congr {s t : State} (hn : t.nodes = s.nodes) (hb : t.begins = s.begins) (hz : t.sizes = s.sizes)
    (h : CacheOk s) : CacheOk t :=
  { ne := by rw [hn]; exact h.ne, lb := by rw [hb, hn]; exact h.lb, lz := by rw [hz, hn]; exact h.lz,
    b0 := by rw [hb]; exact h.b0, bt := by rw [hb, hn]; exact h.bt, zt := by rw [hz, hn]; exact h.zt }

theorem known_congr {s t : State} {c : Nat} (hn : t.nodes = s.nodes) (hb : t.begins = s.begins) (hz : t.sizes = s.sizes)
    (h : Known s c) : Known t c := by
  unfold Known; rw [hn, hb, hz]; exact h

theorem cacheOk_of_static {s s' : State} (h : Static s s') (hc : CacheOk s) : CacheOk s' :=
  cacheOk_congr h.nodes h.begins h.sizes hc

/-- `dataset[c + 1].begin_position = begin_position[c] + total_size[c]`, with the true values. -/
theorem step_setBegin {s : State} {c : Nat} (hc : CacheOk s) (hk : Known s c)
    (hzc : s.sizes[c]? = some (nlen s.nodes c : Int)) (hc1 : c + 1 < s.nodes.length) :
    CacheOk (setBegin s (c + 1) (prefixLen s.nodes (c + 1) : Nat)) ∧
    Known (setBegin s (c + 1) (prefixLen s.nodes (c + 1) : Nat)) (c + 1) := by
  have hlt : c + 1 < s.begins.length := by rw [hc.lb]; exact hc1
  refine ⟨{ hc with lb := (List.length_set ..).trans hc.lb, b0 := ?_, bt := ?_ }, ?_, ?_⟩
  · exact (List.getElem?_set_ne (Nat.succ_ne_zero c)).trans hc.b0
  · intro i b hbi hb0
    by_cases hi : i = c + 1
    · subst hi
      exact (Option.some.inj ((List.getElem?_set_self hlt).symm.trans hbi)).symm
    · exact hc.bt i b ((List.getElem?_set_ne (Ne.symm hi)).symm.trans hbi) hb0
  · intro j hj
    by_cases hjc : j = c + 1
    · subst hjc; exact List.getElem?_set_self hlt
    · exact (List.getElem?_set_ne (Ne.symm hjc)).trans (hk.1 j (by omega))
  · intro j hj
    by_cases hjc : j = c
    · subst hjc; exact hzc
    · exact hk.2 j (by omega)

/-- `dataset[c].total_size = r` with the true size. -/
theorem step_setSize {s : State} {c : Nat} (hc : CacheOk s) (hk : Known s c) (hcl : c < s.nodes.length) :
    CacheOk (setSize s c (nlen s.nodes c : Nat)) ∧ Known (setSize s c (nlen s.nodes c : Nat)) c ∧
    (setSize s c (nlen s.nodes c : Nat)).sizes[c]? = some (nlen s.nodes c : Int) := by
  have hlt : c < s.sizes.length := by rw [hc.lz]; exact hcl
  refine ⟨{ hc with lz := (List.length_set ..).trans hc.lz, zt := ?_ }, ⟨hk.1, ?_⟩, List.getElem?_set_self hlt⟩
  · intro i z hzi hz0
    by_cases hi : i = c
    · subst hi
      exact (Option.some.inj ((List.getElem?_set_self hlt).symm.trans hzi)).symm
    · exact hc.zt i z ((List.getElem?_set_ne (Ne.symm hi)).symm.trans hzi) hz0
  · intro j hj
    exact (List.getElem?_set_ne (by omega)).trans (hk.2 j hj)

@[simp] theorem setBegin_nodes (s : State) (c : Nat) (b : Int) : (setBegin s c b).nodes = s.nodes := rfl
@[simp] theorem setBegin_sizes (s : State) (c : Nat) (b : Int) : (setBegin s c b).sizes = s.sizes := rfl
@[simp] theorem setBegin_begins (s : State) (c : Nat) (b : Int) : (setBegin s c b).begins = s.begins.set c b := rfl
@[simp] theorem setBegin_seeks (s : State) (c : Nat) (b : Int) : (setBegin s c b).seeks = s.seeks := rfl
@[simp] theorem setBegin_hasSeeker (s : State) (c : Nat) (b : Int) : (setBegin s c b).hasSeeker = s.hasSeeker := rfl
@[simp] theorem setSize_nodes (s : State) (c : Nat) (b : Int) : (setSize s c b).nodes = s.nodes := rfl
@[simp] theorem setSize_sizes (s : State) (c : Nat) (b : Int) : (setSize s c b).sizes = s.sizes.set c b := rfl
@[simp] theorem setSize_begins (s : State) (c : Nat) (b : Int) : (setSize s c b).begins = s.begins := rfl
@[simp] theorem setSize_seeks (s : State) (c : Nat) (b : Int) : (setSize s c b).seeks = s.seeks := rfl
@[simp] theorem setSize_hasSeeker (s : State) (c : Nat) (b : Int) : (setSize s c b).hasSeeker = s.hasSeeker := rfl
theorem setBegin_filt (s : State) (c : Nat) (b : Int) : Filt s (setBegin s c b) := by constructor <;> rfl
theorem setSize_filt (s : State) (c : Nat) (b : Int) : Filt s (setSize s c b) := by constructor <;> rfl

theorem prefixLen_succ_int (ns : List (List Nat)) (c : Nat) (h : c < ns.length) :
    (prefixLen ns c : Int) + (nlen ns c : Int) = ((prefixLen ns (c + 1) : Nat) : Int) := by
  rw [prefixLen_succ ns c h]; exact (Int.natCast_add _ _).symm

/-- First walk: never fails, only `begins` changes, stops at a node whose position is recorded. -/
theorem walkKnown_spec (stopAt : Option Int) (left c : Nat) (s : State) (hc : CacheOk s) (hk : Known s c)
    (hp : Passed stopAt s.nodes c) (hl : c + left = s.nodes.length - 1) :
    ∃ c' s', walkKnown stopAt left c s = .at_ c' s' ∧ c ≤ c' ∧ c' ≤ s.nodes.length - 1 ∧ CacheOk s' ∧
      Known s' c' ∧ Passed stopAt s.nodes c' ∧ Filt s s' ∧ s'.seeks = s.seeks := by
  induction left generalizing c s with
  | zero => exact ⟨c, s, rfl, Nat.le_refl _, by omega, hc, hk, hp, Filt.refl _, rfl⟩
  | succ n ih =>
    have hne := hc.ne
    have hcl : c < s.nodes.length := by omega
    obtain ⟨z, hz⟩ : ∃ z, s.sizes[c]? = some z :=
      ⟨s.sizes[c]'(by rw [hc.lz]; exact hcl), List.getElem?_eq_getElem _⟩
    unfold walkKnown
    simp only [hk.1 c (Nat.le_refl _), hz]
    by_cases hstop : ((prefixLen s.nodes c : Nat) : Int) < 0 ∨ z < 0 ∨ holds stopAt ((prefixLen s.nodes c : Int) + z) = true
    · rw [if_pos hstop]
      exact ⟨c, s, rfl, Nat.le_refl _, by omega, hc, hk, hp, Filt.refl _, rfl⟩
    · rw [if_neg hstop, if_pos (by rw [hc.lb]; omega)]
      have hzt : z = (nlen s.nodes c : Int) := hc.zt c z hz (by omega)
      rw [hzt, prefixLen_succ_int s.nodes c hcl] at hstop ⊢
      obtain ⟨hc', hk'⟩ := step_setBegin hc hk (hzt ▸ hz) (by omega)
      obtain ⟨c', s', e1, e2, e3, e4, e5, e6, e7, e8⟩ := ih (c + 1) _ hc' hk'
        (passed_succ hp fun h => hstop (.inr (.inr h))) (by show c + 1 + n = s.nodes.length - 1; omega)
      exact ⟨c', s', e1, by omega, e3, e4, e5, e6, (setBegin_filt _ _ _).trans e7, e8⟩

/-- Probing node `c`: `client_switch_proxy(c)` then `client_seek_proxy(0, SEEK_END)`.  It
fails only if the script says so; otherwise it reports the size of the node. -/
theorem probe_spec (s : State) (c : Nat) (hcl : c < s.nodes.length) (hs : s.hasSeeker = true) :
    Filt s (clientSeek (switchTo s c) .end_ 0).2 ∧ (clientSeek (switchTo s c) .end_ 0).2.begins = s.begins ∧
    (clientSeek (switchTo s c) .end_ 0).2.sizes = s.sizes ∧
    (clientSeek (switchTo s c) .end_ 0).2.seeks = s.seeks.tail ∧
    (((clientSeek (switchTo s c) .end_ 0).1 < 0 ∧ ¬ SeeksOk s.seeks) ∨
     (clientSeek (switchTo s c) .end_ 0).1 = (nlen s.nodes c : Int)) := by
  have hf1 := switchTo_filt s c
  obtain ⟨hb1, hz1, hq1⟩ := switchTo_cache s c
  obtain ⟨hf2, hb2, hz2, _⟩ := clientSeek_frame (switchTo s c) .end_ 0
  have htgt : seekTarget (switchTo s c) .end_ 0 = (nlen s.nodes c : Int) := by
    simp only [seekTarget, switchTo_cursor s c hcl, Int.add_zero, nodeAt_len, hf1.nodes]
  refine ⟨hf1.trans hf2, hb2.trans hb1, hz2.trans hz1, ?_⟩
  rcases clientSeek_spec (switchTo s c) .end_ 0 (hf1.hasSeeker.trans hs) with ⟨a1, a2, a3⟩ | ⟨_, _, _, a4, a5⟩
  · exact ⟨by rw [a2]; exact congrArg List.tail hq1, .inl ⟨a1, fun hok => by
      have := a3 (hq1 ▸ hok); rw [htgt] at this; omega⟩⟩
  · exact ⟨by rw [a4]; exact congrArg List.tail hq1, .inr ((a5 (.inr (by decide))).trans htgt)⟩

/-- A seek that failed: reported, the filter proper untouched (position, buffers, flags) — but the
client may have been moved. -/
def SeekFail (s : State) (r : Int × State) : Prop := r.1 < 0 ∧ Filt s r.2 ∧ CacheOk r.2

/-- One round of the second walk: the probe fails, or the true size of node `c` is recorded and
the walk stops here (this node holds the offset, or it is the last) or goes on with the next. -/
theorem walkProbe_round (stopAt : Option Int) (left c : Nat) (s : State) (hc : CacheOk s) (hk : Known s c)
    (hcl : c + left < s.nodes.length) (hs : s.hasSeeker = true) :
    (∃ r s', walkProbe stopAt left c s = .fail r s' ∧ SeekFail s (r, s') ∧ ¬ SeeksOk s.seeks) ∨
    (∃ s3, CacheOk s3 ∧ Known s3 c ∧ s3.sizes[c]? = some (nlen s.nodes c : Int) ∧ Filt s s3 ∧
      (SeeksOk s.seeks → SeeksOk s3.seeks) ∧
      (holds stopAt ((prefixLen s.nodes (c + 1) : Nat) : Int) = true ∨ left = 0 →
        walkProbe stopAt left c s = .at_ c s3) ∧
      (¬ holds stopAt ((prefixLen s.nodes (c + 1) : Nat) : Int) = true → ∀ l, left = l + 1 →
        walkProbe stopAt left c s =
          walkProbe stopAt l (c + 1) (setBegin s3 (c + 1) ((prefixLen s.nodes (c + 1) : Nat) : Int)))) := by
  have hcl' : c < s.nodes.length := by omega
  obtain ⟨p1, p2, p3, p5, p4⟩ := probe_spec s c hcl' hs
  have hck2 := cacheOk_congr p1.nodes p2 p3 hc
  have hb : (clientSeek (switchTo s c) .end_ 0).2.begins[c]? = some ((prefixLen s.nodes c : Nat) : Int) := by
    rw [p2]; exact hk.1 c (Nat.le_refl _)
  have hlt : c < (clientSeek (switchTo s c) .end_ 0).2.sizes.length := by rw [p3, hc.lz]; exact hcl'
  rcases p4 with ⟨q1, q2⟩ | q1
  · refine .inl ⟨(clientSeek (switchTo s c) .end_ 0).1, (clientSeek (switchTo s c) .end_ 0).2, ?_, ⟨q1, p1, hck2⟩, q2⟩
    cases left <;> (unfold walkProbe; simp only [q1, if_true])
  · obtain ⟨hck3, hk3, hz3⟩ := step_setSize hck2 (known_congr p1.nodes p2 p3 hk) (p1.nodes ▸ hcl')
    rw [p1.nodes] at hck3 hk3 hz3
    rw [← q1] at hck3 hk3
    replace hz3 : (setSize (clientSeek (switchTo s c) .end_ 0).2 c (clientSeek (switchTo s c) .end_ 0).1).sizes[c]? =
        some (nlen s.nodes c : Int) := by rw [q1]; exact hz3
    have hneg : ¬ (clientSeek (switchTo s c) .end_ 0).1 < 0 := by rw [q1]; omega
    have hsum := prefixLen_succ_int s.nodes c hcl'
    rw [← q1] at hsum
    refine .inr ⟨_, hck3, hk3, hz3, p1.trans (setSize_filt _ _ _),
      fun h => (p5 ▸ h.tail : SeeksOk (clientSeek (switchTo s c) .end_ 0).2.seeks), ?_, ?_⟩
    · intro h
      rw [← hsum] at h
      rcases h with h | rfl
      · cases left <;> (unfold walkProbe; simp only [hneg, hb, hlt, h, if_true, if_false])
      · unfold walkProbe; simp only [hneg, hb, hlt, if_true, if_false, ite_self]
    · intro h l hl
      subst hl
      rw [← hsum] at h ⊢
      have hlt1 : c + 1 < (clientSeek (switchTo s c) .end_ 0).2.begins.length := by rw [p2, hc.lb]; omega
      conv => lhs; unfold walkProbe
      simp only [hneg, hb, hlt, h, hlt1, if_true, if_false, setSize_begins, Bool.false_eq_true]

/-- The second walk stands at node `c'`: its size is recorded, and it holds the offset looked for
or is the last node. -/
def ProbeDone (stopAt : Option Int) (s : State) (c' : Nat) (s' : State) : Prop :=
  c' ≤ s.nodes.length - 1 ∧ CacheOk s' ∧ Known s' c' ∧ s'.sizes[c']? = some (nlen s.nodes c' : Int) ∧
  Passed stopAt s.nodes c' ∧
  (holds stopAt ((prefixLen s.nodes (c' + 1) : Nat) : Int) = true ∨ c' = s.nodes.length - 1) ∧
  Filt s s' ∧ (SeeksOk s.seeks → SeeksOk s'.seeks)

def ProbePost (stopAt : Option Int) (s : State) (c : Nat) : Walk → Prop
  | .fail r s' => SeekFail s (r, s') ∧ ¬ SeeksOk s.seeks
  | .at_ c' s' => c ≤ c' ∧ ProbeDone stopAt s c' s'

/-- The walk was started from a state `s` reached from `s0` by earlier steps of the same request. -/
theorem ProbePost.of_filt {stopAt : Option Int} {s0 s : State} {c0 c : Nat} {w : Walk} (h : ProbePost stopAt s c w)
    (hf : Filt s0 s) (hq : SeeksOk s0.seeks → SeeksOk s.seeks) (hc : c0 ≤ c) : ProbePost stopAt s0 c0 w := by
  cases w with
  | fail r s' => exact ⟨⟨h.1.1, hf.trans h.1.2.1, h.1.2.2⟩, fun hok => h.2 (hq hok)⟩
  | at_ c' s' =>
    obtain ⟨j0, j1, j2, j3, j4, j5, j6, j7, j8⟩ := h
    rw [hf.nodes] at j1 j4 j5 j6
    exact ⟨by omega, j1, j2, j3, j4, j5, j6, hf.trans j7, fun hok => j8 (hq hok)⟩

theorem walkProbe_spec (stopAt : Option Int) (left c : Nat) (s : State) (hc : CacheOk s) (hk : Known s c)
    (hp : Passed stopAt s.nodes c) (hl : c + left = s.nodes.length - 1) (hs : s.hasSeeker = true) :
    ProbePost stopAt s c (walkProbe stopAt left c s) := by
  have hne := hc.ne
  induction left generalizing c s with
  | zero =>
    rcases walkProbe_round stopAt 0 c s hc hk (by omega) hs with ⟨r, s', e, q⟩ | ⟨s3, q3, q4, q5, q6, q7, e, _⟩
    · rw [e]; exact q
    · rw [e (.inr rfl)]
      exact ⟨Nat.le_refl _, by omega, q3, q4, q5, hp, .inr (by omega), q6, q7⟩
  | succ n ih =>
    rcases walkProbe_round stopAt (n + 1) c s hc hk (by omega) hs with ⟨r, s', e, q⟩ | ⟨s3, q3, q4, q5, q6, q7, e1, e2⟩
    · rw [e]; exact q
    · by_cases hh : holds stopAt ((prefixLen s.nodes (c + 1) : Nat) : Int) = true
      · rw [e1 (.inl hh)]
        exact ⟨Nat.le_refl _, by omega, q3, q4, q5, hp, .inl hh, q6, q7⟩
      · rw [e2 hh n rfl]
        have hn3 : s3.nodes = s.nodes := q6.nodes
        obtain ⟨hck4, hk4⟩ := step_setBegin q3 q4 (hn3 ▸ q5) (hn3 ▸ (by omega : c + 1 < s.nodes.length))
        rw [hn3] at hck4 hk4
        have hf4 := q6.trans (setBegin_filt s3 (c + 1) ((prefixLen s.nodes (c + 1) : Nat) : Int))
        exact (ih (c + 1) _ hck4 hk4 (by rw [hf4.nodes]; exact passed_succ hp hh) (by rw [hf4.nodes]; omega)
          (hf4.hasSeeker.trans hs) (by rw [hf4.nodes]; exact hne)).of_filt hf4 q7 (Nat.le_succ c)

end LA.RA
