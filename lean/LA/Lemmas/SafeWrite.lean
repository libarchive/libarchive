/-
Lemmas for C19 (model: LA/Model/SafeWrite.lean): bytes (`padTo`, `writeAt`,
`truncTo`); the file system (`Pre`: the target name is bound to the untouched old
inode); what one `sys` call does to the invariants of the world (`Safe`); `Frame`:
a function that only issues calls without effect on the file system preserves every
predicate on worlds that such calls preserve.
-/
import LA.Model.SafeWrite
namespace LA.SafeWrite

@[simp] theorem zeros_length (n : Nat) : (zeros n).length = n := by simp [zeros]
@[simp] theorem zeros_zero : zeros 0 = [] := rfl

theorem zeros_add (a b : Nat) : zeros (a + b) = zeros a ++ zeros b := by
  simp [zeros, List.replicate_append_replicate]

@[simp] theorem padTo_length (n : Nat) (c : Bytes) : (padTo n c).length = max n c.length := by
  rw [padTo, List.length_append, zeros_length]; omega

theorem padTo_of_le {n : Nat} {c : Bytes} (h : n ≤ c.length) : padTo n c = c := by
  simp [padTo, Nat.sub_eq_zero_of_le h]

theorem padTo_padTo {a b : Nat} {c : Bytes} (h : a ≤ b) : padTo b (padTo a c) = padTo b c := by
  unfold padTo
  rw [List.append_assoc, ← zeros_add, List.length_append, zeros_length]
  congr 2
  omega

theorem padTo_append_zeros {a k : Nat} {c : Bytes} (h : c.length ≤ a) :
    padTo a c ++ zeros k = padTo (a + k) c := by
  unfold padTo
  rw [List.append_assoc, ← zeros_add]
  congr 2; omega

theorem writeAt_append {c : Bytes} {off : Nat} (d : Bytes) (h : c.length ≤ off) :
    writeAt c off d = padTo off c ++ d := by
  unfold writeAt
  have h1 : (padTo off c).length = off := by simp; omega
  rw [List.take_of_length_le (by omega), List.drop_of_length_le (by omega)]
  simp

theorem truncTo_of_le {c : Bytes} {n : Nat} (h : c.length ≤ n) : truncTo n c = padTo n c := by
  unfold truncTo
  apply List.take_of_length_le
  simp; omega

/-- The zero bytes skipped by the sparse loop. -/
theorem takeWhile_zero_eq (buf : Bytes) :
    buf.takeWhile (· == 0) = zeros (buf.takeWhile (· == 0)).length := by
  induction buf with
  | nil => rfl
  | cons a t ih =>
    by_cases h : a = 0
    · subst h
      simpa [zeros, List.replicate_succ] using ih
    · simp [h]

theorem drop_length_takeWhile (p : Nat → Bool) (l : Bytes) :
    l.drop (l.takeWhile p).length = l.dropWhile p := by
  induction l with
  | nil => rfl
  | cons a t ih =>
    simp only [List.takeWhile_cons, List.dropWhile_cons]
    split
    · simpa using ih
    · rfl

/-- "Skip leading zero bytes" of the sparse loop (`blk ≠ 0`): the buffer is the zeros skipped and the rest. -/
theorem skip_zeros_split (blk : Nat) (buf : Bytes) :
    let k := if blk = 0 then 0 else (buf.takeWhile (· == 0)).length
    zeros k ++ buf.drop k = buf := by
  intro k
  by_cases hb : blk = 0
  · simp only [k, hb, ↓reduceIte, zeros_zero, List.nil_append, List.drop_zero]
  · simp only [k, hb, ↓reduceIte]
    rw [← takeWhile_zero_eq, drop_length_takeWhile, List.takeWhile_append_dropWhile]

/-- The target name is bound to inode 0, which holds the old content and which
neither the descriptor nor the temporary name refers to. -/
structure Pre (old : Bytes) (fs : FS) : Prop where
  tgt : fs.target = some 0
  ino0 : fs.inodes[0]? = some old
  fd0 : fs.fd ≠ some 0
  tmp0 : fs.tmp ≠ some 0

variable {F : Nat → Bool} {old new : Bytes} {fs : FS} {w : World} {op : Op}

theorem Pre.view (h : Pre old fs) : fs.view .target = some old := by
  simp [FS.view, FS.lookup, h.tgt, h.ino0]

/-- Calls that never change what the target name resolves to while `Pre` holds. -/
def Op.benign : Op → Bool
  | .unlink .target => false
  | .rename _ .target => false
  | .rename .target _ => false
  | _ => true

/-- Calls without any effect on the file-system state. -/
def Op.noFx : Op → Bool
  | .lstat _ | .fstat | .fchmod | .fchown | .futimens | .lseek _ | .lchown _ | .chmod _ | .utimensat _ => true
  | _ => false

def Op.notUnlinkTmp : Op → Bool
  | .unlink .tmp => false
  | _ => true

/-- Calls that keep the target and are not the cleaning unlink: all that the writer
issues except the final rename and the unlink of the temporary file. -/
def Op.quiet (op : Op) : Bool := op.benign && op.notUnlinkTmp

theorem noFx_quiet (h : op.noFx = true) : op.quiet = true := by
  cases op <;> first | rfl | cases h

theorem step_noFx (h : op.noFx = true) : (fs.step op).1 = fs := by
  cases op <;> first | rfl | cases h

/-- A fresh inode, to which the descriptor and the temporary name then refer. -/
private theorem Pre.fresh (h : Pre old fs) :
    Pre old { fs with tmp := some fs.inodes.length, inodes := fs.inodes ++ [[]], fd := some fs.inodes.length,
                      fdOn := .tmp } := by
  obtain ⟨hlen, _⟩ := List.getElem?_eq_some_iff.mp h.ino0
  have hne : some fs.inodes.length ≠ some 0 := fun e => Nat.ne_of_gt hlen (Option.some.inj e)
  exact ⟨h.tgt, by rw [List.getElem?_append_left hlen]; exact h.ino0, hne, hne⟩

/-- The descriptor writes to an inode other than inode 0. -/
private theorem Pre.setIno (h : Pre old fs) {i : Nat} (hi : fs.fd = some i) (c : Bytes) : Pre old (fs.setIno i c) :=
  ⟨h.tgt, (List.getElem?_set_ne fun (e : i = 0) => h.fd0 (e ▸ hi)).trans h.ino0, h.fd0, h.tmp0⟩

theorem pre_step (h : Pre old fs) (hb : op.benign = true) : Pre old (fs.step op).1 := by
  cases op with
  | openExcl n =>
    cases n with
    | target => simp [FS.step, FS.lookup, h.tgt]; exact h
    | tmp =>
      simp only [FS.step, FS.lookup]
      split
      · exact h
      · exact h.fresh
  | mkstemp =>
    simp only [FS.step]
    split
    · exact h
    · exact h.fresh
  | unlink n =>
    cases n with
    | target => simp [Op.benign] at hb
    | tmp =>
      simp only [FS.step, FS.lookup]
      split
      · exact ⟨h.tgt, h.ino0, h.fd0, by simp [FS.bind]⟩
      · exact h
  | rename a b =>
    cases a <;> cases b <;> simp [Op.benign] at hb
    simp only [FS.step, FS.lookup]
    split
    · rename_i i hi
      exact ⟨h.tgt, h.ino0, h.fd0, by simp only [FS.bind]; rw [hi.symm]; exact h.tmp0⟩
    · exact h
  | close =>
    simp only [FS.step]
    split
    · exact ⟨h.tgt, h.ino0, by simp, h.tmp0⟩
    · exact h
  | write off d =>
    simp only [FS.step]
    split
    · exact h.setIno ‹_› _
    · exact h
  | ftruncate n =>
    simp only [FS.step]
    split
    · exact h.setIno ‹_› _
    · exact h
  | _ => exact h

theorem Res.isOk_ok (v : Nat) : (Res.ok v).isOk = true := rfl
theorem Res.isOk_inj : Res.inj.isOk = false := rfl

theorem sys_log (F : Nat → Bool) (w : World) (op : Op) :
    (sys F w op).1.log = w.log ++ [⟨op, (sys F w op).2, (sys F w op).1.fs⟩] := by
  unfold sys; split <;> simp

theorem sys_log_length (F : Nat → Bool) (w : World) (op : Op) :
    (sys F w op).1.log.length = w.log.length + 1 := by rw [sys_log]; simp

/-- A call either is made to fail by the fault set or has its kernel semantics. -/
theorem sys_cases (F : Nat → Bool) (w : World) (op : Op) :
    (F w.log.length = true ∧ (sys F w op).2 = .inj ∧
      (sys F w op).1.fs = if op = .close then (w.fs.step .close).1 else w.fs) ∨
    ((sys F w op).2 = Res.ofOpt (w.fs.step op).2 ∧ (sys F w op).1.fs = (w.fs.step op).1) := by
  unfold sys
  cases F w.log.length <;> simp

/-- A call that the kernel accepts on the file system `fs` either succeeds with the
kernel's answer, or was made to fail and changed nothing. -/
theorem sys_of_step {fs' : FS} {v : Nat}
    (hw : w.fs = fs) (h : fs.step op = (fs', some v)) (hc : op ≠ .close := by nofun) :
    ((sys F w op).2 = .inj ∧ (sys F w op).1.fs = fs) ∨
    ((sys F w op).2 = .ok v ∧ (sys F w op).1.fs = fs') := by
  subst hw
  rcases sys_cases F w op with ⟨_, h1, h2⟩ | ⟨h1, h2⟩
  · exact Or.inl ⟨h1, by rw [h2, if_neg hc]⟩
  · exact Or.inr ⟨by rw [h1, h]; rfl, by rw [h2, h]⟩

theorem sys_noFx (h : op.noFx = true) : (sys F w op).1.fs = w.fs := by
  rcases sys_cases F w op with ⟨_, _, h2⟩ | ⟨_, h2⟩
  · rw [h2, if_neg (by rintro rfl; cases h)]
  · rw [h2, step_noFx h]

theorem sys_pre (h : Pre old w.fs)
    (hb : op.benign = true) : Pre old (sys F w op).1.fs := by
  rcases sys_cases F w op with ⟨_, _, h2⟩ | ⟨_, h2⟩
  · rw [h2]; split
    · exact pre_step h rfl
    · exact h
  · rw [h2]; exact pre_step h hb

def Good (old new : Bytes) (fs : FS) : Prop :=
  fs.view .target = some old ∨ fs.view .target = some new

def LogGood (old new : Bytes) (w : World) : Prop := ∀ ev ∈ w.log, Good old new ev.post

/-- An unlink of the temporary file was itself made to fail (nothing can clean up then). -/
def Leak (w : World) : Prop := ∃ ev ∈ w.log, ev.op = .unlink .tmp ∧ ev.res = .inj

/-- Some call issued so far was made to fail. -/
def HasInj (F : Nat → Bool) (w : World) : Prop := ∃ k, k < w.log.length ∧ F k = true

/-- Every unlink of the temporary file that was made to fail comes after an earlier
injected failure (both are elements of the fault set). -/
def UAF (F : Nat → Bool) (w : World) : Prop :=
  ∀ l1 ev l2, w.log = l1 ++ ev :: l2 → ev.op = .unlink .tmp → ev.res = .inj →
    ∃ k, k < l1.length ∧ F k = true ∧ F l1.length = true

theorem sys_logGood (h : LogGood old new w)
    (hg : Good old new (sys F w op).1.fs) : LogGood old new (sys F w op).1 := by
  intro ev hev
  rw [sys_log, List.mem_append, List.mem_singleton] at hev
  rcases hev with h1 | rfl
  · exact h ev h1
  · exact hg

theorem leak_mono (h : Leak w) : Leak (sys F w op).1 := by
  obtain ⟨ev, hm, hop⟩ := h
  exact ⟨ev, by rw [sys_log]; exact List.mem_append_left _ hm, hop⟩

theorem hasInj_mono (h : HasInj F w) : HasInj F (sys F w op).1 := by
  obtain ⟨k, hk, hf⟩ := h
  exact ⟨k, by rw [sys_log_length]; omega, hf⟩

theorem sys_inj_F (h : (sys F w op).2 = .inj) : F w.log.length = true := by
  rcases sys_cases F w op with ⟨hf, _⟩ | ⟨h1, _⟩
  · exact hf
  · rw [h1] at h
    cases h2 : (w.fs.step op).2 <;> rw [h2] at h <;> cases h

theorem sys_inj_hasInj (h : (sys F w op).2 = .inj) :
    HasInj F (sys F w op).1 :=
  ⟨w.log.length, by rw [sys_log_length]; omega, sys_inj_F h⟩

/-- After the cleaning unlink the temporary name is gone, unless the unlink was made to fail. -/
theorem sys_unlink_tmp (F : Nat → Bool) (w : World) :
    Leak (sys F w (.unlink .tmp)).1 ∨ (sys F w (.unlink .tmp)).1.fs.tmp = none := by
  rcases sys_cases F w (.unlink .tmp) with ⟨_, h1, _⟩ | ⟨_, h2⟩
  · exact Or.inl ⟨_, by rw [sys_log]; exact List.mem_append_right _ (List.mem_singleton_self _), rfl, h1⟩
  · right
    rw [h2]
    simp only [FS.step, FS.lookup]
    split
    · rfl
    · assumption

private theorem split_snoc {α : Type} {l l1 l2 : List α} {x ev : α} (h : l ++ [x] = l1 ++ ev :: l2) :
    (l2 = [] ∧ l1 = l ∧ ev = x) ∨ (∃ l2', l2 = l2' ++ [x] ∧ l = l1 ++ ev :: l2') := by
  rcases List.eq_nil_or_concat l2 with rfl | ⟨l2', y, rfl⟩
  · left
    have h' : l ++ [x] = l1 ++ [ev] := h
    have := List.append_inj' h' rfl
    exact ⟨rfl, this.1.symm, by simpa using this.2.symm⟩
  · right
    have h' : l ++ [x] = (l1 ++ ev :: l2') ++ [y] := by simpa using h
    have := List.append_inj' h' rfl
    refine ⟨l2', ?_, this.1⟩
    have : x = y := by simpa using this.2
    rw [this]; simp

/-- `UAF` survives every call, provided the cleaning unlink is only issued after a fault. -/
theorem sys_UAF (h : UAF F w)
    (hu : op = .unlink .tmp → HasInj F w) : UAF F (sys F w op).1 := by
  intro l1 ev l2 hl ho hr
  rw [sys_log] at hl
  rcases split_snoc hl with ⟨_, h1, he⟩ | ⟨l2', _, hl'⟩
  · subst h1 he
    obtain ⟨k, hk, hf⟩ := hu ho
    exact ⟨k, hk, hf, sys_inj_F hr⟩
  · exact h l1 ev l2' hl' ho hr

/-- What the writer keeps true of the world up to the final rename: the target is the
old file, was so or was the new file at every call so far, and the cleaning unlink has
only been issued after a fault. -/
structure Safe (F : Nat → Bool) (old new : Bytes) (w : World) : Prop where
  pre : Pre old w.fs
  log : LogGood old new w
  uaf : UAF F w

theorem Safe.sys (h : Safe F old new w)
    (hb : op.benign = true) (hu : op = .unlink .tmp → HasInj F w) : Safe F old new (sys F w op).1 :=
  have hp := sys_pre (F := F) h.pre hb
  ⟨hp, sys_logGood h.log (Or.inl hp.view), sys_UAF h.uaf hu⟩

theorem Safe.quiet (h : Safe F old new w) (hq : op.quiet = true) : Safe F old new (SafeWrite.sys F w op).1 := by
  rw [Op.quiet, Bool.and_eq_true] at hq
  exact h.sys hq.1 fun e => by rw [e] at hq; cases hq.2

/-- `w'` is reached from `w` by calls of class `Op.noFx` only: every predicate that such
calls preserve is carried over. -/
def Frame (F : Nat → Bool) (w w' : World) : Prop :=
  ∀ P : World → Prop, (∀ w op, P w → op.noFx = true → P (sys F w op).1) → P w → P w'

variable {a b c : World}

theorem Frame.refl (w : World) : Frame F w w := fun _ _ h => h

theorem Frame.trans (h1 : Frame F a b) (h2 : Frame F b c) : Frame F a c :=
  fun P hs hp => h2 P hs (h1 P hs hp)

theorem Frame.snoc (h1 : Frame F a b) (hc : op.noFx = true) : Frame F a (sys F b op).1 :=
  fun P hs hp => hs _ _ (h1 P hs hp) hc

theorem Frame.fs_eq (h : Frame F a b) : b.fs = a.fs :=
  h (fun w => w.fs = a.fs) (fun _ _ hw hb => by rw [sys_noFx hb]; exact hw) rfl

theorem Frame.safe (h : Frame F a b) (hp : Safe F old new a) : Safe F old new b :=
  h (Safe F old new) (fun _ _ hw hq => hw.quiet (noFx_quiet hq)) hp

theorem Frame.uaf (h : Frame F a b) (hu : UAF F a) : UAF F b :=
  h (UAF F) (fun _ op hw hq => sys_UAF hw fun e => by rw [e] at hq; cases hq) hu

theorem Frame.hasInj (h : Frame F a b) (hi : HasInj F a) : HasInj F b :=
  h (HasInj F) (fun _ _ hw _ => hasInj_mono hw) hi

theorem Frame.leak (h : Frame F a b) (hl : Leak a) : Leak b :=
  h Leak (fun _ _ hw _ => leak_mono hw) hl

theorem Frame.logGood (h : Frame F a b) (hg : Good old new a.fs) (hl : LogGood old new a) : LogGood old new b :=
  (h (fun w => w.fs = a.fs ∧ LogGood old new w) (fun w op hw hb =>
    have hfs : (sys F w op).1.fs = a.fs := by rw [sys_noFx hb]; exact hw.1
    ⟨hfs, sys_logGood hw.2 (by rw [hfs]; exact hg)⟩) ⟨rfl, hl⟩).2

end LA.SafeWrite
