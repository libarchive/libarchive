/-
Invariants of the handle life-cycle model (property C07): what stays true of a
handle of each kind along every history (`Inv`), why `free` then leaves nothing
behind (`free_clean`), and why a reader that has ended never yields an entry
again (`ended_never_yields`).  Property theorems are in `LA/Props/C07.lean`.
-/
import LA.Lemmas.Handle
namespace LA.Handle
open LA.Gen.ApiStates

def Ended (h : Handle) : Prop := h.st = .eof ∨ h.st = .closed ∨ h.st = .fatal

theorem ended_fatal (h : Handle) : Ended { h with st := .fatal } := Or.inr (Or.inr rfl)

theorem ended_checked (h : Handle) (f : String) (body : Handle → Handle × Rc)
    (he : Ended h) (hb : Ended (body h).1) : Ended (checked h f body).1 :=
  checked_ind (P := fun p => Ended p.1) h f body he (ended_fatal h) hb

theorem ended_refused {h : Handle} {f : String} {body : Handle → Handle × Rc} {m : Nat}
    (hk : h.kind = .read) (hm : maskOf .read f = some m) (he : Ended h)
    (hmask : allowed .eof m = false ∧ allowed .closed m = false ∧ allowed .fatal m = false) :
    checked h f body = ({ h with st := .fatal }, .fatal) := by
  rw [checked_k hk hm]
  rcases he with e | e | e <;> simp [e, hmask]

theorem rClose_ended (o : Outcome) (h : Handle) (he : Ended h) : Ended (rClose o h).1 := by
  refine ended_checked _ _ _ he ?_
  split
  · exact he
  · exact Or.inr (Or.inl (by simp))

/-- Once ended, always ended: no call of the reader's API leads back to HEADER
or DATA (`archive_read_open1` needs NEW, `archive_read_data_skip` needs DATA). -/
theorem ended_step (h : Handle) (hk : h.kind = .read) (he : Ended h) (op : Op) (o : Outcome) :
    Ended (step h op o).1 := by
  refine step_ind (P := fun p => Ended p.1) h op o he he fun _ hb => ?_
  rw [hk] at hb
  cases op with
  | plain f =>
    refine ended_checked _ _ _ he ?_
    split
    · exact ended_fatal h
    · exact he
  | unchecked => exact he
  | fail => exact ended_fatal h
  | rSetReader | rReadDataBlock | rSeekData => exact ended_checked _ _ _ he he
  | rOpen w reg =>
    refine (rOpen_ind (Q := fun g => g.kind = .read ∧ Ended g) h w reg o ⟨hk, he⟩
      (fun g q => ⟨q.1, ended_fatal g⟩) (fun g q => q) fun g q => ?_).2
    rw [ended_refused q.1 tbl_read_archive_read_open1 q.2 (by decide)]
    exact ⟨q.1, ended_fatal g⟩
  | rNextHeader =>
    simp only [stepCore, ended_refused hk tbl_read_archive_read_next_header2 he (by decide)]
    exact ended_fatal h
  | rReadData =>
    simp only [stepCore]
    split
    · exact he
    · exact ended_checked _ _ _ he he
  | rDataSkip =>
    simp only [stepCore, rDataSkip, ended_refused hk tbl_read_archive_read_data_skip he (by decide)]
    exact ended_fatal h
  | close =>
    simp only [stepCore, hk]
    exact rClose_ended o h he
  | free =>
    simp only [stepCore, hk]
    refine ended_checked _ _ _ he ?_
    have h1 : Ended (if h.st != .closed && h.st != .fatal then (rClose o h).1 else h) := by
      split
      · exact rClose_ended o h he
      · exact he
    simpa [Ended] using h1
  | _ => simp [Op.belongs] at hb

/-- Whatever the format's `read_header` and the skip of the previous body returned:
when `_archive_read_next_header2` answers EOF or FATAL it leaves the reader ended.
The skip's result `r1` decides the answer only when it is not EOF or FATAL itself
(those make the call fail outright), so such an answer is `read_header`'s. -/
theorem rNextHeaderBody_ends (o : Outcome) (h : Handle)
    (hr : (rNextHeaderBody o h).2 = .eof ∨ (rNextHeaderBody o h).2 = .fatal) :
    Ended (rNextHeaderBody o h).1 := by
  simp only [rNextHeaderBody] at hr ⊢
  have hp : h.st ≠ .data → (if h.st == .data then rDataSkip h o.rc2 else (h, Rc.ok)).2 = .ok := by
    intro hd; simp [hd]
  generalize (if h.st == .data then rDataSkip h o.rc2 else (h, Rc.ok)) = p at hp hr ⊢
  split
  · exact ended_fatal p.1
  · next hc =>
    have r1 : p.2 ≠ .eof ∧ p.2 ≠ .fatal := by
      by_cases hd : h.st = .data
      · simpa [hd] using hc
      · simp [hp hd]
    rw [if_neg hc] at hr
    have r2 : o.rc = .eof ∨ o.rc = .fatal := by
      simp only at hr
      split at hr
      · exact hr
      · exact absurd hr (by simp [r1])
    rcases r2 with e | e <;> simp [e, Ended]

/-- `archive_read_next_header` returning EOF or FATAL leaves the reader ended,
whatever the format's `read_header` and the skip of the previous body returned. -/
theorem next_header_ends (h : Handle) (hk : h.kind = .read) (halive : h.alive = true) (o : Outcome)
    (hr : (step h .rNextHeader o).2 = .eof ∨ (step h .rNextHeader o).2 = .fatal) :
    Ended (step h .rNextHeader o).1 := by
  rw [step_core h _ o halive (by rw [hk]; rfl)] at hr ⊢
  revert hr
  refine checked_ind (P := fun p => (p.2 = .eof ∨ p.2 = .fatal) → Ended p.1) h _ _ ?_ ?_ ?_
  · intro hr; simp at hr
  · intro _; exact ended_fatal h
  · exact rNextHeaderBody_ends o h

/-- Did some `next_header` of the history return an entry (OK or WARN)? -/
def yields : List (Op × Outcome) → List Rc → Bool
  | (op, _) :: ops, r :: rs => (op == .rNextHeader && (r == .ok || r == .warn)) || yields ops rs
  | _, _ => false

theorem ended_never_yields (rest : List (Op × Outcome)) :
    ∀ h : Handle, h.kind = .read → Ended h → yields rest (run h rest).2 = false := by
  induction rest with
  | nil => intro h _ _; rfl
  | cons p rest ih =>
    intro h hk he
    obtain ⟨op, o⟩ := p
    simp only [run, yields]
    rw [ih _ ((step_kind h op o).trans hk) (ended_step h hk he op o)]
    simp only [Bool.or_false, Bool.and_eq_false_imp, beq_iff_eq]
    intro hop; subst hop
    refine step_ind (P := fun p => (p.2 == Rc.ok || p.2 == Rc.warn) = false) h _ o rfl rfl fun _ _ => ?_
    simp only [stepCore, ended_refused hk tbl_read_archive_read_next_header2 he (by decide)]
    rfl

/-- Everything the handle ever acquired has been released, once: nothing is left
in the ledger, nothing was released twice, nothing was dropped unreleased. -/
abbrev Clean (h : Handle) : Prop := ledger h = Ledger.empty ∧ h.bad = 0 ∧ h.lost = 0

/-- What holds of a live handle along every history in which no `write_header` allocates a
per-entry compressor (hence `ent = false` for the writer): nothing was released twice or lost,
the fields of the other kinds are unused, and per kind what `close` and `free` need in order to
release everything once.  In the proofs `simp only [Inv, hk] at hi` turns the invariant of a
handle of known kind into the conjunction for that kind. -/
def Inv (h : Handle) : Prop :=
  h.alive = true ∧ h.bad = 0 ∧ h.lost = 0 ∧
  match h.kind with
  | .«match» => h.filters = [] ∧ h.client = false ∧ h.ent = false ∧ h.fd = false ∧ h.fixups = 0 ∧
      h.tree = false ∧ h.topen = false
  | .readDisk => h.filters = [] ∧ h.client = false ∧ h.ent = false ∧ h.fd = false ∧ h.fixups = 0 ∧
      (h.topen = true → h.tree = true) ∧ (h.st = .closed → h.topen = false)
  | .writeDisk => h.filters = [] ∧ h.client = false ∧ h.tree = false ∧ h.topen = false ∧
      (h.st = .header ∨ h.st = .data ∨ h.st = .fatal) ∧ (h.st = .header → h.fd = false)
  | .read => h.ent = false ∧ h.fd = false ∧ h.fixups = 0 ∧ h.tree = false ∧ h.topen = false ∧
      h.client = (h.filters.getLast? == some .opened) ∧ (h.st = .new → h.filters = [])
  | .write => h.fd = false ∧ h.fixups = 0 ∧ h.tree = false ∧ h.topen = false ∧ h.ent = false ∧
      (h.client = true → h.filters ≠ []) ∧ (h.st = .new → h.client = false) ∧
      ((h.st = .new ∨ h.st = .closed) → openCount h.filters = 0)

namespace Inv
variable {h : Handle} (hi : Inv h)
include hi

theorem disk_st (hk : h.kind = .writeDisk) : h.st = .header ∨ h.st = .data ∨ h.st = .fatal := by
  simp only [Inv, hk] at hi; exact hi.2.2.2.2.2.2.2.1
theorem disk_fd (hk : h.kind = .writeDisk) (hs : h.st = .header) : h.fd = false := by
  simp only [Inv, hk] at hi; exact hi.2.2.2.2.2.2.2.2 hs
theorem tree_closed (hk : h.kind = .readDisk) (hs : h.st = .closed) : h.topen = false := by
  simp only [Inv, hk] at hi; exact hi.2.2.2.2.2.2.2.2.2 hs
theorem read_new (hk : h.kind = .read) (hs : h.st = .new) : h.filters = [] := by
  simp only [Inv, hk] at hi; exact hi.2.2.2.2.2.2.2.2.2 hs
theorem write_ent (hk : h.kind = .write) : h.ent = false := by
  simp only [Inv, hk] at hi; exact hi.2.2.2.2.2.2.2.1
theorem write_new (hk : h.kind = .write) (hs : h.st = .new) : h.client = false := by
  simp only [Inv, hk] at hi; exact hi.2.2.2.2.2.2.2.2.2.1 hs
theorem write_unopened (hk : h.kind = .write) (hs : h.st = .new ∨ h.st = .closed) : openCount h.filters = 0 := by
  simp only [Inv, hk] at hi; exact hi.2.2.2.2.2.2.2.2.2.2 hs

end Inv

theorem inv_match (h : Handle) (hk : h.kind = .«match») : Inv h ↔
    (h.alive = true ∧ h.bad = 0 ∧ h.lost = 0 ∧ h.filters = [] ∧ h.client = false ∧ h.ent = false ∧
     h.fd = false ∧ h.fixups = 0 ∧ h.tree = false ∧ h.topen = false) := by unfold Inv; rw [hk]

theorem clean_iff (h : Handle) : Clean h ↔
    (h.alive = false ∧ h.regs = 0 ∧ h.filters = [] ∧ h.client = false ∧ h.ent = false ∧ h.fd = false ∧
     h.fixups = 0 ∧ h.tree = false ∧ h.topen = false ∧ h.bad = 0 ∧ h.lost = 0) := by
  have b : ∀ x : Bool, b2n x = 0 ↔ x = false := by decide
  simp only [Clean, ledger, Ledger.empty, Ledger.mk.injEq, b, List.length_eq_zero_iff]
  constructor
  · intro ⟨⟨a1, a2, a3, _, a5, a6, a7, a8, a9, a10⟩, h2, h3⟩
    exact ⟨a1, a2, a3, a5, a6, a7, a8, a9, a10, h2, h3⟩
  · intro ⟨a1, a2, a3, a4, a5, a6, a7, a8, a9, a10, a11⟩
    exact ⟨⟨a1, a2, a3, by rw [a3]; rfl, a4, a5, a6, a7, a8, a9⟩, a10, a11⟩

/-- FATAL is a state in which every conjunct that mentions the state holds. -/
theorem inv_fatal (h : Handle) (hi : Inv h) : Inv { h with st := .fatal } := by
  unfold Inv at *
  cases hk : h.kind <;> simp_all

theorem inv_checked (h : Handle) (f : String) (body : Handle → Handle × Rc)
    (hi : Inv h) (hb : Inv (body h).1) : Inv (checked h f body).1 :=
  checked_ind (P := fun p => Inv p.1) h f body hi (inv_fatal h hi) hb

theorem kClose_inv (h : Handle) (hk : h.kind = .readDisk) (hi : Inv h) :
    Inv (kClose h).1 ∧ (kClose h).1.topen = false := by
  rw [kClose_fst h hk]
  simp only [Inv, hk] at hi
  have ht : (h.topen && !h.tree) = false := by cases ho : h.topen <;> simp_all
  split <;> simp [Inv, hk, hi, ht]

theorem dFinishEntry_data (h : Handle) (o : Outcome) (hk : h.kind = .writeDisk) (hd : h.st = .data) :
    dFinishEntry o h = (if o.alt == 2 then (relFd h, o.rc2)
      else ({ relEnt (relFd h) with st := .header }, o.rc2)) := by
  rw [dFinishEntry, checked_k hk tbl_writeDisk_archive_write_disk_finish_entry, allowed_6]
  simp [hd]

theorem dFinishEntry_inv (h : Handle) (o : Outcome) (hk : h.kind = .writeDisk) (hi : Inv h) :
    Inv (dFinishEntry o h).1 := by
  refine inv_checked _ _ _ hi ?_
  split
  · exact hi
  · simp only [Inv, hk] at hi
    split <;> simp [Inv, hk, hi]

theorem dHeaderBody_inv (h : Handle) (o : Outcome) (hk : h.kind = .writeDisk) (hi : Inv h)
    (hs : h.st = .header ∨ h.st = .data) : Inv (dHeaderBody o h).1 := by
  -- once a pending entry is finished no descriptor is open, so the new entry loses none
  have hp : ∀ p, p = (if h.st == .data then dFinishEntry o h else (h, Rc.ok)) →
      p.1.kind = .writeDisk ∧ Inv p.1 ∧ p.1.fd = false := by
    intro p e
    rcases hs with hs | hs
    · simp only [hs, show (St.header == St.data) = false from rfl] at e
      subst e
      exact ⟨hk, hi, hi.disk_fd hk hs⟩
    · simp only [hs, beq_self_eq_true, if_true] at e
      subst e
      refine ⟨(dFinishEntry_kind o h).trans hk, dFinishEntry_inv h o hk hi, ?_⟩
      rw [dFinishEntry_data h o hk hs]; split <;> simp
  simp only [dHeaderBody]
  generalize (if h.st == .data then dFinishEntry o h else (h, Rc.ok)) = p at hp
  obtain ⟨pk, pi, pfd⟩ := hp p rfl
  split
  · exact pi
  · simp only [Inv, pk] at pi
    split
    · simp [Inv, b2n, *]
    · split <;> simp [Inv, b2n, *]

theorem dClose_inv (h : Handle) (o : Outcome) (hk : h.kind = .writeDisk) (hi : Inv h) :
    Inv (dClose o h).1 ∧ (dClose o h).1.fd = false ∧ (dClose o h).1.fixups = 0 := by
  rw [dClose_fst o h hk]
  simp only [Inv, hk] at hi
  obtain ⟨a1, a2, a3, a4, a5, a6, a7, a8, a9⟩ := hi
  rcases a8 with e | e | e <;> simp [e] at a9 ⊢
  · simp [Inv, *]
  · split <;> simp [Inv, *]
  · simp [Inv, *]

theorem inv_read_st (h : Handle) (s : St) (hk : h.kind = .read) (hs : s = .new → h.st = .new) (hi : Inv h) :
    Inv { h with st := s } := by
  simp only [Inv, hk] at hi ⊢
  obtain ⟨a1, a2, a3, a4, a5, a6, a7, a8, a9, a10⟩ := hi
  exact ⟨a1, a2, a3, a4, a5, a6, a7, a8, a9, fun e => a10 (hs e)⟩

theorem rOpen1Body_inv (h : Handle) (o : Outcome) (hk : h.kind = .read) (hi : Inv h) (hs : h.st = .new) :
    Inv (rOpen1Body o h).1 := by
  have hi' := hi
  simp only [Inv, hk] at hi'
  have hf := hi.read_new hk hs
  unfold rOpen1Body
  split
  · exact inv_fatal h hi
  · simp only
    split <;>
      simp [Inv, hk, hi', hf, rSetFilters, b2n, List.getLast?_replicate]

theorem rDataSkip_inv (h : Handle) (r : Rc) (hk : h.kind = .read) (hi : Inv h) : Inv (rDataSkip h r).1 :=
  inv_checked _ _ _ hi (inv_read_st h _ hk (fun e => nomatch e) hi)

theorem rNextHeaderBody_inv (h : Handle) (o : Outcome) (hk : h.kind = .read) (hi : Inv h) :
    Inv (rNextHeaderBody o h).1 := by
  have hp : ∀ p, p = (if h.st == .data then rDataSkip h o.rc2 else (h, Rc.ok)) →
      p.1.kind = .read ∧ Inv p.1 := by
    intro p e; subst e
    split
    · exact ⟨(rDataSkip_kind h _).trans hk, rDataSkip_inv h _ hk hi⟩
    · exact ⟨hk, hi⟩
  simp only [rNextHeaderBody]
  generalize (if h.st == .data then rDataSkip h o.rc2 else (h, Rc.ok)) = p at hp
  obtain ⟨pk, pi⟩ := hp p rfl
  split
  · exact inv_fatal _ pi
  · -- the new state is never NEW unless it is the old one
    exact inv_read_st _ _ pk (by cases o.rc <;> simp) pi

theorem rClose_inv (h : Handle) (o : Outcome) (hk : h.kind = .read) (hi : Inv h) : Inv (rClose o h).1 := by
  refine inv_checked _ _ _ hi ?_
  split
  · exact hi
  · simp only [Inv, hk] at hi
    simp [Inv, hk, hi, b2n]

theorem wOpenFilters_go_length (l : List FSt) (g : Nat) : (wOpenFilters.go l g).length = l.length := by
  induction l generalizing g with
  | nil => simp [wOpenFilters.go]
  | cons a t ih =>
    unfold wOpenFilters.go
    split
    · rfl
    · cases g <;> simp [ih]

theorem wOpenFilters_length (l : List FSt) (g : Nat) : (wOpenFilters l g).length = l.length := by
  simp [wOpenFilters, wOpenFilters_go_length]

theorem inv_write_st (h : Handle) (s : St) (hk : h.kind = .write) (hs : s ≠ .new ∧ s ≠ .closed) (hi : Inv h) :
    Inv { h with st := s } := by
  simp only [Inv, hk] at hi
  simp_all [Inv]

theorem wFinishEntry_inv (h : Handle) (r : Rc) (hk : h.kind = .write) (hi : Inv h) :
    Inv (wFinishEntry h r).1 := by
  refine inv_checked _ _ _ hi ?_
  simp only [Inv, hk] at hi
  split <;> simp_all [Inv]

theorem wHeaderBody_inv (h : Handle) (o : Outcome) (hk : h.kind = .write) (hi : Inv h)
    (hflag : o.flag = false) : Inv (wHeaderBody o h).1 := by
  have pk := (wFinishEntry_kind h o.rc2).trans hk
  have pi := wFinishEntry_inv h o.rc2 hk hi
  simp only [wHeaderBody]
  generalize wFinishEntry h o.rc2 = p at pk pi
  -- every exit returns the handle `finish_entry` left, that handle failed, or that
  -- handle with the new entry begun (no compressor allocated, none was pending)
  have hfat := inv_fatal _ pi
  have hnew : Inv { p.1 with st := .data, ent := o.flag, lost := p.1.lost + b2n p.1.ent } := by
    have := inv_write_st _ .data pk (by decide) pi
    simpa [hflag, pi.write_ent pk, b2n] using this
  exact ite_ind (inv_fatal h hi) <| ite_ind hfat <| ite_ind pi <| ite_ind pi <| ite_ind pi <|
    ite_ind hfat <| ite_ind pi <| ite_ind hfat hnew

theorem wCloseFilters_inv (h : Handle) (hk : h.kind = .write) (hi : Inv h) : Inv (wCloseFilters h) := by
  simp only [Inv, hk] at hi
  simp_all [Inv, openCount_map_closeF]

theorem wClose_inv (h : Handle) (o : Outcome) (hk : h.kind = .write) (hi : Inv h) :
    Inv (wClose o h).1 ∧ (h.st ≠ .fatal → openCount (wClose o h).1.filters = 0) := by
  rw [wClose_fst o h hk]
  split
  · next hs =>
    exact ⟨hi, fun _ => hi.write_unopened hk hs⟩
  · split
    · next hs => exact ⟨wCloseFilters_inv h hk hi, fun hn => absurd hs hn⟩
    · simp only [Inv, hk] at hi
      split <;> simp_all [Inv, openCount_map_closeF]

theorem wOpenBody_inv (h : Handle) (o : Outcome) (hk : h.kind = .write) (hi : Inv h) (hs : h.st = .new) :
    Inv (wOpenBody o h).1 := by
  have hc : h.client = false := hi.write_new hk hs
  simp only [Inv, hk] at hi
  have hne : wOpenFilters (h.filters ++ [FSt.new]) o.n ≠ [] := by
    intro e
    have := congrArg List.length e
    rw [wOpenFilters_length] at this
    simp at this
  simp only [wOpenBody]
  split
  · -- the open failed: filters closed and freed, the handle is still new
    simp [Inv, hk, hi, hs, hne, openCount_map_closeF, b2n, openCount]
  · simp [Inv, hk, hi, hc, hne, b2n]

theorem inv_new (k : Kind) : Inv (new k) := by cases k <;> simp [Inv, new, openCount]

theorem inv_step (h : Handle) (op : Op) (o : Outcome) (hi : Inv h) (hop : op ≠ .free)
    (hflag : op = .wHeader → o.flag = false) : Inv (step h op o).1 := by
  refine step_ind (P := fun p => Inv p.1) h op o hi hi fun _ hb => ?_
  cases op with
  | plain f | kReadDataBlock =>
    refine inv_checked _ _ _ hi ?_
    split
    · exact inv_fatal h hi
    · exact hi
  | unchecked => exact hi
  | fail => exact inv_fatal h hi
  | free => exact absurd rfl hop
  | lookup pre setter =>
    have h1 := inv_checked h setter (fun h => ({ h with regs := max h.regs 1 }, Rc.ok)) hi hi
    exact inv_checked _ _ _ hi (inv_checked _ _ _ h1 h1)
  | wAddFilter f =>
    have hk : h.kind = .write := eq_of_beq hb
    refine inv_checked _ _ _ hi ?_
    simp only [Inv, hk] at hi
    simp_all [Inv, openCount_append, openCount]
  | wOpen w =>
    have hk : h.kind = .write := eq_of_beq hb
    have inner : Inv (checked h "archive_write_open2" (wOpenBody o)).1 := by
      rw [checked_k hk tbl_write_archive_write_open2, allowed_1]
      split
      · next hst => exact wOpenBody_inv h o hk hi (by simpa using hst)
      · exact inv_fatal h hi
    cases w with
    | none => exact inner
    | some w => exact inv_checked _ _ _ hi inner
  | wHeader => exact inv_checked _ _ _ hi (wHeaderBody_inv h o (eq_of_beq hb) hi (hflag rfl))
  | wFinishEntry => exact wFinishEntry_inv h _ (eq_of_beq hb) hi
  | rOpen w reg =>
    refine (rOpen_ind (Q := fun g => g.kind = .read ∧ Inv g) h w reg o ⟨eq_of_beq hb, hi⟩
      (fun g q => ⟨q.1, inv_fatal g q.2⟩) (fun g q => q) fun g q => ?_).2
    refine ⟨(checked_kind _ _ _ (rOpen1Body_kind o g)).trans q.1, ?_⟩
    rw [checked_k q.1 tbl_read_archive_read_open1, allowed_1]
    split
    · next hst => exact rOpen1Body_inv g o q.1 q.2 (by simpa using hst)
    · exact inv_fatal g q.2
  | rNextHeader => exact inv_checked _ _ _ hi (rNextHeaderBody_inv h o (eq_of_beq hb) hi)
  | rReadData =>
    simp only [stepCore]
    split
    · exact hi
    · exact inv_checked _ _ _ hi hi
  | rDataSkip => exact rDataSkip_inv h _ (eq_of_beq hb) hi
  | dHeader =>
    have hk : h.kind = .writeDisk := eq_of_beq hb
    simp only [stepCore, checked_k hk tbl_writeDisk_archive_write_disk_header, allowed_6]
    split
    · next hst => exact dHeaderBody_inv h o hk hi (by simpa using hst)
    · exact inv_fatal h hi
  | dFinishEntry => exact dFinishEntry_inv h o (eq_of_beq hb) hi
  | kOpen =>
    have hk : h.kind = .readDisk := eq_of_beq hb
    refine inv_checked _ _ _ hi ?_
    split
    · exact inv_fatal h hi
    · simp only [Inv, hk] at hi
      simp_all [Inv]
  | kNextHeader =>
    have hk : h.kind = .readDisk := eq_of_beq hb
    refine inv_checked _ _ _ hi ?_
    split
    · exact inv_fatal h hi
    · -- the new state is never CLOSED unless it is the old one
      have hs : (match o.rc with
          | .eof => St.eof | .ok => .data | .warn => .data | .fatal => .fatal | _ => h.st) = .closed →
          h.st = .closed := by cases o.rc <;> simp
      simp only [Inv, hk] at hi ⊢
      obtain ⟨a1, a2, a3, a4, a5, a6, a7, a8, a9, a10⟩ := hi
      exact ⟨a1, a2, a3, a4, a5, a6, a7, a8, a9, fun e => a10 (hs e)⟩
  | close =>
    simp only [stepCore]
    split
    · next hk => exact rClose_inv h o hk hi
    · next hk => exact (wClose_inv h o hk hi).1
    · next hk => exact (dClose_inv h o hk hi).1
    · next hk => exact (kClose_inv h hk hi).1
    · exact hi
  -- the remaining calls change `regs` or `hasReader` at most, which the invariant does not mention
  | _ => exact inv_checked _ _ _ hi hi

theorem free_clean (h : Handle) (o : Outcome) (hi : Inv h) : Clean (step h .free o).1 := by
  rw [step_core h .free o hi.1 rfl, clean_iff]
  simp only [stepCore]
  split
  · next hk =>
    simp only [rFree, checked_k hk tbl_read_archive_read_free, allowed_65535, if_true]
    -- closed first or not, `free` works on a reader that satisfies the invariant
    have hg : ∀ g : Handle, g = (if h.st != .closed && h.st != .fatal then (rClose o h).1 else h) →
        g.kind = .read ∧ Inv g := by
      intro g e; subst e
      split
      · exact ⟨(rClose_kind o h).trans hk, rClose_inv h o hk hi⟩
      · exact ⟨hk, hi⟩
    generalize (if h.st != .closed && h.st != .fatal then (rClose o h).1 else h) = g at hg
    obtain ⟨gk, gi⟩ := hg g rfl
    simp only [Inv, gk] at gi
    simp [b2n, gi]
  · next hk =>
    simp only [wFree, checked_k hk tbl_write_archive_write_free, allowed_65535, if_true]
    -- either way the filters are closed before they are freed
    have hg : ∀ g : Handle, g = (if h.st != .fatal then (wClose o h).1 else wCloseFilters h) →
        g.kind = .write ∧ Inv g ∧ openCount g.filters = 0 := by
      intro g e; subst e
      split
      · next hs =>
        exact ⟨(wClose_kind o h).trans hk, (wClose_inv h o hk hi).1,
          (wClose_inv h o hk hi).2 (by simpa using hs)⟩
      · exact ⟨by simpa using hk, wCloseFilters_inv h hk hi, by simp [openCount_map_closeF]⟩
    generalize (if h.st != .fatal then (wClose o h).1 else wCloseFilters h) = g at hg
    obtain ⟨gk, gi, go⟩ := hg g rfl
    simp only [Inv, gk] at gi
    have hc : (g.client && g.filters.isEmpty) = false := by
      cases hc : g.client <;> simp_all
    simp [b2n, gi, go, hc]
  · next hk =>
    simp only [dFree, checked_k hk tbl_writeDisk_archive_write_disk_free, allowed_65535, if_true]
    obtain ⟨gi, gfd, gfx⟩ := dClose_inv h o hk hi
    simp only [Inv, (dClose_kind o h).trans hk] at gi
    simp [b2n, gi, gfd, gfx]
  · next hk =>
    simp only [kFree, checked_k hk tbl_readDisk_archive_read_free, allowed_65535, if_true]
    -- closed before or now, the tree holds nothing open when it is freed
    have hg : ∀ p : Handle × Rc, p = (if h.st != .closed then kClose h else (h, .ok)) →
        p.1.kind = .readDisk ∧ Inv p.1 ∧ p.1.topen = false := by
      intro p e; subst e
      split
      · exact ⟨(kClose_kind h).trans hk, kClose_inv h hk hi⟩
      · next hs =>
        exact ⟨hk, hi, hi.tree_closed hk (by simpa using hs)⟩
    generalize (if h.st != .closed then kClose h else (h, Rc.ok)) = p at hg
    obtain ⟨gk, gi, gt⟩ := hg p rfl
    simp only [Inv, gk] at gi
    simp [b2n, gi, gt]
  · next hk =>
    simp only [checked_k hk tbl_match_archive_match_free, allowed_65535, if_true]
    simp only [Inv, hk] at hi
    simp [b2n, hi]

theorem clean_dead (h : Handle) (hc : Clean h) (op : Op) (o : Outcome) : (step h op o).1 = h := by
  have : h.alive = false := ((clean_iff h).mp hc).1
  simp [step, this]

theorem good_step (h : Handle) (op : Op) (o : Outcome) (hg : Inv h ∨ Clean h)
    (hflag : op = .wHeader → o.flag = false) : Inv (step h op o).1 ∨ Clean (step h op o).1 := by
  rcases hg with hi | hc
  · by_cases hop : op = .free
    · subst hop; exact Or.inr (free_clean h o hi)
    · exact Or.inl (inv_step h op o hi hop hflag)
  · rw [clean_dead h hc]; exact Or.inr hc

/-- Histories in which no `write_header` outcome reports a per-entry compressor
that only the format's `finish_entry` releases (`Outcome.flag`; the zip, 7zip
and xar writers have one). -/
def NoEntryCompressor (hist : List (Op × Outcome)) : Prop :=
  ∀ p ∈ hist, p.1 = .wHeader → p.2.flag = false

theorem good_run (hist : List (Op × Outcome)) :
    ∀ h : Handle, (Inv h ∨ Clean h) → NoEntryCompressor hist → Inv (run h hist).1 ∨ Clean (run h hist).1 := by
  induction hist with
  | nil => intro h hg _; exact hg
  | cons p rest ih =>
    intro h hg hn
    obtain ⟨op, o⟩ := p
    simp only [run]
    apply ih
    · exact good_step h op o hg (hn (op, o) (by simp))
    · intro q hq; exact hn q (by simp [hq])

end LA.Handle
