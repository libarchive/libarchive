/-
Definedness through the write core (`LA.WC`): if the caller's data is
initialised, every byte offered to the client write callback by an API call is
initialised, and the pending bytes of the block buffer stay initialised — for
the raw and ustar writers, with or without a b64encode/uuencode filter.
-/
import LA.Lemmas.WriteCore
import LA.Lemmas.Ustar
namespace LA.WC
open LA.CW LA.Ustar

def CellsDef (l : List Cell) : Prop := ∀ c ∈ l, c.isSome = true
def OffersDef (evs : List Event) : Prop := ∀ e ∈ evs, CellsDef e.offer
/-- The block buffer, if allocated, is well-formed and its pending bytes are initialised. -/
def COk (o : Option CState) : Prop := ∀ cs, o = some cs → WInv cs ∧ CellsDef (pending cs)

theorem cellsDef_map_some (l : List Nat) : CellsDef (l.map some) := by
  intro c hc; obtain ⟨b, _, rfl⟩ := List.mem_map.mp hc; rfl

theorem cellsDef_zeros (n : Nat) : CellsDef (List.replicate n (some 0)) := by
  intro c hc; rw [List.eq_of_mem_replicate hc]; rfl

theorem cellsDef_append {a b : List Cell} (ha : CellsDef a) (hb : CellsDef b) : CellsDef (a ++ b) :=
  fun c hc => (List.mem_append.mp hc).elim (ha c) (hb c)

theorem cellsDef_take {a : List Cell} (n : Nat) (ha : CellsDef a) : CellsDef (a.take n) :=
  fun c hc => ha c (List.mem_of_mem_take hc)

theorem offersDef_nil : OffersDef [] := nofun

theorem offersDef_append {a b : List Event} (ha : OffersDef a) (hb : OffersDef b) : OffersDef (a ++ b) :=
  fun e he => (List.mem_append.mp he).elim (ha e) (hb e)

theorem cOk_none : COk none := nofun

theorem cOk_some {cs : CState} (hw : WInv cs) (hp : CellsDef (pending cs)) : COk (some cs) :=
  fun _ h => Option.some.inj h ▸ ⟨hw, hp⟩

theorem readAll_def : ∀ {d : List Cell} {p : List Nat}, readAll d = some p → d = p.map some := by
  intro d
  induction d with
  | nil => intro p h; cases h; rfl
  | cons c r ih =>
    intro p h
    cases c with
    | none => cases h
    | some b =>
      obtain ⟨q, hq, rfl⟩ := Option.map_eq_some_iff.mp h
      rw [ih hq]; rfl

section
variable {σ : Type} (W : Writer σ)

attribute [local irreducible] clientWrite clientClose clientFilterWrite encWrite output formatHeaderOp formatDataOp
  formatFinishEntry formatClose encClose encCloseStep clientCloseStep filtersClose apiFinishEntry apiClose
  clientOpenStep filtersOpen

/-- The per-call statement: offers initialised, buffer still fine. -/
def Dfn (r : Int × Handle × List Event × σ) : Prop := OffersDef r.2.2.1 ∧ COk r.2.1.cs

theorem dfn_nil {st : Int} {h : Handle} {w : σ} (hc : COk h.cs) : Dfn (st, h, [], w) := ⟨offersDef_nil, hc⟩

theorem clientFilterWrite_def (w : σ) (h : Handle) (d : List Cell) (hc : COk h.cs) (hd : CellsDef d) :
    Dfn (clientFilterWrite W w h d) := by
  unfold clientFilterWrite
  refine ite_both Dfn (dfn_nil hc) (ite_both Dfn (dfn_nil hc) ?_)
  cases hcs : h.cs with
  | none => exact dfn_nil (hcs ▸ hc)
  | some cs =>
    obtain ⟨hw, hp⟩ := hc cs hcs
    have hs := (clientWrite_wrote W w cs d).spec hw
    have hall := cellsDef_append hp hd
    exact ⟨fun e he c hc => hall c (hs.offers e he c hc), cOk_some hs.winv fun c hc => hall c (hs.pend c hc)⟩

theorem encOutLoop_def (w : σ) (h : Handle) (bs : Nat) (enc : List Nat) (hc : COk h.cs) :
    OffersDef (encOutLoop W w h bs enc).2.2.2.1 ∧ COk (encOutLoop W w h bs enc).2.1.cs := by
  fun_induction encOutLoop W w h bs enc with
  | case1 w h enc hcond r hne => exact clientFilterWrite_def W w h _ hc (cellsDef_map_some _)
  | case2 w h enc hcond r hne t ih =>
    have h1 : Dfn r := clientFilterWrite_def W w h _ hc (cellsDef_map_some _)
    exact ⟨offersDef_append h1.1 (ih h1.2).1, (ih h1.2).2⟩
  | case3 w h enc hcond => exact ⟨offersDef_nil, hc⟩

theorem encWrite_def (w : σ) (h : Handle) (e : EncState) (p : List Nat) (hc : COk h.cs) :
    Dfn (encWrite W w h e p) := by
  unfold encWrite
  exact ite_both Dfn (dfn_nil hc) (encOutLoop_def W w h _ _ hc)

theorem output_def (w : σ) (h : Handle) (d : List Cell) (hc : COk h.cs) (hd : CellsDef d) :
    Dfn (output W w h d) := by
  unfold output
  cases h.enc with
  | none => exact clientFilterWrite_def W w h d hc hd
  | some e =>
    refine ite_both Dfn (dfn_nil hc) (ite_both Dfn (dfn_nil hc) ?_)
    cases readAll d with
    | none => exact dfn_nil hc
    | some p => exact encWrite_def W w h e p hc

theorem writeNulls_def (w : σ) (h : Handle) (n : Nat) (hc : COk h.cs) : Dfn (writeNulls W w h n) := by
  fun_induction writeNulls W w h n with
  | case1 w h => exact dfn_nil hc
  | case2 w h n hl toWrite r hlt => exact output_def W w h _ hc (cellsDef_zeros _)
  | case3 w h n hl toWrite r hlt hz => exact output_def W w h _ hc (cellsDef_zeros _)
  | case4 w h n hl toWrite r hlt hz t ih =>
    have h1 : Dfn r := output_def W w h _ hc (cellsDef_zeros _)
    exact ⟨offersDef_append h1.1 (ih h1.2).1, (ih h1.2).2⟩

theorem formatHeaderOp_def (w : σ) (h : Handle) (e : Entry) (hc : COk h.cs) : Dfn (formatHeaderOp W w h e) := by
  unfold formatHeaderOp
  cases h.fmt with
  | none => exact dfn_nil hc
  | raw => exact ite_both Dfn (dfn_nil hc) (ite_both Dfn (dfn_nil hc) (dfn_nil hc))
  | ustar =>
    dsimp only
    cases hfh : formatHeader (prepareEntry e) with
    | none => exact dfn_nil hc
    | some rh =>
      have ho := output_def W w h rh.2 hc (formatHeader_defined _ rh.1 rh.2 hfh).2
      exact ite_both Dfn (dfn_nil hc) (ite_both Dfn ho ho)

theorem formatDataOp_def (w : σ) (h : Handle) (d : List Cell) (hc : COk h.cs) (hd : CellsDef d) :
    Dfn (formatDataOp W w h d) := by
  unfold formatDataOp
  cases h.fmt with
  | none => exact dfn_nil hc
  | raw => exact output_def W w h d hc hd
  | ustar => exact output_def W w h _ hc (cellsDef_take _ hd)

theorem formatNulls_def (w : σ) (h : Handle) (hc : COk h.cs) :
    Dfn (formatFinishEntry W w h) ∧ Dfn (formatClose W w h) := by
  unfold formatFinishEntry formatClose
  cases h.fmt with
  | ustar => exact ⟨writeNulls_def W w h _ hc, writeNulls_def W w h _ hc⟩
  | none => exact ⟨dfn_nil hc, dfn_nil hc⟩
  | raw => exact ⟨dfn_nil hc, dfn_nil hc⟩

theorem setBil_cs (h : Handle) (v : Int) : (setBil h v).2.cs = h.cs := by
  unfold setBil; split <;> rfl

theorem encCloseStep_def (w : σ) (h : Handle) (hc : COk h.cs) : Dfn (encCloseStep W w h) := by
  unfold encCloseStep
  cases h.enc with
  | none => exact dfn_nil hc
  | some e =>
    refine ite_both Dfn ?_ (dfn_nil hc)
    unfold encClose
    exact clientFilterWrite_def W w _ _ (setBil_cs h 1 ▸ hc) (cellsDef_map_some _)

theorem clientCloseStep_def (w : σ) (h : Handle) (ret : Int) (hc : COk h.cs) : Dfn (clientCloseStep W w h ret) := by
  unfold clientCloseStep
  refine ite_both Dfn ?_ (dfn_nil hc)
  cases hcs : h.cs with
  | none => exact dfn_nil (hcs ▸ hc)
  | some cs =>
    obtain ⟨hw, hp⟩ := hc cs hcs
    have hall := cellsDef_append hp (cellsDef_zeros (padLen h.bpb h.bil cs.fill))
    exact ⟨fun e he c hc => hall c ((clientClose_stage W w cs h.bpb h.bil hw).resumes.offers e he c hc), cOk_none⟩

theorem filtersClose_def (w : σ) (h : Handle) (hc : COk h.cs) : Dfn (filtersClose W w h) := by
  unfold filtersClose
  have h1 := encCloseStep_def W w h hc
  have h2 := clientCloseStep_def W (encCloseStep W w h).2.2.2 (encCloseStep W w h).2.1
    (imin (encCloseStep W w h).1 ok) h1.2
  exact ⟨offersDef_append h1.1 h2.1, h2.2⟩

theorem apiFinishEntry_def (w : σ) (h : Handle) (hc : COk h.cs) : Dfn (apiFinishEntry W w h) := by
  unfold apiFinishEntry
  exact ite_both Dfn (dfn_nil hc) (ite_both Dfn (formatNulls_def W w h hc).1 (dfn_nil hc))

theorem apiData_def (w : σ) (h : Handle) (d : List Cell) (hc : COk h.cs) (hd : CellsDef d) :
    Dfn (apiData W w h d) := by
  unfold apiData
  exact ite_both Dfn (dfn_nil hc) (formatDataOp_def W w h d hc hd)

theorem apiHeader_def (w : σ) (h : Handle) (e : Entry) (hc : COk h.cs) : Dfn (apiHeader W w h e) := by
  unfold apiHeader
  refine ite_both Dfn (dfn_nil hc) (ite_both Dfn (dfn_nil hc) ?_)
  dsimp only
  have hf := apiFinishEntry_def W w h hc
  generalize apiFinishEntry W w h = r at hf ⊢
  have hh := formatHeaderOp_def W r.2.2.2 r.2.1 e hf.2
  generalize formatHeaderOp W r.2.2.2 r.2.1 e = r2 at hh ⊢
  have hev := offersDef_append hf.1 hh.1
  exact ite_both Dfn ⟨hf.1, hf.2⟩ (ite_both Dfn hf
    (ite_both Dfn ⟨hev, hh.2⟩ (ite_both Dfn ⟨hev, hh.2⟩ ⟨hev, hh.2⟩)))

theorem apiClose_def (w : σ) (h : Handle) (hc : COk h.cs) : Dfn (apiClose W w h) := by
  unfold apiClose
  refine ite_both Dfn (dfn_nil hc) ?_
  dsimp only
  have hr : Dfn (if h.state = .data ∧ hasFinishEntry h = true then formatFinishEntry W w h else (ok, h, [], w)) :=
    ite_both Dfn (formatNulls_def W w h hc).1 (dfn_nil hc)
  generalize (if h.state = .data ∧ hasFinishEntry h = true then formatFinishEntry W w h else (ok, h, [], w)) = r at hr ⊢
  have hr1 := (formatNulls_def W r.2.2.2 r.2.1 hr.2).2
  generalize formatClose W r.2.2.2 r.2.1 = r1 at hr1 ⊢
  have hr2 := filtersClose_def W r1.2.2.2 r1.2.1 hr1.2
  generalize filtersClose W r1.2.2.2 r1.2.1 = r2 at hr2 ⊢
  refine ⟨offersDef_append (offersDef_append hr.1 hr1.1) hr2.1, ?_⟩
  show COk (if r2.2.1.state ≠ .fatal then { r2.2.1 with state := .closed } else r2.2.1).cs
  exact ite_both (fun h : Handle => COk h.cs) hr2.2 hr2.2

theorem apiFree_def (w : σ) (h : Handle) (hc : COk h.cs) : Dfn (apiFree W w h) := by
  unfold apiFree
  exact ite_both Dfn (apiClose_def W w h hc) (filtersClose_def W w h hc)

theorem cOk_clientOpen (n : Nat) : COk (some (clientOpen n)) :=
  cOk_some (clientOpen_inv n).1 nofun

theorem clientOpenStep_cs (h : Handle) (hc : COk h.cs) : COk (clientOpenStep h).2.cs := by
  unfold clientOpenStep
  exact ite_both (fun r : Int × Handle => COk r.2.cs) hc
    (ite_both (fun r : Int × Handle => COk r.2.cs) (cOk_clientOpen _) cOk_none)

theorem filtersOpen_cs (h : Handle) (hc : COk h.cs) : COk (filtersOpen h).2.cs := by
  unfold filtersOpen
  have h1 := clientOpenStep_cs h hc
  refine ite_both (fun r : Int × Handle => COk r.2.cs) h1 ?_
  cases (clientOpenStep h).2.enc with
  | none => exact h1
  | some e => exact ite_both (fun r : Int × Handle => COk r.2.cs) h1 h1

/-- `archive_write_open2` establishes / keeps the invariant (a fresh buffer has nothing pending). -/
theorem apiOpen_def (w : σ) (h : Handle) (hc : COk h.cs) : Dfn (apiOpen W w h) := by
  unfold apiOpen
  have hfo := filtersOpen_cs { h with hasClient := true, cfState := .new } hc
  exact ite_both Dfn (dfn_nil hc) (ite_both Dfn ⟨(filtersClose_def W w _ hfo).1, cOk_none⟩ (dfn_nil hfo))

end
end LA.WC
