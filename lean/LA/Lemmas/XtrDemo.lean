/-
A concrete starting state used by the non-vacuity examples of `LA/Props/C04.lean`.
-/
import LA.Lemmas.XtrEnv
namespace LA.Xtr
open LA.FS LA.PathClean

/-- A process in an empty target directory `/t` next to an outside file `/o` (inode 1). -/
def demoProc : Proc :=
  { fs := { root := .dir 493 5 [([116], .dir 493 5 []), ([111], .file 1)],
            files := fun i => if i = 1 then some (.reg [120] 420 5) else none, next := 2 },
    cwd := [[116]], umask := 18 }

theorem demo_tdir : ∃ t, get demoProc.fs.root demoProc.cwd = some t ∧ t.isDir = true := ⟨_, rfl, rfl⟩

theorem demo_inside (S : Nat → Prop) : ∀ t, get demoProc.fs.root demoProc.cwd = some t → RefsIn S t := by
  intro t ht
  have : t = .dir 493 5 [] := by
    have h : get demoProc.fs.root demoProc.cwd = some (.dir 493 5 []) := rfl
    rw [h] at ht; exact (Option.some.inj ht).symm
  subst this
  intro p ino hp
  cases p with
  | nil => simp at hp
  | cons c r => simp [get_cons, Tree.child, alGet] at hp

theorem demo_wf : WF demoProc.fs := by
  intro p i hp
  cases p with
  | nil => simp [demoProc] at hp
  | cons c r =>
    simp only [demoProc, get_cons, Tree.child, alGet] at hp
    by_cases h1 : [116] = c
    · simp only [h1, if_true, Option.bind_some] at hp
      cases r with
      | nil => simp at hp
      | cons c2 r2 => simp [get_cons, Tree.child, alGet] at hp
    · simp only [h1, if_false] at hp
      by_cases h2 : [111] = c
      · simp only [h2, if_true, Option.bind_some] at hp
        cases r with
        | nil => simp at hp; subst hp; decide
        | cons c2 r2 => simp [get_cons, Tree.child] at hp
      · simp [h2] at hp

theorem demo_check : ((checkSymlinks {} false [97]).run demoProc).1 = .ok := by
  have hg : GoodName [97] := by refine ⟨by decide, by decide, by decide, by decide⟩
  have hlk := lookup_single demoProc.fs [[116]] hg (tD := .dir 493 5 []) rfl rfl
  have hl : ¬ ([97] : List Nat).length > nameMax := by decide
  simp only [hl, if_false, Tree.child, alGet] at hlk
  unfold checkSymlinks
  simp only [show ([97] : List Nat) ≠ [] by decide, if_false, show isAbs [97] = false by decide,
    Bool.false_eq_true, show compsOf [97] = [[97]] by decide, run_bind, run_sys, exec, run_pure]
  rw [checkLoop]
  simp only [run_bind, run_sys, exec, List.nil_append, joinSlash]
  have : lookupNoFollow demoProc.fs demoProc.cwd [97] = .error .ENOENT := hlk
  simp only [this, statR, run_pure]

end LA.Xtr
