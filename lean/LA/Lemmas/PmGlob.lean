/-
The matcher model against an independent, inductively defined glob relation, on the
fragment "ordinary characters, `?`, `*`" with slash-free subjects.
-/
import LA.Lemmas.PmSpec
namespace LA.Pm

/-- Ordinary pattern character: nothing `pm()` or `__archive_pathmatch()` treats specially anywhere. -/
def Plain (c : Nat) : Prop :=
  c ≠ 0 ∧ c ≠ C_STAR ∧ c ≠ C_QUEST ∧ c ≠ C_LBRACK ∧ c ≠ C_BSL ∧ c ≠ C_SLASH ∧ c ≠ C_DOLLAR ∧ c ≠ C_CARET

def Frag (p : List Nat) : Prop := ∀ c ∈ p, Plain c ∨ c = C_QUEST ∨ c = C_STAR

/-- Textbook glob matching: `?` is any one character, `*` any (possibly empty) run, anything
else itself; the whole subject must be consumed. -/
inductive Glob : List Nat → List Nat → Prop
  | nil : Glob [] []
  | lit {c : Nat} {p s : List Nat} : c ≠ C_QUEST → c ≠ C_STAR → Glob p s → Glob (c :: p) (c :: s)
  | any {d : Nat} {p s : List Nat} : Glob p s → Glob (C_QUEST :: p) (d :: s)
  | star {p s : List Nat} (k : Nat) : Glob p (s.drop k) → Glob (C_STAR :: p) s

theorem glob_nil_iff (x : List Nat) : Glob [] x ↔ x = [] := by
  constructor
  · intro h; cases h; rfl
  · rintro rfl; exact .nil

theorem glob_cons_nil {c : Nat} {p : List Nat} (h : Glob (c :: p) []) : c = C_STAR := by
  generalize hx : ([] : List Nat) = x at h
  cases h with
  | lit _ _ _ => cases hx
  | any _ => cases hx
  | star _ _ => rfl

theorem glob_lit_cons {c : Nat} (h1 : c ≠ C_QUEST) (h2 : c ≠ C_STAR) (p : List Nat) (d : Nat) (x : List Nat) :
    Glob (c :: p) (d :: x) ↔ c = d ∧ Glob p x := by
  constructor
  · intro h
    cases h with
    | lit _ _ h => exact ⟨rfl, h⟩
    | any _ => exact absurd rfl h1
    | star _ _ => exact absurd rfl h2
  · rintro ⟨rfl, h⟩; exact .lit h1 h2 h

theorem glob_quest_cons (p : List Nat) (d : Nat) (x : List Nat) : Glob (C_QUEST :: p) (d :: x) ↔ Glob p x := by
  constructor
  · intro h
    cases h with
    | lit h1 _ _ => exact absurd rfl h1
    | any h => exact h
  · exact .any

theorem glob_star_iff (p x : List Nat) : Glob (C_STAR :: p) x ↔ ∃ k, Glob p (x.drop k) := by
  constructor
  · intro h
    cases h with
    | lit _ h2 _ => exact absurd rfl h2
    | star k h => exact ⟨k, h⟩
  · rintro ⟨k, h⟩; exact .star k h

/-- Under a leading "any run", a run of stars adds nothing: `while (*p == '*') ++p;`. -/
theorem glob_skipStars {p : List Nat} {i j : Nat} (h : skipStars p i = some j) (x : List Nat) :
    (∃ k, Glob (p.drop i) (x.drop k)) ↔ ∃ k, Glob (p.drop j) (x.drop k) := by
  fun_induction skipStars p i with
  | case1 => cases h
  | case2 i hc ih =>
    obtain ⟨hi, hpi⟩ := (rd_eq_some_iff (by decide)).mp hc
    rw [← ih h, List.drop_eq_getElem_cons hi, hpi]
    simp only [glob_star_iff, List.drop_drop]
    exact ⟨fun ⟨k, k', hk⟩ => ⟨k + k', hk⟩, fun ⟨k, hk⟩ => ⟨k, 0, hk⟩⟩
  | case3 i c hc hne => cases h; rfl

theorem skipStars_stop {p : List Nat} {i j : Nat} (h : skipStars p i = some j) : rd p j ≠ some C_STAR := by
  fun_induction skipStars p i <;> simp_all

theorem Plain.lit {c : Nat} (h : Plain c) : Lit c :=
  ⟨h.1, h.2.1, h.2.2.1, h.2.2.2.1, h.2.2.2.2.1, h.2.2.2.2.2.1, h.2.2.2.2.2.2.1⟩

theorem Frag.ordinary {p : List Nat} (hp : Frag p) {c : Nat} (hc : c ∈ p) :
    c ≠ 0 ∧ c ≠ C_SLASH ∧ c ≠ C_CARET := by
  rcases hp c hc with h | h | h
  · exact ⟨h.1, h.2.2.2.2.2.1, h.2.2.2.2.2.2.2⟩
  · omega
  · omega

/-- A slash-free pattern not beginning with `^` against a slash-free subject: whatever the flags,
the entry point is the plain loop (no `/` to anchor at, no leading `./` to skip). -/
theorem matchAt_noSlash (cfg : Cfg) (p s : List Nat) (fl : Flags) (hp : ∀ c ∈ p, c ≠ C_SLASH)
    (hns : ∀ c ∈ s, c ≠ C_SLASH) (pi si : Nat) (hpi : pi ≤ p.length) (hsi : si ≤ s.length)
    (hcar : rd p pi ≠ some C_CARET) :
    matchAt cfg p s fl pi si = pmLoop cfg p s fl pi si := by
  obtain ⟨c, hc⟩ := rd_isSome hpi
  obtain ⟨d, hd⟩ := rd_isSome hsi
  have hcsl := rd_ne_of_forall hp (by decide) hc
  have hdsl := rd_ne_of_forall hns (by decide) hd
  have hpm : pm cfg p s fl pi si = pmLoop cfg p s fl pi si :=
    pm_of_dotSlash (dotSlash_noSlash hns si hsi) (dotSlash_noSlash hp pi hpi)
  by_cases h0 : c = 0
  · subst h0
    rw [pmLoop_end hc hd hdsl, matchAt_eq]; simp [hc, hd]
  · by_cases hst : c = C_STAR
    · subst hst
      rw [matchAt_eq]; simp only [hc, if_false, (by decide : (42 : Nat) ≠ 0), (by decide : (42 : Nat) ≠ 94)]
      rw [matchBody_eq, skipSlashes_eq p, skipSlashes_eq s]
      simp [hc, hd, hdsl, hpm]
    · rw [matchAt_ordinary hc h0 (fun h => hcar (h ▸ hc)) hst hcsl hsi]
      split
      · rw [← hpm]
        have hnone : strchrSlash s si = some none := by
          cases hx : strchrSlash s si with
          | none => exact absurd (strchrSlash_none hx) (Nat.not_lt.mpr hsi)
          | some o =>
            cases o with
            | none => rfl
            | some j => exact absurd rfl (rd_ne_of_forall hns (by decide) (strchrSlash_at hx))
        rw [unanch_eq]; simp only [hd, hdsl, if_false, hnone]
        cases pm cfg p s fl pi si <;> rfl
      · exact hpm

/-- On the wildcard fragment, against a slash-free subject, the matcher *is* textbook glob
matching — for every flag combination (anchoring cannot show without a `/`). -/
theorem pmLoop_glob (cfg : Cfg) (hg : cfg.guardClass = true) (p s : List Nat) (fl : Flags)
    (hp : Frag p) (hs : NoNul s) (hns : ∀ c ∈ s, c ≠ C_SLASH)
    (pi : Nat) (hpi : pi ≤ p.length) (si : Nat) (hsi : si ≤ s.length) :
    pmLoop cfg p s fl pi si = .yes ↔ Glob (p.drop pi) (s.drop si) := by
  induction hn : p.length - pi using Nat.strongRecOn generalizing pi si with
  | _ n ih =>
    rcases rd_cases hpi with ⟨_, hc, hpd⟩ | ⟨c, hcp, hc, hpd, hlt⟩
    · -- end of pattern
      rw [hpd, glob_nil_iff]
      rcases rd_cases hsi with ⟨_, hd, hsd⟩ | ⟨d, hds, hd, hsd, _⟩
      · rw [pmLoop_end hc hd (by decide), hsd]; simp
      · rw [pmLoop_end hc hd (hns d hds), hsd]; simp [hs d hds]
    · rw [hpd]
      rcases hp c hcp with hpl | rfl | rfl
      · -- ordinary character
        have hlit := hpl.lit
        rcases rd_cases hsi with ⟨_, hd, hsd⟩ | ⟨d, hds, hd, hsd, _⟩
        · rw [pmLoop_lit hlit hc hd, hsd, if_neg hlit.1]
          exact ⟨nofun, fun h => absurd (glob_cons_nil h) hlit.2.1⟩
        · rw [pmLoop_lit hlit hc hd, hsd, glob_lit_cons hlit.2.2.1 hlit.2.1,
            ← ih _ (by omega) (pi + 1) (by omega) (si + 1) (by omega) rfl]
          by_cases h : c = d <;> simp [h]
      · -- '?'
        rcases rd_cases hsi with ⟨rfl, _, hsd⟩ | ⟨d, _, _, hsd, hsl⟩
        · rw [pm_question_at_end' cfg p s fl pi hc, hsd]
          exact ⟨nofun, fun h => nomatch glob_cons_nil h⟩
        · rw [pm_question' cfg p s fl pi si hs hc hsl, hsd, glob_quest_cons,
            ih _ (by omega) (pi + 1) (by omega) (si + 1) (by omega) rfl]
      · -- a run of '*', up to `pj`
        obtain ⟨pj, hpj⟩ := Option.ne_none_iff_exists'.mp (mt skipStars_none (Nat.not_lt.mpr hpi))
        have hpjle := skipStars_le hpj
        have hpj' : skipStars p (pi + 1) = some pj := by rw [skipStars_eq, hc] at hpj; simpa using hpj
        rw [pmLoop_star_iff cfg hg p s hs fl pi si pj hc hpj hsi, glob_star_iff, glob_skipStars hpj']
        simp only [List.drop_drop]
        rcases rd_cases hpjle with ⟨_, hc', hpd'⟩ | ⟨c', hcp', hc', hpd', _⟩
        · -- nothing after the stars
          simp only [hc', true_or, true_iff, hpd', glob_nil_iff]
          exact ⟨s.length, by simp⟩
        · -- the rest is tried through the entry point, here the plain loop, at each position before
          -- the terminator; it cannot match the empty rest of the subject
          have hord := hp.ordinary hcp'
          have hre : ∀ sj, sj ≤ s.length →
              (matchAt cfg p s fl pj sj = .yes ↔ Glob (p.drop pj) (s.drop sj)) := fun sj hsj => by
            rw [matchAt_noSlash cfg p s fl (fun c hc => (hp.ordinary hc).2.1) hns pj sj hpjle hsj
              (by rw [hc']; simp [hord.2.2]), ih _ (by have := skipStars_gt hc hpj; omega) pj hpjle sj hsj rfl]
          have hnonempty : ¬ Glob (p.drop pj) [] := by
            rw [hpd']
            exact fun h => skipStars_stop hpj (by rw [hc', glob_cons_nil h])
          simp only [hc', Option.some.injEq, hord.1, false_or]
          constructor
          · rintro ⟨sj, h1, h2, h3⟩
            exact ⟨sj - si, by rw [show si + (sj - si) = sj by omega]; exact (hre sj (Nat.le_of_lt h2)).mp h3⟩
          · rintro ⟨k, hk⟩
            have hlt2 : si + k < s.length := by
              rcases Nat.lt_or_ge (si + k) s.length with h | h
              · exact h
              · rw [List.drop_eq_nil_iff.mpr h] at hk; exact absurd hk hnonempty
            exact ⟨si + k, by omega, hlt2, (hre _ (Nat.le_of_lt hlt2)).mpr hk⟩

end LA.Pm
