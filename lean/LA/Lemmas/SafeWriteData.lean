/-
Lemmas for C19: what the temporary file holds.

`Open c s`: the temporary file exists, is open and holds `c`; the target still is the old
file.  On such a file system every call of the data path is accepted by the kernel, so
it fails only when made to fail (`Open.call`).  The write loop appends (with zero gaps)
exactly the bytes it was given (`Appended`); `runCalls` therefore builds the image
`place` describes (`DI`).
-/
import LA.Lemmas.SafeWrite
namespace LA.SafeWrite

/-- The file system while the temporary file is being filled. -/
def shapeFS (old c : Bytes) : FS :=
  { target := some 0, tmp := some 1, inodes := [old, c], fd := some 1, fdOn := .tmp }

theorem pre_shapeFS (old c : Bytes) : Pre old (shapeFS old c) :=
  ⟨rfl, rfl, by simp [shapeFS], by simp [shapeFS]⟩

theorem step_write_shape (old c : Bytes) (off : Nat) (d : Bytes) :
    (shapeFS old c).step (.write off d) = (shapeFS old (writeAt c off d), some d.length) := rfl

theorem step_ftruncate_shape (old c : Bytes) (n : Nat) :
    (shapeFS old c).step (.ftruncate n) = (shapeFS old (truncTo n c), some 0) := rfl

theorem step_fstat_shape (old c : Bytes) : (shapeFS old c).step .fstat = (shapeFS old c, some c.length) := rfl

theorem step_lstat_shape (old c : Bytes) (n : Name) :
    (shapeFS old c).step (.lstat n) = (shapeFS old c, some (if n = .tmp then c.length else old.length)) := by
  cases n <;> rfl

theorem step_lseek_shape (old c : Bytes) (off : Nat) :
    (shapeFS old c).step (.lseek off) = (shapeFS old c, some 0) := rfl

theorem step_fchmod_shape (old c : Bytes) : (shapeFS old c).step .fchmod = (shapeFS old c, some 0) := rfl

variable {F : Nat → Bool} {cfg : Cfg} {old new c c' : Bytes} {s s' : S} {wd wd' : WD} {w : World}

/-- The entry is open on its temporary file, which holds `c`; the world is `Safe`; and
`tmp_incomplete` is only ever set after an injected failure. -/
structure Open (F : Nat → Bool) (old new c : Bytes) (s : S) : Prop where
  fs : s.w.fs = shapeFS old c
  fd : s.wd.fd = true
  tmp : s.wd.tmpname = true
  st : s.wd.state = .data
  safe : Safe F old new s.w
  inc : s.wd.incomplete = true → HasInj F s.w

/-- `Open` looks at the world and at four fields of the writer only. -/
theorem Open.of_wd (h : Open F old new c ⟨wd, w⟩) (hfd : wd'.fd = wd.fd := by rfl)
    (ht : wd'.tmpname = wd.tmpname := by rfl) (hst : wd'.state = wd.state := by rfl)
    (hinc : wd'.incomplete = wd.incomplete := by rfl) : Open F old new c ⟨wd', w⟩ :=
  ⟨h.fs, hfd ▸ h.fd, ht ▸ h.tmp, hst ▸ h.st, h.safe, fun hi => h.inc (hinc ▸ hi)⟩

/-- After an injected failure `tmp_incomplete` may be set. -/
theorem Open.fail (h : Open F old new c ⟨wd, w⟩) (hi : HasInj F w) (hfd : wd'.fd = wd.fd := by rfl)
    (ht : wd'.tmpname = wd.tmpname := by rfl) (hst : wd'.state = wd.state := by rfl) :
    Open F old new c ⟨wd', w⟩ :=
  ⟨h.fs, hfd ▸ h.fd, ht ▸ h.tmp, hst ▸ h.st, h.safe, fun _ => hi⟩

/-- One call on an open entry, which the kernel accepts with the temporary file then
holding `c'`: either it was made to fail and changed nothing, or it succeeds with the
kernel's answer; the entry stays open. -/
theorem Open.call {op : Op} {v : Nat} (h : Open F old new c ⟨wd, w⟩) (hq : op.quiet = true)
    (hst : (shapeFS old c).step op = (shapeFS old c', some v)) (hc : op ≠ .close := by nofun) :
    ((sys F w op).2 = .inj ∧ HasInj F (sys F w op).1 ∧ Open F old new c ⟨wd, (sys F w op).1⟩) ∨
    ((sys F w op).2 = .ok v ∧ Open F old new c' ⟨wd, (sys F w op).1⟩) := by
  have hsafe : Safe F old new (sys F w op).1 := h.safe.quiet hq
  have hinc := fun hi => hasInj_mono (op := op) (h.inc hi)
  rcases sys_of_step (F := F) h.fs hst hc with ⟨h1, h2⟩ | ⟨h1, h2⟩
  · exact .inl ⟨h1, sys_inj_hasInj h1, h2, h.fd, h.tmp, h.st, hsafe, hinc⟩
  · exact .inr ⟨h1, h2, h.fd, h.tmp, h.st, hsafe, hinc⟩

/-- `lazy_stat` on an open entry changes none of the writer's fields (`a->pst` is set at the
call sites), fails only when made to fail, and (repaired: it falls back to the temporary
name) can only report the size of the temporary file. -/
theorem lazyStat_open (h : Open F old new c s) :
    (lazyStat F cfg s).1.wd = s.wd ∧ Open F old new c (lazyStat F cfg s).1 ∧
    (((lazyStat F cfg s).2 = none ∧ HasInj F (lazyStat F cfg s).1.w) ∨
      ∃ sz, (lazyStat F cfg s).2 = some sz ∧ (cfg.legacy.statTarget = false → sz = c.length)) := by
  unfold lazyStat
  rw [if_pos h.fd]
  dsimp only
  rcases h.call (op := .fstat) rfl (step_fstat_shape old c) with ⟨h1, _, ho⟩ | ⟨h1, ho⟩
  · rw [h1, if_neg (by rw [Res.isOk_inj]; nofun)]
    generalize hn : (if (s.wd.tmpname && !cfg.legacy.statTarget) = true then Name.tmp else Name.target) = n
    dsimp only
    rcases ho.call (op := .lstat n) (by cases n <;> rfl) (step_lstat_shape old c n) with ⟨h3, hi, ho'⟩ | ⟨h3, ho'⟩
    · rw [h3]
      exact ⟨rfl, ho', .inl ⟨rfl, hi⟩⟩
    · rw [h3]
      refine ⟨rfl, ho', .inr ⟨_, rfl, fun hleg => ?_⟩⟩
      simp only [h.tmp, hleg, Bool.not_false, Bool.and_self, ↓reduceIte] at hn
      subst hn
      rfl
  · rw [h1, if_pos (Res.isOk_ok _)]
    exact ⟨rfl, ho, .inr ⟨_, rfl, fun _ => rfl⟩⟩

/-- While no call has failed: all of the temporary file `c` was written through the
descriptor, which stands at its end, and `v` is what it amounts to with the zero bytes
skipped since (`a->offset` runs ahead of `a->fd_offset`). -/
structure Virt (c : Bytes) (fdOffset offset : Nat) (v : Bytes) : Prop where
  len : c.length = fdOffset
  le : fdOffset ≤ offset
  pad : padTo offset c = v

theorem Virt.length {fdOffset offset : Nat} {v : Bytes} (h : Virt c fdOffset offset v) : v.length = offset := by
  rw [← h.pad, padTo_length, h.len]
  exact Nat.max_eq_left h.le

/-- `s'` comes from the open entry `s` by appending `d` -- unless a call was made to
fail, which sets `tmp_incomplete`. -/
def Appended (F : Nat → Bool) (old new d : Bytes) (s s' : S) : Prop :=
  ∀ c, Open F old new c s → ∃ c', Open F old new c' s' ∧
    (s'.wd.incomplete = false → s.wd.incomplete = false ∧
      ∀ v, Virt c s.wd.fdOffset s.wd.offset v → Virt c' s'.wd.fdOffset s'.wd.offset (v ++ d))

theorem Appended.nil : Appended F old new [] s s :=
  fun c h => ⟨c, h, fun hi => ⟨hi, fun v hv => by rwa [List.append_nil]⟩⟩

theorem Appended.trans {d1 d2 : Bytes} {s1 s2 : S} (h1 : Appended F old new d1 s s1)
    (h2 : Appended F old new d2 s1 s2) : Appended F old new (d1 ++ d2) s s2 := by
  intro c h
  obtain ⟨c1, ho1, k1⟩ := h1 c h
  obtain ⟨c2, ho2, k2⟩ := h2 c1 ho1
  refine ⟨c2, ho2, fun hi2 => ?_⟩
  obtain ⟨hi1, k2⟩ := k2 hi2
  obtain ⟨hi, k1⟩ := k1 hi1
  exact ⟨hi, fun v hv => by rw [← List.append_assoc]; exact k2 _ (k1 v hv)⟩

/-- A state marked incomplete: nothing is claimed about the content. -/
theorem Appended.failed {d : Bytes} (h : ∀ c, Open F old new c s → Open F old new c s')
    (hinc : s'.wd.incomplete = true) : Appended F old new d s s' :=
  fun c ho => ⟨c, h c ho, fun hi => by rw [hinc] at hi; cases hi⟩

/-- "Skip leading zero bytes": only the offset moves. -/
theorem Appended.skip (k : Nat) : Appended F old new (zeros k) s ⟨{ s.wd with offset := s.wd.offset + k }, s.w⟩ :=
  fun c h => ⟨c, h.of_wd, fun hi => ⟨hi, fun _ hv =>
    ⟨hv.len, Nat.le_trans hv.le (Nat.le_add_right _ _),
     by rw [← hv.pad]; exact (padTo_append_zeros (by rw [hv.len]; exact hv.le)).symm⟩⟩⟩

/-- A write at `a->offset` that went through. -/
theorem Appended.write {d : Bytes} {n : Nat} {w' : World} (hd : d.length = n)
    (hw : ∀ c, Open F old new c s → Open F old new (writeAt c s.wd.offset d) ⟨s.wd, w'⟩) :
    Appended F old new d s ⟨{ s.wd with offset := s.wd.offset + n, fdOffset := s.wd.offset + n }, w'⟩ := by
  refine fun c h => ⟨_, (hw c h).of_wd, fun hi => ⟨hi, fun v hv => ?_⟩⟩
  have hwr : writeAt c s.wd.offset d = padTo s.wd.offset c ++ d := writeAt_append _ (by rw [hv.len]; exact hv.le)
  have hlen : (writeAt c s.wd.offset d).length = s.wd.offset + n := by
    rw [hwr, hv.pad, List.length_append, hv.length, hd]
  exact ⟨hlen, Nat.le_refl _, by rw [padTo_of_le (Nat.le_of_eq hlen.symm), hwr, hv.pad]⟩

/-- "Seek if necessary to the specified offset": on an open entry it fails only when made to fail. -/
theorem seek_open (h : Open F old new c ⟨wd, w⟩) (off fdOffset : Nat) :
    let sk : World × Bool :=
      if off ≠ fdOffset then ((sys F w (.lseek off)).1, (sys F w (.lseek off)).2.isOk) else (w, true)
    Open F old new c ⟨wd, sk.1⟩ ∧ (sk.2 = false → HasInj F sk.1) := by
  intro sk
  simp only [sk]
  split
  · rcases h.call (op := .lseek off) rfl (step_lseek_shape old c off) with ⟨_, hi, ho⟩ | ⟨h1, ho⟩
    · exact ⟨ho, fun _ => hi⟩
    · exact ⟨ho, fun hf => by rw [h1] at hf; cases hf⟩
  · exact ⟨h, nofun⟩

theorem writeLoop_appended (F : Nat → Bool) (blk : Nat) (buf : Bytes) (s : S) :
    Appended F old new buf s (writeLoop F blk buf s).1 := by
  fun_induction writeLoop F blk buf s with
  | case1 s => exact Appended.nil
  | case2 buf s hb k buf1 off h1 =>
    -- the whole buffer is zeros
    have hsplit : zeros k ++ buf1 = buf := skip_zeros_split blk buf
    rw [show buf1 = [] from h1, List.append_nil] at hsplit
    exact hsplit ▸ Appended.skip k
  | case3 buf s hb k buf1 off h1 sk hsk =>
    refine Appended.failed (fun c h => ?_) rfl
    have hsk : sk.2 = false := by simpa using hsk
    obtain ⟨ho, hi⟩ := seek_open h off s.wd.fdOffset
    exact ho.fail (hi hsk)
  | case4 buf s hb k buf1 off h1 n sk hsk r hr =>
    refine Appended.failed (fun c h => ?_) rfl
    have ho : Open F old new c ⟨s.wd, sk.1⟩ := (seek_open h off s.wd.fdOffset).1
    rcases ho.call (op := .write off (buf1.take n)) rfl (step_write_shape old c off _) with ⟨_, hi, ho⟩ | ⟨h2, _⟩
    · exact ho.fail hi
    · simp only [r, h2, Res.isOk_ok] at hr; cases hr
  | case5 buf s hb k buf1 off h1 n sk hsk r hr ih =>
    have hw : ∀ c, Open F old new c ⟨{ s.wd with offset := off }, s.w⟩ →
        Open F old new (writeAt c off (buf1.take n)) ⟨{ s.wd with offset := off }, r.1⟩ := by
      intro c h
      have ho : Open F old new c ⟨_, sk.1⟩ := (seek_open h off s.wd.fdOffset).1
      rcases ho.call (op := .write off (buf1.take n)) rfl (step_write_shape old c off _) with ⟨h2, _⟩ | ⟨_, ho⟩
      · simp only [r, h2, Res.isOk_inj] at hr; exact absurd rfl hr
      · exact ho
    have hn : (buf1.take n).length = n := by
      rw [List.length_take]
      simp only [n]; split
      · exact Nat.min_self _
      · omega
    have hsplit : zeros k ++ buf1 = buf := skip_zeros_split blk buf
    have h := ((Appended.skip k).trans (Appended.write hn hw)).trans ih
    rwa [List.append_assoc, List.take_append_drop, hsplit] at h

/-- The block-size step of `write_data_block`: with ARCHIVE_EXTRACT_SPARSE the file is
stat'ed once (`a->pst`; `none` when that fails), otherwise the block size is 0. -/
def statStep (F : Nat → Bool) (cfg : Cfg) (s : S) : S × Option Nat :=
  if cfg.sparse then
    if s.wd.pst then (s, some cfg.blk)
    else
      let l := lazyStat F cfg s
      match l.2 with
      | some _ => (⟨{ l.1.wd with pst := true }, l.1.w⟩, some cfg.blk)
      | none => (l.1, none)
  else (s, some 0)

/-- `write_data_block` after the block-size step. -/
def writeBody (F : Nat → Bool) (cfg : Cfg) (buf : Bytes) (b : S × Option Nat) : S × DR :=
  match b.2 with
  | none => (⟨{ b.1.wd with incomplete := true }, b.1.w⟩, .st .warn)
  | some blk =>
    if b.1.wd.offset > cfg.size then (b.1, .oob) else
    let size := if b.1.wd.offset + buf.length > cfg.size then cfg.size - b.1.wd.offset else buf.length
    let l := writeLoop F blk (buf.take size) b.1
    match l.2 with
    | some st => (l.1, .st st)
    | none => (l.1, .n size)

theorem writeDataBlock_eq (F : Nat → Bool) (cfg : Cfg) (buf : Bytes) (s : S) :
    writeDataBlock F cfg buf s =
      if buf.length = 0 then (s, .n 0) else
      if cfg.size = 0 ∨ !s.wd.fd then (s, .st .warn) else
      writeBody F cfg buf (statStep F cfg s) := rfl

theorem statStep_open (h : Open F old new c s) :
    Open F old new c (statStep F cfg s).1 ∧ (∃ p, (statStep F cfg s).1.wd = { s.wd with pst := p }) ∧
    ((statStep F cfg s).2 = none → HasInj F (statStep F cfg s).1.w) := by
  unfold statStep
  simp only []
  split
  · split
    · exact ⟨h, ⟨s.wd.pst, rfl⟩, nofun⟩
    · obtain ⟨hwd, ho, hr⟩ := lazyStat_open (cfg := cfg) h
      split
      · exact ⟨ho.of_wd, ⟨true, by rw [hwd]⟩, nofun⟩
      · rename_i hnone
        refine ⟨ho, ⟨s.wd.pst, by rw [hwd]⟩, fun _ => ?_⟩
        rcases hr with hr | ⟨_, hr, _⟩
        · exact hr.2
        · rw [hr] at hnone; cases hnone
  · exact ⟨h, ⟨s.wd.pst, rfl⟩, nofun⟩

theorem writeBody_appended (buf : Bytes) (b : S × Option Nat) (hn : b.2 = none → HasInj F b.1.w) :
    Appended F old new (buf.take (cfg.size - b.1.wd.offset)) b.1 (writeBody F cfg buf b).1 := by
  unfold writeBody
  split
  · exact Appended.failed (fun c h => h.fail (hn ‹_›)) rfl
  · split
    · -- offset beyond the declared size: nothing is written
      rw [show cfg.size - b.1.wd.offset = 0 by omega]
      exact Appended.nil
    · -- "If this write would run beyond the file size, truncate it."
      have : buf.take (if b.1.wd.offset + buf.length > cfg.size then cfg.size - b.1.wd.offset else buf.length)
          = buf.take (cfg.size - b.1.wd.offset) := by
        split
        · rfl
        · rw [List.take_of_length_le (Nat.le_refl _), List.take_of_length_le (by omega)]
      simp only [this]
      split <;> exact writeLoop_appended F _ _ b.1

theorem writeDataBlock_appended (buf : Bytes) (s : S) :
    Appended F old new (buf.take (cfg.size - s.wd.offset)) s (writeDataBlock F cfg buf s).1 := by
  intro c h
  rw [writeDataBlock_eq]
  split
  · rename_i h0
    rw [List.eq_nil_of_length_eq_zero h0, List.take_nil]
    exact Appended.nil c h
  · split
    · -- declared size 0 (the descriptor is open)
      rename_i h0
      have hsz : cfg.size = 0 := by
        rcases h0 with h0 | h0
        · exact h0
        · simp [h.fd] at h0
      rw [hsz, Nat.zero_sub, List.take_zero]
      exact Appended.nil c h
    · obtain ⟨ho, ⟨p, hwd⟩, hnone⟩ := statStep_open (cfg := cfg) h
      have k := writeBody_appended (cfg := cfg) buf (statStep F cfg s) hnone c ho
      rwa [hwd] at k

/-- How the content `c` of the temporary file and the writer's offsets relate to the
image `img` laid out so far (meaningful while no write has failed). -/
structure Content (size : Nat) (c : Bytes) (wd : WD) (img : Bytes × Nat) : Prop where
  virt : Virt c wd.fdOffset wd.offset img.1
  off : wd.offset = img.2
  bound : img.2 ≤ size

/-- Data-phase invariant: the temporary file is open; either no call was made to fail and
it holds the image built so far, or it is marked incomplete. -/
def DI (F : Nat → Bool) (cfg : Cfg) (old new : Bytes) (img : Bytes × Nat) (s : S) : Prop :=
  ∃ c, Open F old new c s ∧ (s.wd.incomplete = false → Content cfg.size c s.wd img)

/-- `write_data_block` at offset `o`, not before the end of the image so far. -/
theorem writeDataBlock_DI {img img' : Bytes × Nat} (buf : Bytes) (o : Nat) (h : DI F cfg old new img s)
    (ho : s.wd.incomplete = false → img.2 ≤ o ∧ o ≤ cfg.size ∧
      img' = (padTo o img.1 ++ buf.take (cfg.size - o), o + (buf.take (cfg.size - o)).length)) :
    DI F cfg old new img' (writeDataBlock F cfg buf ⟨{ s.wd with offset := o }, s.w⟩).1 := by
  obtain ⟨c, hop, hc⟩ := h
  obtain ⟨c', hop', k⟩ := writeDataBlock_appended (cfg := cfg) buf ⟨{ s.wd with offset := o }, s.w⟩ c hop.of_wd
  refine ⟨c', hop', fun hinc' => ?_⟩
  obtain ⟨hinc, k⟩ := k hinc'
  have C := hc hinc
  obtain ⟨ho1, ho2, rfl⟩ := ho hinc
  have hle : s.wd.offset ≤ o := C.off ▸ ho1
  have hv : Virt c s.wd.fdOffset o (padTo o img.1) :=
    ⟨C.virt.len, Nat.le_trans C.virt.le hle, by rw [← C.virt.pad, padTo_padTo hle]⟩
  have hv' := k _ hv
  have hd : (buf.take (cfg.size - o)).length ≤ cfg.size - o := by simp; omega
  exact ⟨hv', by rw [← hv'.length, List.length_append, hv.length], by show _ ≤ cfg.size; omega⟩

/-- `archive_write_data_block` sets `a->offset` first; `archive_write_data` continues where it is. -/
def startAt (s : S) : Call → S
  | .data _ => s
  | .block o _ => ⟨{ s.wd with offset := o }, s.w⟩

theorem runCall_fst {F : Nat → Bool} {cfg : Cfg} {s : S} (call : Call) (hst : s.wd.state = .data) :
    (runCall F cfg s call).1 = (writeDataBlock F cfg call.body (startAt s call)).1 := by
  cases call with
  | data b =>
    show (dataCall F cfg b s).1 = _
    unfold dataCall
    rw [if_neg (by simp [hst])]
    rfl
  | block o b =>
    show (blockCall F cfg o b s).1 = _
    unfold blockCall
    rw [if_neg (by simp [hst])]
    simp only []
    split <;> rfl

theorem runCall_DI {img : Bytes × Nat} (call : Call) (cs : List Call) (h : DI F cfg old new img s)
    (hwf : wellFormed cfg.size img.2 (call :: cs)) :
    DI F cfg old new (place cfg.size img call) (runCall F cfg s call).1 ∧
    wellFormed cfg.size (place cfg.size img call).2 cs := by
  obtain ⟨c, hs, hc⟩ := h
  rw [runCall_fst call hs.st]
  cases call with
  | data b =>
    refine ⟨writeDataBlock_DI b s.wd.offset ⟨c, hs, hc⟩ fun hinc => ?_, hwf⟩
    rw [(hc hinc).off]
    exact ⟨Nat.le_refl _, (hc hinc).bound, rfl⟩
  | block o b => exact ⟨writeDataBlock_DI b o ⟨c, hs, hc⟩ fun _ => ⟨hwf.1, hwf.2.1, rfl⟩, hwf.2.2⟩

theorem runCalls_DI (calls : List Call) :
    ∀ (img : Bytes × Nat) (s : S), DI F cfg old new img s → wellFormed cfg.size img.2 calls →
      DI F cfg old new (calls.foldl (place cfg.size) img) (runCalls F cfg s calls).1 := by
  induction calls with
  | nil => intro img s h _; exact h
  | cons call cs ih =>
    intro img s h hwf
    obtain ⟨h1, h2⟩ := runCall_DI call cs h hwf
    exact ih _ _ h1 h2

/-- Sequential `archive_write_data` calls lay out the concatenation of their bodies. -/
theorem foldl_place_data (size : Nat) (bs : List Bytes) :
    ∀ (img : Bytes) (pos : Nat), img.length = pos → pos ≤ size →
      ((bs.map Call.data).foldl (place size) (img, pos)).1 = img ++ (bs.flatten).take (size - pos) := by
  induction bs with
  | nil => intro img pos _ _; simp
  | cons b bs ih =>
    intro img pos hl hp
    simp only [List.map_cons, List.foldl_cons, place, List.flatten_cons]
    have hd : (b.take (size - pos)).length ≤ size - pos := by simp; omega
    rw [ih _ _ (by simp [hl]) (by omega)]
    rw [padTo_of_le (by omega), List.append_assoc]
    congr 1
    rw [List.take_append]
    congr 2
    simp only [List.length_take]
    omega

end LA.SafeWrite
