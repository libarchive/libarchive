/-
From single setters to calls and histories (C14).  A defined call applies a
total function of the entry (`Op.act`); a defined history is the fold of these (`acts`).
`copy_stat` is the history of its twelve setter calls, so what holds of every other call and is
closed under composition holds of it too.
-/
import LA.Lemmas.EntryLocal
namespace LA.Entry
open LA.Gen.EntryBits

theorem sparseCount_congr (e1 e2 : Entry) (h1 : e1.aest_size = e2.aest_size) (h2 : e1.sparse = e2.sparse) :
    (sparseCount e1).2 = (sparseCount e2).2 ∧ (sparseCount e1).1.sparse = (sparseCount e2).1.sparse := by
  rw [sparseCount_snd, sparseCount_snd, sparseCount_fst, sparseCount_fst]
  unfold size sparseClear
  rw [h1, h2]
  cases sparseWhole (u64ToI64 e2.aest_size) e2.sparse <;> simp [h2]

theorem stat_snd (e : Entry) : (stat e).2 = bif e.stat_valid then e.stat_cache else statOf e := rfl

theorem obs_of_view (g : Getter) (e1 e2 : Entry) (h : view g.group e1 = view g.group e2) : obs g e1 = obs g e2 := by
  cases g <;>
    simp only [Getter.group, view, View.mk.injEq, List.cons.injEq, and_true, true_and] at h
  case sparseCount => simp only [obs, (sparseCount_congr e1 e2 h.1 h.2.1).1]
  case sparseBlocks => simp only [obs, (sparseCount_congr e1 e2 h.1 h.2.1).2]
  case stat =>
    simp only [obs, stat_snd, statOf, timeSec, timeNsec, dev, gid, uid, ino, nlink, rdev, rdevIsSet, size, mode, h]
    rfl
  all_goals
    simp only [obs, timeIsSet, dev, devmajor, devminor, devIsSet, rdev, rdevmajor, rdevminor, rdevIsSet,
      ino, inoIsSet, nlink, uid, uidIsSet, gid, gidIsSet, size, sizeIsSet, mode, filetype, filetypeIsSet, perm, permIsSet,
      strmode, getStr, hardlink, hardlinkIsSet, symlink, fflags, fflagsTextV, symlinkType, isDataEncrypted, isMetadataEncrypted, isEncrypted,
      xattrCount, macMetadata, digest, h]
  all_goals rfl

theorem unsetTime_eq (f : TimeField) (e : Entry) : unsetTime f e = some (unsetTimeCore f e) := by
  simp [unsetTime, setTime, fixNs_zero, unsetTimeCore]

/-- Only `FIX_NS` can make a call undefined; whether it does depends on the arguments alone. -/
def Op.defined : Op → Bool
  | .setTime _ t ns => (fixNs t ns).isSome
  | .copyStat st =>
    (fixNs st.atime st.atime_nsec).isSome && (fixNs st.ctime st.ctime_nsec).isSome && (fixNs st.mtime st.mtime_nsec).isSome
  | _ => true

def Op.act : Op → Entry → Entry
  | .setTime f t ns, e => match fixNs t ns with
    | some p => setTimeCore f e p.1 p.2.toNat
    | none => e
  | .unsetTime f, e => unsetTimeCore f e
  | op, e => (step e op).getD e

theorem step_eq (e : Entry) (op : Op) : step e op = if op.defined then some (op.act e) else none := by
  cases op
  case setTime f t ns => cases h : fixNs t ns <;> simp only [step, setTime, Op.defined, Op.act, h] <;> rfl
  case unsetTime f => exact unsetTime_eq f e
  case copyStat st =>
    cases ha : fixNs st.atime st.atime_nsec <;> cases hc : fixNs st.ctime st.ctime_nsec <;>
      cases hm : fixNs st.mtime st.mtime_nsec <;> simp only [step, copyStat, Op.defined, Op.act, ha, hc, hm] <;> rfl
  all_goals rfl

theorem act_of_step {e e' : Entry} {op : Op} (h : step e op = some e') : op.defined = true ∧ e' = op.act e := by
  rw [step_eq] at h
  cases hd : op.defined <;> simp only [hd, if_true, Bool.false_eq_true, if_false, Option.some.injEq] at h
  · cases h
  · exact ⟨rfl, h.symm⟩

def acts (ops : List Op) (e : Entry) : Entry := ops.foldl (fun e o => o.act e) e

theorem run_eq (e : Entry) (ops : List Op) :
    run e ops = if ops.all Op.defined then some (acts ops e) else none := by
  induction ops generalizing e with
  | nil => rfl
  | cons op ops ih =>
    cases hd : op.defined <;> simp only [run, step_eq, List.all_cons, hd]
    · rfl
    · exact ih _

theorem acts_of_run {e e' : Entry} {ops : List Op} (h : run e ops = some e') :
    ops.all Op.defined = true ∧ e' = acts ops e := by
  rw [run_eq] at h
  cases hd : ops.all Op.defined <;> simp only [hd, if_true, Bool.false_eq_true, if_false, Option.some.injEq] at h
  · cases h
  · exact ⟨rfl, h.symm⟩

theorem run_of_defined {ops : List Op} (h : ops.all Op.defined = true) (e : Entry) : run e ops = some (acts ops e) := by
  rw [run_eq, h]; rfl

theorem acts_append (a b : List Op) (e : Entry) : acts (a ++ b) e = acts b (acts a e) := List.foldl_append

/-- `archive_entry_copy_stat` is this sequence of public setter calls. -/
def copyStatOps (st : StatRec) : List Op :=
  [.setTime .atime st.atime st.atime_nsec, .setTime .ctime st.ctime st.ctime_nsec,
   .setTime .mtime st.mtime st.mtime_nsec, .unsetTime .birthtime, .setDev st.dev, .setGid (st.gid % two32 : Nat),
   .setUid (st.uid % two32 : Nat), .setIno (u64ToI64 st.ino), .setNlink st.nlink, .setRdev st.rdev,
   .setSize st.size, .setMode (BitVec.ofNat 32 st.mode)]

theorem copyStat_eq_run (e : Entry) (st : StatRec) : copyStat e st = run e (copyStatOps st) := by
  simp only [copyStatOps, run, step, setTime, unsetTime_eq, copyStat]
  cases fixNs st.atime st.atime_nsec <;> cases fixNs st.ctime st.ctime_nsec <;>
    cases fixNs st.mtime st.mtime_nsec <;> rfl

theorem act_copyStat (st : StatRec) (e : Entry) :
    (Op.copyStat st).act e = if (copyStatOps st).all Op.defined then acts (copyStatOps st) e else e := by
  show (copyStat e st).getD e = _
  rw [copyStat_eq_run, run_eq]; split <;> rfl

def Op.basic : Op → Bool
  | .copyStat _ => false
  | _ => true

theorem copyStatOps_basic (st : StatRec) : ∀ o ∈ copyStatOps st, o.basic = true :=
  List.all_eq_true.mp (rfl : (copyStatOps st).all Op.basic = true)

theorem act_preserves {P : Entry → Prop} (h : ∀ op : Op, op.basic = true → ∀ e, P e → P (op.act e))
    (op : Op) (e : Entry) (he : P e) : P (op.act e) := by
  cases hb : op.basic
  · cases op <;> first | cases hb | skip
    rename_i st
    rw [act_copyStat]; split
    · have : ∀ ops : List Op, (∀ o ∈ ops, o.basic = true) → ∀ e, P e → P (acts ops e) := by
        intro ops; induction ops with
        | nil => exact fun _ _ he => he
        | cons o ops ih =>
          exact fun ho e he => ih (fun o' h' => ho o' (List.mem_cons_of_mem _ h')) _ (h o (ho o List.mem_cons_self) e he)
      exact this _ (copyStatOps_basic st) e he
    · exact he
  · exact h op hb e he

theorem Local.acts (ops : List Op) (h : ∀ o ∈ ops, Local (touches o) o.act) :
    Local (fun G => ops.any (touches · G)) (acts ops) := by
  induction ops with
  | nil => exact Local.id _
  | cons o ops ih =>
    exact (h o List.mem_cons_self).comp (ih fun o' h' => h o' (List.mem_cons_of_mem _ h'))

theorem act_local_basic (op : Op) (hb : op.basic = true) : Local (touches op) op.act := by
  cases op with
  | setTime f t ns =>
    show Local _ fun e => match fixNs t ns with
      | some p => setTimeCore f e p.1 p.2.toNat
      | none => e
    cases fixNs t ns
    · exact Local.id _
    · exact setTimeCore_local f _ _
  | copyStat st => cases hb
  | unsetTime f => exact unsetTimeCore_local f
  | setSize s => exact setSize_local s
  | unsetSize => exact unsetSize_local
  | setDev d => exact setDev_local d
  | setDevmajor d => exact setDevmajor_local d
  | setDevminor d => exact setDevminor_local d
  | setRdev d => exact setRdev_local d
  | setRdevmajor d => exact setRdevmajor_local d
  | setRdevminor d => exact setRdevminor_local d
  | setIno i => exact setIno_local i
  | setNlink n => exact setNlink_local n
  | setUid u => exact setUid_local u
  | setGid g => exact setGid_local g
  | setMode m => exact setMode_local m
  | setPerm p => exact setPerm_local p
  | setFiletype t => exact setFiletype_local t
  | setStr f v => exact setStr_local f v
  | setHardlink v => exact setHardlink_local v
  | copyHardlink v => exact copyHardlink_local v
  | setSymlink v => exact setSymlink_local v
  | setLink v => exact setLink_local v
  | setLinkToHardlink => exact setLinkToHardlink_local
  | setLinkToSymlink => exact setLinkToSymlink_local
  | setFflags s c => exact setFflags_local s c
  | copyFflagsText s => exact copyFflagsText_local s
  | fflagsText => exact fflagsText_local
  | setSymlinkType t => exact setSymlinkType_local t
  | setIsDataEncrypted b => exact setIsDataEncrypted_local b
  | setIsMetadataEncrypted b => exact setIsMetadataEncrypted_local b
  | sparseAdd o l => exact sparseAdd_local o l
  | sparseClear => exact sparseClear_local
  | sparseCount => exact sparseCount_local
  | sparseReset => exact sparseReset_local
  | sparseNext => exact sparseNext_local
  | xattrAdd n v => exact xattrAdd_local n v
  | xattrClear => exact xattrClear_local
  | xattrReset => exact xattrReset_local
  | xattrNext => exact xattrNext_local
  | copyMacMetadata v => exact copyMacMetadata_local v
  | setDigest t d => exact setDigest_local t d
  | stat => exact stat_local
  | clear => exact clear_local

theorem act_local (op : Op) : Local (touches op) op.act := by
  cases op
  case copyStat st =>
    have : (Op.copyStat st).act = if (copyStatOps st).all Op.defined then acts (copyStatOps st) else id := by
      funext e; rw [act_copyStat]; split <;> rfl
    rw [this]; split
    · exact (Local.acts _ fun o ho => act_local_basic o (copyStatOps_basic st o ho)).mono
        fun G h => by cases G <;> first | rfl | cases h | (rename_i f; cases f <;> first | rfl | cases h)
    · exact Local.id _
  all_goals exact act_local_basic _ rfl

theorem acts_untouched (G : Group) (ops : List Op) (e : Entry) (h : ∀ o ∈ ops, touches o G = false) :
    view G (acts ops e) = view G e := by
  induction ops generalizing e with
  | nil => rfl
  | cons op ops ih =>
    exact (ih _ fun o ho => h o (List.mem_cons_of_mem _ ho)).trans ((act_local op).frame G e (h op List.mem_cons_self))

theorem acts_relevant (G : Group) (ops : List Op) (e1 e2 : Entry) (h : view G e1 = view G e2) :
    view G (acts ops e1) = view G (acts (ops.filter (touches · G)) e2) := by
  induction ops generalizing e1 e2 with
  | nil => exact h
  | cons op ops ih =>
    cases ht : touches op G <;> simp only [List.filter_cons, ht, Bool.false_eq_true, if_false, if_true]
    · exact ih _ _ (((act_local op).frame G e1 ht).trans h)
    · exact ih _ _ ((act_local op).congr G e1 e2 ht h)

theorem acts_invariant {P : Entry → Prop} (hstep : ∀ (op : Op) e, P e → P (op.act e)) (ops : List Op) (e : Entry)
    (h : P e) : P (acts ops e) := by
  induction ops generalizing e with
  | nil => exact h
  | cons op ops ih => exact ih _ (hstep op e h)

end LA.Entry
