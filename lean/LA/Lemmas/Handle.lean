/-
Lemmas for the handle life-cycle model (property C07): rules for `checked` and
`step` (what holds of every exit holds of the call), each release helper as one
record update, the rows of the generated table that the life-cycle functions go
through, and what `close` does to a handle of each kind.
Table facts are proved by evaluating the generated table: they are re-checked
whenever tools/lib/extract.py rewrites LA/Gen/ApiStates.lean.
-/
import LA.Model.Handle
namespace LA.Handle
open LA.Gen.ApiStates

theorem checked_none {h : Handle} {f : String} {body : Handle → Handle × Rc}
    (hs : siteOf h.kind f = none) : checked h f body = (h, .nosite) := by
  simp [checked, hs]

theorem checked_pass {h : Handle} {f : String} {body : Handle → Handle × Rc} {s : Site}
    (hs : siteOf h.kind f = some s) (ha : allowed h.st s.mask = true) : checked h f body = body h := by
  simp [checked, hs, ha]

theorem checked_refused {h : Handle} {f : String} {body : Handle → Handle × Rc} {s : Site}
    (hs : siteOf h.kind f = some s) (ha : allowed h.st s.mask = false) :
    checked h f body = ({ h with st := .fatal }, .fatal) := by
  simp [checked, hs, ha]

theorem checked_ind {P : Handle × Rc → Prop} (h : Handle) (f : String) (body : Handle → Handle × Rc)
    (hn : P (h, .nosite)) (hf : P ({ h with st := .fatal }, .fatal)) (hb : P (body h)) :
    P (checked h f body) := by
  unfold checked; split
  · exact hn
  · split
    · exact hb
    · exact hf

theorem ite_ind {P : Handle → Prop} {c : Prop} [Decidable c] {a b : Handle × Rc}
    (ha : P a.1) (hb : P b.1) : P (if c then a else b).1 := by
  split <;> assumption

theorem siteOf_mem {k : Kind} {f : String} {s : Site} (hs : siteOf k f = some s) :
    s ∈ sites ∧ s.func = f ∧ s.kind = k := by
  unfold siteOf at hs
  have h2 := List.find?_some hs
  simp at h2
  exact ⟨List.mem_of_find?_eq_some hs, h2.2, h2.1⟩

def acceptFatal : List String :=
  ((sites.filter fun s => allowed .fatal s.mask).map (·.func)).eraseDups

/-- Table fact: close and free, of whatever kind, are the only functions let through in the FATAL state. -/
theorem acceptFatal_eq : acceptFatal =
    ["archive_match_free", "_archive_read_close", "_archive_read_free", "_archive_write_close",
     "_archive_write_free", "_archive_write_disk_close", "_archive_write_disk_free"] := by decide +kernel

theorem site_accepts_fatal {k : Kind} {f : String} {s : Site} (hs : siteOf k f = some s)
    (ha : allowed .fatal s.mask = true) : f ∈ acceptFatal := by
  obtain ⟨hm, hf, _⟩ := siteOf_mem hs
  unfold acceptFatal
  rw [List.mem_eraseDups]
  simp only [List.mem_map, List.mem_filter]
  exact ⟨s, ⟨hm, ha⟩, hf⟩

theorem fatal_eta (h : Handle) (hst : h.st = .fatal) : { h with st := St.fatal } = h := by
  cases h; simp_all

theorem checked_fatal {h : Handle} {f : String} {body : Handle → Handle × Rc}
    (hst : h.st = .fatal) (hf : f ∉ acceptFatal) :
    checked h f body = (h, .fatal) ∨ checked h f body = (h, .nosite) := by
  cases hs : siteOf h.kind f with
  | none => right; exact checked_none hs
  | some s =>
    left
    have ha : allowed h.st s.mask = false := by
      cases hb : allowed h.st s.mask with
      | false => rfl
      | true => rw [hst] at hb; exact absurd (site_accepts_fatal hs hb) hf
    rw [checked_refused hs ha, fatal_eta h hst]

theorem step_ind {P : Handle × Rc → Prop} (h : Handle) (op : Op) (o : Outcome)
    (hd : P (h, .dead)) (hn : P (h, .nosite))
    (hc : h.alive = true → op.belongs h.kind = true → P (stepCore h op o)) : P (step h op o) := by
  unfold step
  split
  · exact hd
  · split
    · exact hn
    · exact hc (by simp_all) (by simp_all)

theorem step_core (h : Handle) (op : Op) (o : Outcome) (halive : h.alive = true)
    (hb : op.belongs h.kind = true) : step h op o = stepCore h op o := by
  simp [step, halive, hb]

/-- `archive_read_open*` is a chain of checks around the checked `archive_read_open1`: a
property of handles that survives a refusal, the registration of the read callback and
the checked `open1` survives the call, whatever the wrapper. -/
theorem rOpen_ind {Q : Handle → Prop} (h : Handle) (w : Option String) (reg : Bool) (o : Outcome)
    (hq : Q h) (hfat : ∀ g, Q g → Q { g with st := .fatal })
    (hreg : ∀ g, Q g → Q { g with hasReader := true })
    (hopen : ∀ g, Q g → Q (checked g "archive_read_open1" (rOpen1Body o)).1) :
    Q (stepCore h (.rOpen w reg) o).1 := by
  have chk : ∀ g f body, Q g → Q (body g).1 → Q (checked g f body).1 := fun g f body qg qb =>
    checked_ind (P := fun p => Q p.1) g f body qg (hfat g qg) qb
  have go : ∀ g, Q g → Q (checked (if reg = true then
      (checked g "archive_read_set_read_callback" fun h => ({ h with hasReader := true }, Rc.ok)).1
      else g) "archive_read_open1" (rOpen1Body o)).1 := by
    intro g qg
    apply hopen
    split
    · exact chk _ _ _ qg (hreg g qg)
    · exact qg
  cases w with
  | none => exact go h hq
  | some w => exact chk _ _ _ hq (go h hq)

theorem openCount_map_closeF (l : List FSt) : openCount (l.map closeF) = 0 := by
  induction l with
  | nil => rfl
  | cons a t ih => cases a <;> simp [closeF, openCount, ih]

@[simp] theorem closeF_ne_opened (f : FSt) : closeF f ≠ .opened := by cases f <;> decide

@[simp] theorem closeF_idem (f : FSt) : closeF (closeF f) = closeF f := by cases f <;> rfl

theorem openCount_append (a b : List FSt) : openCount (a ++ b) = openCount a + openCount b := by
  induction a with
  | nil => simp [openCount]
  | cons x t ih => cases x <;> simp [openCount, ih] <;> omega

theorem getLast?_replicate_opened (n : Nat) :
    ((List.replicate (n + 1) FSt.opened).getLast? == some FSt.opened) = true := by
  simp [List.getLast?_replicate]

/-! ### frame equations: each release helper as one record update

A guarded release whose guard is false changes nothing, and then the field it
would have cleared is clear already; so the guard disappears from the equation. -/

attribute [simp] relRegs relFixups

@[simp] theorem relFd_eq (h : Handle) : relFd h = { h with fd := false } := by
  unfold relFd; split
  · rfl
  · cases h; simp_all

@[simp] theorem relEnt_eq (h : Handle) : relEnt h = { h with ent := false } := by
  unfold relEnt; split
  · rfl
  · cases h; simp_all

@[simp] theorem callCloser_eq (h : Handle) : callCloser h =
    { h with client := false, bad := h.bad + b2n (!h.client), nClose := h.nClose + 1 } := by
  unfold callCloser; cases h.client <;> rfl

@[simp] theorem relHandle_eq (h : Handle) :
    relHandle h = { h with alive := false, bad := h.bad + b2n (!h.alive) } := by
  unfold relHandle; cases h.alive <;> rfl

@[simp] theorem kCloseTree_eq (h : Handle) : kCloseTree h = { h with topen := h.topen && !h.tree } := by
  cases ht : h.tree <;> cases ho : h.topen
  all_goals
    cases h
    simp_all [kCloseTree]

/-- The client's close callback runs (once) exactly when the last filter, the client proxy, was open. -/
@[simp] theorem rCloseFilters_eq (h : Handle) : rCloseFilters h =
    { h with filters := h.filters.map closeF,
             client := h.client && !(h.filters.getLast? == some .opened),
             bad := h.bad + b2n (h.filters.getLast? == some .opened && !h.client),
             nClose := h.nClose + b2n (h.filters.getLast? == some .opened) } := by
  unfold rCloseFilters
  cases h.filters.getLast? == some FSt.opened
  · cases h; simp [b2n]
  · cases h.client <;> rfl

/-- Freeing the filters loses nothing: `close_filters` has closed them all. -/
@[simp] theorem rFreeFilters_eq (h : Handle) : rFreeFilters h = { rCloseFilters h with filters := [] } := by
  simp [rFreeFilters, openCount_map_closeF]

@[simp] theorem wCloseFilters_eq (h : Handle) : wCloseFilters h =
    { h with filters := h.filters.map closeF,
             nClose := h.nClose + b2n (h.filters.getLast? == some .opened) } := by
  unfold wCloseFilters; cases h.filters.getLast? == some FSt.opened <;> rfl

@[simp] theorem wFreeFilters_eq (h : Handle) : wFreeFilters h =
    { h with filters := [], lost := h.lost + openCount h.filters,
             client := h.client && h.filters.isEmpty,
             nFree := h.nFree + b2n (h.client && !h.filters.isEmpty) } := by
  unfold wFreeFilters
  cases h.filters.isEmpty
  · cases h.client <;> rfl
  · cases h; simp [b2n]

macro "frame" ds:ident* : tactic => `(tactic| (simp only [$[$ds:ident],*] <;> ((repeat' split) <;> rfl)))

theorem relFd_ent (h : Handle) : (relFd h).ent = h.ent := by rw [relFd_eq]

theorem relRegs_alive (h : Handle) : (relRegs h).alive = h.alive := rfl
theorem relRegs_hasReader (h : Handle) : (relRegs h).hasReader = h.hasReader := rfl
theorem relRegs_ent (h : Handle) : (relRegs h).ent = h.ent := rfl
theorem relRegs_fd (h : Handle) : (relRegs h).fd = h.fd := rfl
theorem relRegs_fixups (h : Handle) : (relRegs h).fixups = h.fixups := rfl
theorem relRegs_tree (h : Handle) : (relRegs h).tree = h.tree := rfl
theorem relRegs_topen (h : Handle) : (relRegs h).topen = h.topen := rfl
theorem relRegs_bad (h : Handle) : (relRegs h).bad = h.bad := rfl
theorem relRegs_regs (h : Handle) : (relRegs h).regs = 0 := rfl

theorem relFixups_regs (h : Handle) : (relFixups h).regs = h.regs := rfl
theorem relFixups_hasReader (h : Handle) : (relFixups h).hasReader = h.hasReader := rfl
theorem relFixups_filters (h : Handle) : (relFixups h).filters = h.filters := rfl
theorem relFixups_client (h : Handle) : (relFixups h).client = h.client := rfl
theorem relFixups_tree (h : Handle) : (relFixups h).tree = h.tree := rfl
theorem relFixups_topen (h : Handle) : (relFixups h).topen = h.topen := rfl
theorem relFixups_bad (h : Handle) : (relFixups h).bad = h.bad := rfl
theorem relFixups_lost (h : Handle) : (relFixups h).lost = h.lost := rfl
theorem relFixups_fixups (h : Handle) : (relFixups h).fixups = 0 := rfl

theorem callCloser_st (h : Handle) : (callCloser h).st = h.st := by rw [callCloser_eq]
theorem callCloser_alive (h : Handle) : (callCloser h).alive = h.alive := by rw [callCloser_eq]
theorem callCloser_regs (h : Handle) : (callCloser h).regs = h.regs := by rw [callCloser_eq]
theorem callCloser_hasReader (h : Handle) : (callCloser h).hasReader = h.hasReader := by rw [callCloser_eq]
theorem callCloser_filters (h : Handle) : (callCloser h).filters = h.filters := by rw [callCloser_eq]
theorem callCloser_ent (h : Handle) : (callCloser h).ent = h.ent := by rw [callCloser_eq]
theorem callCloser_fd (h : Handle) : (callCloser h).fd = h.fd := by rw [callCloser_eq]
theorem callCloser_fixups (h : Handle) : (callCloser h).fixups = h.fixups := by rw [callCloser_eq]
theorem callCloser_tree (h : Handle) : (callCloser h).tree = h.tree := by rw [callCloser_eq]
theorem callCloser_topen (h : Handle) : (callCloser h).topen = h.topen := by rw [callCloser_eq]
theorem callCloser_lost (h : Handle) : (callCloser h).lost = h.lost := by rw [callCloser_eq]

theorem relHandle_regs (h : Handle) : (relHandle h).regs = h.regs := by rw [relHandle_eq]
theorem relHandle_hasReader (h : Handle) : (relHandle h).hasReader = h.hasReader := by rw [relHandle_eq]
theorem relHandle_filters (h : Handle) : (relHandle h).filters = h.filters := by rw [relHandle_eq]
theorem relHandle_client (h : Handle) : (relHandle h).client = h.client := by rw [relHandle_eq]
theorem relHandle_ent (h : Handle) : (relHandle h).ent = h.ent := by rw [relHandle_eq]
theorem relHandle_fd (h : Handle) : (relHandle h).fd = h.fd := by rw [relHandle_eq]
theorem relHandle_fixups (h : Handle) : (relHandle h).fixups = h.fixups := by rw [relHandle_eq]
theorem relHandle_tree (h : Handle) : (relHandle h).tree = h.tree := by rw [relHandle_eq]
theorem relHandle_topen (h : Handle) : (relHandle h).topen = h.topen := by rw [relHandle_eq]
theorem relHandle_lost (h : Handle) : (relHandle h).lost = h.lost := by rw [relHandle_eq]

theorem rCloseFilters_regs (h : Handle) : (rCloseFilters h).regs = h.regs := by rw [rCloseFilters_eq]
theorem rCloseFilters_hasReader (h : Handle) : (rCloseFilters h).hasReader = h.hasReader := by rw [rCloseFilters_eq]
theorem rCloseFilters_ent (h : Handle) : (rCloseFilters h).ent = h.ent := by rw [rCloseFilters_eq]
theorem rCloseFilters_fd (h : Handle) : (rCloseFilters h).fd = h.fd := by rw [rCloseFilters_eq]
theorem rCloseFilters_fixups (h : Handle) : (rCloseFilters h).fixups = h.fixups := by rw [rCloseFilters_eq]
theorem rCloseFilters_tree (h : Handle) : (rCloseFilters h).tree = h.tree := by rw [rCloseFilters_eq]
theorem rCloseFilters_topen (h : Handle) : (rCloseFilters h).topen = h.topen := by rw [rCloseFilters_eq]
theorem rCloseFilters_lost (h : Handle) : (rCloseFilters h).lost = h.lost := by rw [rCloseFilters_eq]

theorem rFreeFilters_alive (h : Handle) : (rFreeFilters h).alive = h.alive := by rw [rFreeFilters_eq, rCloseFilters_eq]
theorem rFreeFilters_regs (h : Handle) : (rFreeFilters h).regs = h.regs := by rw [rFreeFilters_eq, rCloseFilters_eq]
theorem rFreeFilters_hasReader (h : Handle) : (rFreeFilters h).hasReader = h.hasReader := by
  rw [rFreeFilters_eq, rCloseFilters_eq]
theorem rFreeFilters_ent (h : Handle) : (rFreeFilters h).ent = h.ent := by rw [rFreeFilters_eq, rCloseFilters_eq]
theorem rFreeFilters_fd (h : Handle) : (rFreeFilters h).fd = h.fd := by rw [rFreeFilters_eq, rCloseFilters_eq]
theorem rFreeFilters_fixups (h : Handle) : (rFreeFilters h).fixups = h.fixups := by rw [rFreeFilters_eq, rCloseFilters_eq]
theorem rFreeFilters_tree (h : Handle) : (rFreeFilters h).tree = h.tree := by rw [rFreeFilters_eq, rCloseFilters_eq]
theorem rFreeFilters_topen (h : Handle) : (rFreeFilters h).topen = h.topen := by rw [rFreeFilters_eq, rCloseFilters_eq]
theorem rFreeFilters_filters (h : Handle) : (rFreeFilters h).filters = [] := rfl

theorem wFreeFilters_st (h : Handle) : (wFreeFilters h).st = h.st := by rw [wFreeFilters_eq]
theorem wFreeFilters_alive (h : Handle) : (wFreeFilters h).alive = h.alive := by rw [wFreeFilters_eq]
theorem wFreeFilters_regs (h : Handle) : (wFreeFilters h).regs = h.regs := by rw [wFreeFilters_eq]
theorem wFreeFilters_hasReader (h : Handle) : (wFreeFilters h).hasReader = h.hasReader := by rw [wFreeFilters_eq]
theorem wFreeFilters_ent (h : Handle) : (wFreeFilters h).ent = h.ent := by rw [wFreeFilters_eq]
theorem wFreeFilters_fd (h : Handle) : (wFreeFilters h).fd = h.fd := by rw [wFreeFilters_eq]
theorem wFreeFilters_fixups (h : Handle) : (wFreeFilters h).fixups = h.fixups := by rw [wFreeFilters_eq]
theorem wFreeFilters_tree (h : Handle) : (wFreeFilters h).tree = h.tree := by rw [wFreeFilters_eq]
theorem wFreeFilters_topen (h : Handle) : (wFreeFilters h).topen = h.topen := by rw [wFreeFilters_eq]
theorem wFreeFilters_bad (h : Handle) : (wFreeFilters h).bad = h.bad := by rw [wFreeFilters_eq]
theorem wFreeFilters_filters (h : Handle) : (wFreeFilters h).filters = [] := by rw [wFreeFilters_eq]

theorem kCloseTree_regs (h : Handle) : (kCloseTree h).regs = h.regs := by rw [kCloseTree_eq]
theorem kCloseTree_hasReader (h : Handle) : (kCloseTree h).hasReader = h.hasReader := by rw [kCloseTree_eq]
theorem kCloseTree_filters (h : Handle) : (kCloseTree h).filters = h.filters := by rw [kCloseTree_eq]
theorem kCloseTree_client (h : Handle) : (kCloseTree h).client = h.client := by rw [kCloseTree_eq]
theorem kCloseTree_ent (h : Handle) : (kCloseTree h).ent = h.ent := by rw [kCloseTree_eq]
theorem kCloseTree_fd (h : Handle) : (kCloseTree h).fd = h.fd := by rw [kCloseTree_eq]
theorem kCloseTree_fixups (h : Handle) : (kCloseTree h).fixups = h.fixups := by rw [kCloseTree_eq]
theorem kCloseTree_tree (h : Handle) : (kCloseTree h).tree = h.tree := by rw [kCloseTree_eq]
theorem kCloseTree_bad (h : Handle) : (kCloseTree h).bad = h.bad := by rw [kCloseTree_eq]
theorem kCloseTree_lost (h : Handle) : (kCloseTree h).lost = h.lost := by rw [kCloseTree_eq]

/-- Closed filters stay closed, and their last one is not open: the second pass changes nothing. -/
theorem rCloseFilters_idem (h : Handle) : rCloseFilters (rCloseFilters h) = rCloseFilters h := by
  simp [b2n]

/-! ### the handle kind never changes

A body is a tree of `if`s over record updates that do not mention `kind`, so the
projection is pushed through the `if`s and read off at the leaves. -/

theorem checked_kind (h : Handle) (f : String) (body : Handle → Handle × Rc)
    (hb : (body h).1.kind = h.kind) : (checked h f body).1.kind = h.kind :=
  checked_ind (P := fun p => p.1.kind = h.kind) h f body rfl rfl hb

theorem relFd_kind (h : Handle) : (relFd h).kind = h.kind := by rw [relFd_eq]
theorem relEnt_kind (h : Handle) : (relEnt h).kind = h.kind := by rw [relEnt_eq]
theorem relRegs_kind (h : Handle) : (relRegs h).kind = h.kind := rfl
theorem relFixups_kind (h : Handle) : (relFixups h).kind = h.kind := rfl
theorem callCloser_kind (h : Handle) : (callCloser h).kind = h.kind := by rw [callCloser_eq]
theorem relHandle_kind (h : Handle) : (relHandle h).kind = h.kind := by rw [relHandle_eq]
theorem rCloseFilters_kind (h : Handle) : (rCloseFilters h).kind = h.kind := by rw [rCloseFilters_eq]
theorem rFreeFilters_kind (h : Handle) : (rFreeFilters h).kind = h.kind := by
  rw [rFreeFilters_eq, rCloseFilters_eq]
theorem wCloseFilters_kind (h : Handle) : (wCloseFilters h).kind = h.kind := by rw [wCloseFilters_eq]
theorem wFreeFilters_kind (h : Handle) : (wFreeFilters h).kind = h.kind := by rw [wFreeFilters_eq]
theorem kCloseTree_kind (h : Handle) : (kCloseTree h).kind = h.kind := by rw [kCloseTree_eq]

macro "kt" ds:ident* : tactic => `(tactic| (
  simp only [$[$ds:ident],*] <;> (try apply checked_kind) <;> (try intro g) <;> (repeat' split) <;>
    simp_all [relFd_kind, relEnt_kind, relRegs_kind, relFixups_kind, callCloser_kind, relHandle_kind,
      rCloseFilters_kind, rFreeFilters_kind, wCloseFilters_kind, wFreeFilters_kind, kCloseTree_kind]))

theorem rDataSkip_kind (h : Handle) (r : Rc) : (rDataSkip h r).1.kind = h.kind :=
  checked_kind _ _ _ rfl

theorem rOpen1Body_kind (o : Outcome) (h : Handle) : (rOpen1Body o h).1.kind = h.kind := by
  unfold rOpen1Body; split
  · rfl
  · split <;> simp [rSetFilters]

theorem rNextHeaderBody_kind (o : Outcome) (h : Handle) : (rNextHeaderBody o h).1.kind = h.kind := by
  simp only [rNextHeaderBody, apply_ite Prod.fst, apply_ite Handle.kind, rDataSkip_kind, ite_self]

theorem rClose_kind (o : Outcome) (h : Handle) : (rClose o h).1.kind = h.kind := by
  apply checked_kind; split <;> simp

theorem rFree_kind (o : Outcome) (h : Handle) : (rFree o h).1.kind = h.kind := by
  apply checked_kind; simp [apply_ite Handle.kind, rClose_kind]

theorem wFinishEntry_kind (h : Handle) (r : Rc) : (wFinishEntry h r).1.kind = h.kind := by
  apply checked_kind; split <;> simp

theorem wOpenBody_kind (o : Outcome) (h : Handle) : (wOpenBody o h).1.kind = h.kind := by
  simp only [wOpenBody]; split <;> simp

theorem wHeaderBody_kind (o : Outcome) (h : Handle) : (wHeaderBody o h).1.kind = h.kind := by
  simp only [wHeaderBody, apply_ite Prod.fst, apply_ite Handle.kind, wFinishEntry_kind, ite_self]

theorem wClose_kind (o : Outcome) (h : Handle) : (wClose o h).1.kind = h.kind := by
  apply checked_kind; simp [apply_ite Prod.fst, apply_ite Handle.kind]

theorem wFree_kind (o : Outcome) (h : Handle) : (wFree o h).1.kind = h.kind := by
  apply checked_kind; simp [apply_ite Handle.kind, wClose_kind]

theorem dFinishEntry_kind (o : Outcome) (h : Handle) : (dFinishEntry o h).1.kind = h.kind := by
  apply checked_kind; simp [apply_ite Prod.fst, apply_ite Handle.kind]

theorem dHeaderBody_kind (o : Outcome) (h : Handle) : (dHeaderBody o h).1.kind = h.kind := by
  simp [dHeaderBody, apply_ite Prod.fst, apply_ite Handle.kind, dFinishEntry_kind]

theorem dClose_kind (o : Outcome) (h : Handle) : (dClose o h).1.kind = h.kind := by
  apply checked_kind; simp [apply_ite Prod.fst, apply_ite Handle.kind, dFinishEntry_kind]

theorem dFree_kind (o : Outcome) (h : Handle) : (dFree o h).1.kind = h.kind := by
  apply checked_kind; simp [dClose_kind]

theorem kClose_kind (h : Handle) : (kClose h).1.kind = h.kind := by
  apply checked_kind; simp [apply_ite Handle.kind]

theorem kFree_kind (h : Handle) : (kFree h).1.kind = h.kind := by
  apply checked_kind; simp [apply_ite Prod.fst, apply_ite Handle.kind, kClose_kind]

theorem step_kind (h : Handle) (op : Op) (o : Outcome) : (step h op o).1.kind = h.kind := by
  refine step_ind (P := fun p => p.1.kind = h.kind) h op o rfl rfl fun _ _ => ?_
  cases op with
  | rOpen w reg =>
    exact rOpen_ind (Q := fun g => g.kind = h.kind) h w reg o rfl (fun _ e => e) (fun _ e => e)
      fun g e => (checked_kind _ _ _ (rOpen1Body_kind o g)).trans e
  | wOpen w =>
    cases w with
    | none => exact checked_kind _ _ _ (wOpenBody_kind o h)
    | some w => exact checked_kind _ _ _ (checked_kind _ _ _ (wOpenBody_kind o h))
  | close =>
    simp only [stepCore]; split
    · exact rClose_kind o h
    · exact wClose_kind o h
    · exact dClose_kind o h
    · exact kClose_kind h
    · rfl
  | free =>
    simp only [stepCore]; split
    · exact rFree_kind o h
    · exact wFree_kind o h
    · exact dFree_kind o h
    · exact kFree_kind h
    · exact checked_kind _ _ _ (by simp)
  | lookup pre setter =>
    apply checked_kind
    simp only
    rw [checked_kind _ _ _ rfl, checked_kind _ _ _ rfl]
  | unchecked | fail => rfl
  | rReadData =>
    simp only [stepCore]
    split
    · rfl
    · exact checked_kind _ _ _ rfl
  | rDataSkip => exact rDataSkip_kind _ _
  | wFinishEntry => exact wFinishEntry_kind _ _
  | dFinishEntry => exact dFinishEntry_kind _ _
  | rNextHeader => exact checked_kind _ _ _ (rNextHeaderBody_kind o h)
  | wHeader => exact checked_kind _ _ _ (wHeaderBody_kind o h)
  | dHeader => exact checked_kind _ _ _ (dHeaderBody_kind o h)
  | plain f | kReadDataBlock | kOpen | kNextHeader => apply checked_kind; split <;> rfl
  | _ => exact checked_kind _ _ _ rfl

/-! ### table facts: the masks of the life-cycle functions

Each kind's rows are looked up in one evaluation of the generated table, so
that the kernel converts every string of the table once and not once per row. -/

def maskOf (k : Kind) (f : String) : Option Nat := (siteOf k f).map (·.mask)

theorem siteOf_of_mask {k : Kind} {f : String} {m : Nat} (hm : maskOf k f = some m) :
    ∃ s, siteOf k f = some s ∧ s.mask = m := by
  unfold maskOf at hm
  cases hs : siteOf k f with
  | none => rw [hs] at hm; cases hm
  | some s => rw [hs] at hm; exact ⟨s, rfl, Option.some.inj hm⟩

theorem checked_k {h : Handle} {f : String} {body : Handle → Handle × Rc} {k : Kind} {m : Nat}
    (hk : h.kind = k) (hm : maskOf k f = some m) :
    checked h f body = if allowed h.st m then body h else ({ h with st := .fatal }, .fatal) := by
  obtain ⟨s, hs, rfl⟩ := siteOf_of_mask hm
  subst hk
  simp [checked, hs]

theorem tbl_read :
    maskOf .read "_archive_read_close" = some 65535 ∧
    maskOf .read "_archive_read_free" = some 65535 ∧
    maskOf .read "_archive_read_next_header2" = some 6 ∧
    maskOf .read "_archive_read_data_block" = some 4 ∧
    maskOf .read "archive_read_data_skip" = some 4 ∧
    maskOf .read "archive_seek_data" = some 4 ∧
    maskOf .read "archive_read_open1" = some 1 := by decide +kernel

theorem tbl_write :
    maskOf .write "_archive_write_close" = some 65535 ∧
    maskOf .write "_archive_write_free" = some 65535 ∧
    maskOf .write "_archive_write_header" = some 6 ∧
    maskOf .write "_archive_write_data" = some 4 ∧
    maskOf .write "archive_write_open2" = some 1 := by decide +kernel

theorem tbl_writeDisk :
    maskOf .writeDisk "_archive_write_disk_close" = some 32774 ∧
    maskOf .writeDisk "_archive_write_disk_free" = some 65535 ∧
    maskOf .writeDisk "_archive_write_disk_header" = some 6 ∧
    maskOf .writeDisk "_archive_write_disk_data" = some 4 ∧
    maskOf .writeDisk "_archive_write_disk_data_block" = some 4 ∧
    maskOf .writeDisk "_archive_write_disk_finish_entry" = some 6 := by decide +kernel

theorem tbl_readDisk :
    maskOf .readDisk "_archive_read_close" = some 65535 ∧
    maskOf .readDisk "_archive_read_free" = some 65535 ∧
    maskOf .readDisk "_archive_read_data_block" = some 4 ∧
    maskOf .readDisk "archive_read_disk_open" = some 33 := by decide +kernel

theorem tbl_match_archive_match_free : maskOf .«match» "archive_match_free" = some 65535 := by decide +kernel

theorem tbl_read_archive_read_close : maskOf .read "_archive_read_close" = some 65535 := tbl_read.1
theorem tbl_read_archive_read_free : maskOf .read "_archive_read_free" = some 65535 := tbl_read.2.1
theorem tbl_read_archive_read_next_header2 : maskOf .read "_archive_read_next_header2" = some 6 := tbl_read.2.2.1
theorem tbl_read_archive_read_data_block : maskOf .read "_archive_read_data_block" = some 4 := tbl_read.2.2.2.1
theorem tbl_read_archive_read_data_skip : maskOf .read "archive_read_data_skip" = some 4 := tbl_read.2.2.2.2.1
theorem tbl_read_archive_seek_data : maskOf .read "archive_seek_data" = some 4 := tbl_read.2.2.2.2.2.1
theorem tbl_read_archive_read_open1 : maskOf .read "archive_read_open1" = some 1 := tbl_read.2.2.2.2.2.2

theorem tbl_write_archive_write_close : maskOf .write "_archive_write_close" = some 65535 := tbl_write.1
theorem tbl_write_archive_write_free : maskOf .write "_archive_write_free" = some 65535 := tbl_write.2.1
theorem tbl_write_archive_write_header : maskOf .write "_archive_write_header" = some 6 := tbl_write.2.2.1
theorem tbl_write_archive_write_data : maskOf .write "_archive_write_data" = some 4 := tbl_write.2.2.2.1
theorem tbl_write_archive_write_open2 : maskOf .write "archive_write_open2" = some 1 := tbl_write.2.2.2.2

theorem tbl_writeDisk_archive_write_disk_close : maskOf .writeDisk "_archive_write_disk_close" = some 32774 := tbl_writeDisk.1
theorem tbl_writeDisk_archive_write_disk_free : maskOf .writeDisk "_archive_write_disk_free" = some 65535 := tbl_writeDisk.2.1
theorem tbl_writeDisk_archive_write_disk_header : maskOf .writeDisk "_archive_write_disk_header" = some 6 := tbl_writeDisk.2.2.1
theorem tbl_writeDisk_archive_write_disk_data : maskOf .writeDisk "_archive_write_disk_data" = some 4 := tbl_writeDisk.2.2.2.1
theorem tbl_writeDisk_archive_write_disk_data_block : maskOf .writeDisk "_archive_write_disk_data_block" = some 4 := tbl_writeDisk.2.2.2.2.1
theorem tbl_writeDisk_archive_write_disk_finish_entry : maskOf .writeDisk "_archive_write_disk_finish_entry" = some 6 := tbl_writeDisk.2.2.2.2.2

theorem tbl_readDisk_archive_read_close : maskOf .readDisk "_archive_read_close" = some 65535 := tbl_readDisk.1
theorem tbl_readDisk_archive_read_free : maskOf .readDisk "_archive_read_free" = some 65535 := tbl_readDisk.2.1
theorem tbl_readDisk_archive_read_data_block : maskOf .readDisk "_archive_read_data_block" = some 4 := tbl_readDisk.2.2.1
theorem tbl_readDisk_archive_read_disk_open : maskOf .readDisk "archive_read_disk_open" = some 33 := tbl_readDisk.2.2.2

theorem chk_read_archive_read_data_block (h : Handle) (body : Handle → Handle × Rc) (hk : h.kind = .read) :
    checked h "_archive_read_data_block" body = if allowed h.st 4 then body h else ({ h with st := .fatal }, .fatal) :=
  checked_k hk tbl_read_archive_read_data_block
theorem chk_read_archive_seek_data (h : Handle) (body : Handle → Handle × Rc) (hk : h.kind = .read) :
    checked h "archive_seek_data" body = if allowed h.st 4 then body h else ({ h with st := .fatal }, .fatal) :=
  checked_k hk tbl_read_archive_seek_data
theorem chk_write_archive_write_header (h : Handle) (body : Handle → Handle × Rc) (hk : h.kind = .write) :
    checked h "_archive_write_header" body = if allowed h.st 6 then body h else ({ h with st := .fatal }, .fatal) :=
  checked_k hk tbl_write_archive_write_header
theorem chk_write_archive_write_data (h : Handle) (body : Handle → Handle × Rc) (hk : h.kind = .write) :
    checked h "_archive_write_data" body = if allowed h.st 4 then body h else ({ h with st := .fatal }, .fatal) :=
  checked_k hk tbl_write_archive_write_data
theorem chk_writeDisk_archive_write_disk_data (h : Handle) (body : Handle → Handle × Rc) (hk : h.kind = .writeDisk) :
    checked h "_archive_write_disk_data" body = if allowed h.st 4 then body h else ({ h with st := .fatal }, .fatal) :=
  checked_k hk tbl_writeDisk_archive_write_disk_data
theorem chk_writeDisk_archive_write_disk_data_block (h : Handle) (body : Handle → Handle × Rc) (hk : h.kind = .writeDisk) :
    checked h "_archive_write_disk_data_block" body = if allowed h.st 4 then body h else ({ h with st := .fatal }, .fatal) :=
  checked_k hk tbl_writeDisk_archive_write_disk_data_block
theorem chk_readDisk_archive_read_data_block (h : Handle) (body : Handle → Handle × Rc) (hk : h.kind = .readDisk) :
    checked h "_archive_read_data_block" body = if allowed h.st 4 then body h else ({ h with st := .fatal }, .fatal) :=
  checked_k hk tbl_readDisk_archive_read_data_block
theorem chk_readDisk_archive_read_disk_open (h : Handle) (body : Handle → Handle × Rc) (hk : h.kind = .readDisk) :
    checked h "archive_read_disk_open" body = if allowed h.st 33 then body h else ({ h with st := .fatal }, .fatal) :=
  checked_k hk tbl_readDisk_archive_read_disk_open

@[simp] theorem allowed_65535 (st : St) : allowed st 65535 = true := by cases st <;> rfl
@[simp] theorem allowed_32774 (st : St) :
    allowed st 32774 = (st == .header || st == .data || st == .fatal) := by cases st <;> rfl
@[simp] theorem allowed_6 (st : St) : allowed st 6 = (st == .header || st == .data) := by cases st <;> rfl
@[simp] theorem allowed_4 (st : St) : allowed st 4 = (st == .data) := by cases st <;> rfl
@[simp] theorem allowed_1 (st : St) : allowed st 1 = (st == .new) := by cases st <;> rfl
@[simp] theorem allowed_33 (st : St) : allowed st 33 = (st == .new || st == .closed) := by cases st <;> rfl

theorem rClose_fst (o : Outcome) (h : Handle) (hk : h.kind = .read) :
    (rClose o h).1 = if h.st = .closed then h else rCloseFilters { h with st := .closed } := by
  simp only [rClose, checked_k hk tbl_read_archive_read_close, allowed_65535]
  by_cases hc : h.st = .closed <;> simp [hc]

theorem wClose_fst (o : Outcome) (h : Handle) (hk : h.kind = .write) :
    (wClose o h).1 =
      if h.st = .new ∨ h.st = .closed then h
      else if h.st = .fatal then wCloseFilters h
      else { wCloseFilters (if h.st = .data then relEnt h else h) with st := .closed } := by
  simp only [wClose, checked_k hk tbl_write_archive_write_close, allowed_65535]
  cases hs : h.st <;> simp [hs]

theorem dClose_fst (o : Outcome) (h : Handle) (hk : h.kind = .writeDisk) :
    (dClose o h).1 =
      if h.st = .fatal then relFixups (relEnt (relFd h))
      else if h.st = .header then relFixups h
      else if h.st = .data then
        (if o.alt = 2 then relFixups (relFd h) else relFixups { relEnt (relFd h) with st := .header })
      else { h with st := .fatal } := by
  simp only [dClose, dFinishEntry, checked_k hk tbl_writeDisk_archive_write_disk_close,
    checked_k hk tbl_writeDisk_archive_write_disk_finish_entry]
  cases hs : h.st <;> simp [hs]
  split <;> simp

theorem kClose_fst (h : Handle) (hk : h.kind = .readDisk) :
    (kClose h).1 = kCloseTree (if h.st = .fatal then h else { h with st := .closed }) := by
  simp only [kClose, checked_k hk tbl_readDisk_archive_read_close, allowed_65535]
  cases hs : h.st <;> simp [hs]

theorem step_close (h : Handle) (o : Outcome) (halive : h.alive = true) :
    (step h .close o).1 = match h.kind with
      | .read => (rClose o h).1 | .write => (wClose o h).1 | .writeDisk => (dClose o h).1
      | .readDisk => (kClose h).1 | .«match» => h := by
  cases hk : h.kind <;> simp [step, stepCore, halive, hk, Op.belongs]

/-- The first close leaves the reader CLOSED, where close does nothing. -/
theorem rClose_idem (o1 o2 : Outcome) (h : Handle) (hk : h.kind = .read) :
    (rClose o2 (rClose o1 h).1).1 = (rClose o1 h).1 := by
  rw [rClose_fst o2 _ ((rClose_kind o1 h).trans hk), rClose_fst o1 h hk]
  by_cases hc : h.st = .closed <;> simp [hc]

/-- The first close leaves the writer CLOSED, where close does nothing; a writer that is NEW is
left alone; a failed writer stays failed, and closing its filters again does nothing. -/
theorem wClose_idem (o1 o2 : Outcome) (h : Handle) (hk : h.kind = .write) :
    (wClose o2 (wClose o1 h).1).1 = (wClose o1 h).1 := by
  rw [wClose_fst o2 _ ((wClose_kind o1 h).trans hk), wClose_fst o1 h hk]
  by_cases h1 : h.st = .new ∨ h.st = .closed
  · simp only [h1, if_true]
  · by_cases h2 : h.st = .fatal
    · simp [h2, b2n]
    · simp [h1, h2]

theorem kClose_idem (h : Handle) (hk : h.kind = .readDisk) : (kClose (kClose h).1).1 = (kClose h).1 := by
  rw [kClose_fst _ ((kClose_kind h).trans hk), kClose_fst h hk]
  by_cases hf : h.st = .fatal <;> simp [hf]

/-- Except when `finish_entry` took its error exit (DATA, `o1.alt = 2`: the entry stays pending),
the first close leaves the disk writer in HEADER or FATAL with nothing left for a second one. -/
theorem dClose_idem (o1 o2 : Outcome) (h : Handle) (hk : h.kind = .writeDisk)
    (hst : h.st = .header ∨ h.st = .data ∨ h.st = .fatal) (hne : ¬ (h.st = .data ∧ o1.alt = 2)) :
    (dClose o2 (dClose o1 h).1).1 = (dClose o1 h).1 := by
  rw [dClose_fst o2 _ ((dClose_kind o1 h).trans hk), dClose_fst o1 h hk]
  rcases hst with e | e | e <;> simp_all

end LA.Handle
