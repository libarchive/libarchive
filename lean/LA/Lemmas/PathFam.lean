/-
Helper lemmas for C04: strings.  A cleaned path (other than ".") and
the paths the writer derives from it (ancestors, temporary name) are relative,
dot-free and have the expected components.
-/
import LA.Lemmas.PathClean
import LA.Lemmas.FSExec
namespace LA.FS
open LA.PathClean

/-- A cleaned path other than ".": non-empty, every '/'-separated piece is a
real name (not empty, not ".", not ".."). -/
def Good (q : List Nat) : Prop := ∀ c ∈ splitSlash q, c ≠ [] ∧ c ≠ DOTN ∧ c ≠ DOTDOTN

theorem Good.ne_nil {q : List Nat} (h : Good q) : q ≠ [] := by
  rintro rfl
  exact (h [] (by simp [splitSlash])).1 rfl

theorem compsOf_good {q : List Nat} (h : Good q) : compsOf q = splitSlash q := by
  unfold compsOf
  apply List.filter_eq_self.mpr
  intro c hc
  have := (h c hc).1
  simpa using this

theorem isAbs_good {q : List Nat} (h : Good q) : isAbs q = false := by
  cases q with
  | nil => rfl
  | cons x r =>
    by_cases hx : x = SLASH
    · subst hx
      exact absurd rfl (h [] (by rw [splitSlash_cons_slash]; simp)).1
    · simp [isAbs, hx]

theorem splitSlash_snoc_slash (a : List Nat) : splitSlash (a ++ [SLASH]) = splitSlash a ++ [[]] := by
  have := splitSlash_append a []
  simpa [splitSlash] using this

theorem trailingSlash_good {q : List Nat} (h : Good q) : trailingSlash q = false := by
  unfold trailingSlash
  cases hl : q.getLast? with
  | none => rfl
  | some x =>
    by_cases hx : x = SLASH
    · subst hx
      have hq := dropLast_getLast? q SLASH hl
      have : [] ∈ splitSlash q := by rw [hq, splitSlash_snoc_slash]; simp
      exact absurd rfl (h [] this).1
    · simp [hx]

theorem rel_good {q : List Nat} (h : Good q) : Rel q := by
  refine ⟨?_, isAbs_good h, trailingSlash_good h, ?_⟩
  · rw [compsOf_good h]; exact splitSlash_ne_nil q
  · intro c hc; rw [compsOf_good h] at hc; exact ⟨(h c hc).2.1, (h c hc).2.2⟩

theorem fam_self {q : List Nat} (h : Good q) : Fam q q := Or.inr ⟨rel_good h, List.prefix_refl _⟩

theorem fam_dot : Fam [DOT] [DOT] := Or.inl rfl

/-- An ancestor: `q = p ++ "/" ++ rest`. -/
theorem good_prefix {q p rest : List Nat} (h : Good q) (hq : q = p ++ SLASH :: rest) :
    Good p ∧ splitSlash q = splitSlash p ++ splitSlash rest := by
  have hs : splitSlash q = splitSlash p ++ splitSlash rest := by rw [hq, splitSlash_append]
  exact ⟨fun c hc => h c (by rw [hs]; exact List.mem_append_left _ hc), hs⟩

theorem dropLast_prefix_of_prefix {α} {a b : List α} (h : a <+: b) : a.dropLast <+: b.dropLast := by
  obtain ⟨t, rfl⟩ := h
  cases t with
  | nil => simp
  | cons x t =>
    have : (a ++ x :: t).dropLast = a ++ (x :: t).dropLast := by
      rw [List.dropLast_append_of_ne_nil (by simp)]
    rw [this]
    exact List.IsPrefix.trans (List.dropLast_prefix a) (List.prefix_append _ _)

theorem fam_prefix {q p rest : List Nat} (h : Good q) (hq : q = p ++ SLASH :: rest) : Fam q p := by
  obtain ⟨hp, hs⟩ := good_prefix h hq
  refine Or.inr ⟨rel_good hp, ?_⟩
  unfold initOf
  rw [compsOf_good hp, compsOf_good h, hs]
  exact dropLast_prefix_of_prefix (List.prefix_append _ _)

theorem splitSlash_append_noslash (a s : List Nat) (hs : ∀ x ∈ s, x ≠ SLASH) :
    ∃ i l, splitSlash a = i ++ [l] ∧ splitSlash (a ++ s) = i ++ [l ++ s] := by
  induction a with
  | nil => exact ⟨[], [], by simp [splitSlash], by simpa using splitSlash_clean hs⟩
  | cons x a ih =>
    obtain ⟨i, l, h1, h2⟩ := ih
    by_cases hx : x = SLASH
    · subst hx
      exact ⟨[] :: i, l, by rw [splitSlash_cons_slash, h1]; rfl, by
        rw [List.cons_append, splitSlash_cons_slash, h2]; rfl⟩
    · obtain ⟨h, t, e1, e2⟩ := splitSlash_cons_other a x hx
      obtain ⟨h', t', e1', e2'⟩ := splitSlash_cons_other (a ++ s) x hx
      rw [List.cons_append, e2', e2]
      rw [h1] at e1
      rw [h2] at e1'
      cases i with
      | nil =>
        simp only [List.nil_append, List.cons.injEq] at e1 e1'
        obtain ⟨rfl, rfl⟩ := e1
        obtain ⟨rfl, rfl⟩ := e1'
        exact ⟨[], x :: l, rfl, rfl⟩
      | cons i0 i =>
        simp only [List.cons_append, List.cons.injEq] at e1 e1'
        obtain ⟨rfl, rfl⟩ := e1
        obtain ⟨rfl, rfl⟩ := e1'
        exact ⟨(x :: i0) :: i, l, rfl, rfl⟩

theorem fam_tmp {q : List Nat} (h : Good q) : Fam q (tmpName q) := by
  have hsfx : ∀ x ∈ [46, 88, 88, 88, 88, 88, 88], x ≠ SLASH := by decide
  obtain ⟨i, l, h1, h2⟩ := splitSlash_append_noslash q [46, 88, 88, 88, 88, 88, 88] hsfx
  have hg : Good (tmpName q) := by
    intro c hc
    unfold tmpName at hc
    rw [h2] at hc
    simp only [List.mem_append, List.mem_singleton] at hc
    rcases hc with hc | rfl
    · exact h c (by rw [h1]; simp [hc])
    · refine ⟨by simp, ?_, ?_⟩
      · intro e; have := congrArg List.length e; simp [DOTN] at this
      · intro e; have := congrArg List.length e; simp [DOTDOTN] at this
  refine Or.inr ⟨rel_good hg, ?_⟩
  unfold initOf
  rw [compsOf_good hg, compsOf_good h]
  unfold tmpName
  rw [h1, h2]
  simp

end LA.FS
