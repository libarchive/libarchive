/-
C12 helper: what the C17 resolver model does to a captured entry list under the
tar strategy (`LA.Tree.linkify .tar`), as an explicit left-to-right specification.
-/
import LA.Lemmas.Lnk
import LA.Model.Tree
namespace LA.Tree

/-- `passthrough` of the resolver, on a C12 entry. -/
def Entry.pt (e : Entry) : Bool :=
  e.nlink == 1 || e.ftype == .dir || e.ftype == .blk || e.ftype == .chr

/-- First entry among `seen` that the resolver recorded for inode `k`. -/
def firstWith (seen : List Entry) (k : Nat) : Option Entry :=
  seen.find? fun e => !e.pt && e.ino == k

/-- Left-to-right specification of the tar strategy: the first member of a
hard-link group passes unchanged, every later member becomes a link to it. -/
def tarGo (seen : List Entry) : List Entry → List Entry
  | [] => []
  | e :: rest =>
    (if e.pt then e else
      match firstWith seen e.ino with
      | some c => { e with hardlink := some c.path, sizeSet := false }
      | none => e) :: tarGo (seen ++ [e]) rest

def tarSpec (es : List Entry) : List Entry := tarGo [] es

/-- Hard-link groups are consistent: members of one inode agree on `nlink`, there
are at most `nlink` of them, and `nlink` fits `unsigned int`. -/
def LinkOk (es : List Entry) : Prop :=
  ∀ e ∈ es, e.pt = false →
    e.nlink < 4294967296 ∧
    (es.filter fun x => !x.pt && x.ino == e.ino).length ≤ e.nlink ∧
    ∀ x ∈ es, x.pt = false → x.ino = e.ino → x.nlink = e.nlink

/-- What `tarGo` emits for `e` after having seen `seen`. -/
def tarHead (seen : List Entry) (e : Entry) : Entry :=
  if e.pt then e else
    match firstWith seen e.ino with
    | some c => { e with hardlink := some c.path, sizeSet := false }
    | none => e

theorem tarGo_cons (seen : List Entry) (e : Entry) (rest : List Entry) :
    tarGo seen (e :: rest) = tarHead seen e :: tarGo (seen ++ [e]) rest := rfl

theorem tarGo_length (suf : List Entry) : ∀ seen, (tarGo seen suf).length = suf.length := by
  induction suf with
  | nil => intro seen; rfl
  | cons e rest ih => intro seen; simp [tarGo_cons, ih]

theorem tarGo_getElem? (suf : List Entry) : ∀ (seen : List Entry) (i : Nat) (e : Entry),
    suf[i]? = some e → (tarGo seen suf)[i]? = some (tarHead (seen ++ suf.take i) e) := by
  induction suf with
  | nil => intro seen i e h; simp at h
  | cons a rest ih =>
    intro seen i e h
    cases i with
    | zero =>
      simp at h; subst h; simp [tarGo_cons]
    | succ i =>
      simp at h
      have := ih (seen ++ [a]) i e h
      simpa [tarGo_cons] using this

theorem tarSpec_length (es : List Entry) : (tarSpec es).length = es.length := tarGo_length es []

theorem tarSpec_getElem? (es : List Entry) (i : Nat) (e : Entry) (h : es[i]? = some e) :
    (tarSpec es)[i]? = some (tarHead (es.take i) e) := by
  simpa [tarSpec] using tarGo_getElem? es [] i e h

theorem tarHead_path (seen : List Entry) (e : Entry) : (tarHead seen e).path = e.path := by
  unfold tarHead; split
  · rfl
  · split <;> rfl

theorem tarGo_paths (suf : List Entry) : ∀ seen, (tarGo seen suf).map (·.path) = suf.map (·.path) := by
  induction suf with
  | nil => intro seen; rfl
  | cons e rest ih => intro seen; simp [tarGo_cons, ih, tarHead_path]

theorem tarSpec_paths (es : List Entry) : (tarSpec es).map (·.path) = es.map (·.path) := tarGo_paths es []

theorem firstWith_take_some (es : List Entry) (i k : Nat) (c : Entry)
    (h : firstWith (es.take i) k = some c) :
    c.pt = false ∧ c.ino = k ∧ ∃ j, j < i ∧ es[j]? = some c ∧
      ∀ j' c', j' < j → es[j']? = some c' → ¬ (c'.pt = false ∧ c'.ino = k) := by
  unfold firstWith at h
  rw [List.find?_eq_some_iff_getElem] at h
  obtain ⟨hp, j, hj, hjc, hfirst⟩ := h
  simp at hp
  have hj2 : j < i ∧ j < es.length := by
    rw [List.length_take] at hj; omega
  refine ⟨hp.1, hp.2, j, hj2.1, ?_, ?_⟩
  · rw [List.getElem_take] at hjc
    rw [List.getElem?_eq_getElem hj2.2, hjc]
  · intro j' c' hj' hc' ⟨h1, h2⟩
    have := hfirst j' hj'
    have hlt : j' < es.length := by omega
    rw [List.getElem?_eq_getElem hlt] at hc'
    simp at hc'
    simp [List.getElem_take, hc', h1, h2] at this

theorem firstWith_take_none (es : List Entry) (i k : Nat) :
    firstWith (es.take i) k = none ↔
    ∀ j c, j < i → es[j]? = some c → ¬ (c.pt = false ∧ c.ino = k) := by
  unfold firstWith
  rw [List.find?_eq_none]
  constructor
  · intro h j c hj hc ⟨h1, h2⟩
    have hm : c ∈ es.take i := by
      apply List.mem_of_getElem? (i := j)
      rw [List.getElem?_take]; simp [hj, hc]
    have := h c hm
    simp [h1, h2] at this
  · intro h x hx
    obtain ⟨j, hj⟩ := List.getElem?_of_mem hx
    rw [List.getElem?_take] at hj
    split at hj
    · rename_i hlt
      have := h j x hlt hj
      simp; intro h1 h2; exact this ⟨h1, h2⟩
    · simp at hj

theorem tarHead_cases (seen : List Entry) (e : Entry) :
    (tarHead seen e = e ∧ (e.pt = true ∨ firstWith seen e.ino = none)) ∨
    (e.pt = false ∧ ∃ c, firstWith seen e.ino = some c ∧
      tarHead seen e = { e with hardlink := some c.path, sizeSet := false }) := by
  unfold tarHead
  cases hp : e.pt with
  | true => exact .inl ⟨rfl, .inl rfl⟩
  | false =>
    cases hf : firstWith seen e.ino with
    | none => exact .inl ⟨rfl, .inr rfl⟩
    | some c => exact .inr ⟨rfl, c, rfl, rfl⟩

theorem tarSpec_get (es : List Entry) (i : Nat) (e : Entry) (h : es[i]? = some e)
    (hn : e.hardlink = none) :
    ∃ o, (tarSpec es)[i]? = some o ∧ o.path = e.path ∧ o.ftype = e.ftype ∧ o.mode = e.mode ∧
      o.mtime = e.mtime ∧ o.ino = e.ino ∧ o.nlink = e.nlink ∧ o.payload = e.payload ∧ o.size = e.size ∧
      (o.hardlink = none → o = e) ∧
      (∀ q, o.hardlink = some q → o.sizeSet = false ∧ e.pt = false ∧
         ∃ j c, j < i ∧ es[j]? = some c ∧ c.pt = false ∧ c.ino = e.ino ∧ c.path = q ∧
           (∀ j' c', j' < j → es[j']? = some c' → ¬ (c'.pt = false ∧ c'.ino = e.ino))) ∧
      (o.hardlink = none → ∀ j c, j < i → es[j]? = some c → ¬ (c.pt = false ∧ c.ino = e.ino) ∨ e.pt = true) := by
  refine ⟨_, tarSpec_getElem? es i e h, ?_⟩
  rcases tarHead_cases (es.take i) e with ⟨ho, hc⟩ | ⟨hp, c, hf, ho⟩ <;> rw [ho]
  · refine ⟨rfl, rfl, rfl, rfl, rfl, rfl, rfl, rfl, fun _ => rfl, fun q hq => ?_, fun _ j c hj hjc => ?_⟩
    · rw [hn] at hq; cases hq
    · rcases hc with hc | hc
      · exact .inr hc
      · exact .inl ((firstWith_take_none es i e.ino).1 hc j c hj hjc)
  · obtain ⟨h1, h2, j, hj, hjc, hfirst⟩ := firstWith_take_some es i e.ino c hf
    refine ⟨rfl, rfl, rfl, rfl, rfl, rfl, rfl, rfl, fun h => ?_, fun q hq => ?_, fun h => ?_⟩
    · cases h
    · exact ⟨rfl, hp, j, c, hj, hjc, h1, h2, Option.some.inj hq, hfirst⟩
    · cases h

/-- The first member of a group (no earlier non-passthrough entry with its inode)
is emitted unchanged; in particular it carries no hardlink. -/
theorem tarSpec_first_unchanged (es : List Entry) (j : Nat) (c : Entry) (h : es[j]? = some c)
    (hfirst : ∀ j' c', j' < j → es[j']? = some c' → ¬ (c'.pt = false ∧ c'.ino = c.ino)) :
    (tarSpec es)[j]? = some c := by
  rw [tarSpec_getElem? es j c h, tarHead, (firstWith_take_none es j c.ino).2 hfirst]
  simp

theorem tarSpec_first_unlinked (es : List Entry) (j : Nat) (c : Entry) (h : es[j]? = some c)
    (hn : c.hardlink = none)
    (hfirst : ∀ j' c', j' < j → es[j']? = some c' → ¬ (c'.pt = false ∧ c'.ino = c.ino)) :
    ∃ o, (tarSpec es)[j]? = some o ∧ o.hardlink = none :=
  ⟨c, tarSpec_first_unchanged es j c h hfirst, hn⟩

section Resolver
open LA.Lnk

def cnt (l : List Entry) (k : Nat) : Nat := (l.filter fun x => !x.pt && x.ino == k).length

theorem cnt_append (a b : List Entry) (k : Nat) : cnt (a ++ b) k = cnt a k + cnt b k := by
  simp [cnt]

theorem cnt_cons (a : Entry) (b : List Entry) (k : Nat) :
    cnt (a :: b) k = (if a.pt = false ∧ a.ino = k then 1 else 0) + cnt b k := by
  by_cases h : a.pt = false ∧ a.ino = k
  · simp [cnt, h]; omega
  · simp only [cnt, List.filter_cons, h, if_false]
    have : (!a.pt && a.ino == k) = false := by
      cases hp : a.pt <;> simp_all
    simp [this]

theorem cnt_snoc (a : List Entry) (e : Entry) (k : Nat) :
    cnt (a ++ [e]) k = cnt a k + (if e.pt = false ∧ e.ino = k then 1 else 0) := by
  rw [cnt_append, cnt_cons]; simp [cnt]

theorem firstWith_snoc (a : List Entry) (e : Entry) (k : Nat) :
    firstWith (a ++ [e]) k =
      (firstWith a k).or (if e.pt = false ∧ e.ino = k then some e else none) := by
  unfold firstWith
  rw [List.find?_append]
  congr 1
  by_cases h : e.pt = false ∧ e.ino = k
  · simp [h]
  · have : (!e.pt && e.ino == k) = false := by
      cases hp : e.pt <;> simp_all
    simp [h, this]

theorem firstWith_none_cnt (a : List Entry) (k : Nat) (h : firstWith a k = none) : cnt a k = 0 := by
  unfold firstWith at h
  rw [List.find?_eq_none] at h
  simp only [cnt, List.length_eq_zero_iff, List.filter_eq_nil_iff]
  exact h

theorem firstWith_some (a : List Entry) (k : Nat) (f : Entry) (h : firstWith a k = some f) :
    f ∈ a ∧ f.pt = false ∧ f.ino = k := by
  have hp := List.find?_some h
  simp only [Bool.and_eq_true, Bool.not_eq_true', beq_iff_eq] at hp
  exact ⟨List.mem_of_find?_eq_some h, hp⟩

/-- What the record `rec` of one inode must be when `c` members of its group have gone through the resolver,
`first` being the first of them: there is a record exactly while members are still to come; it names the first
member and counts the ones to come. -/
def KeyOk (es : List Entry) (first : Option Entry) (c : Nat) (rec : Option LE) : Prop :=
  (∀ le, rec = some le → ∃ f, first = some f ∧ es[le.canon]? = some f ∧ 0 < le.links ∧ le.links + c = f.nlink) ∧
  (∀ f, first = some f → c < f.nlink → ∃ le, rec = some le)

/-- The first member of a group of at least two opens the record. -/
theorem keyOk_opened {es : List Entry} {e : Entry} {le : LE} (hget : es[le.canon]? = some e)
    (hl : le.links + 1 = e.nlink) (h2 : 2 ≤ e.nlink) : KeyOk es (some e) 1 (some le) := by
  refine ⟨fun le' hle => ?_, fun _ _ _ => ⟨le, rfl⟩⟩
  obtain rfl := Option.some.inj hle
  exact ⟨e, rfl, hget, by omega, hl⟩

/-- A further member counts the record down; the last one removes it. -/
theorem keyOk_next {es : List Entry} {f : Entry} {c : Nat} {le : LE} (h : KeyOk es (some f) c (some le))
    (held : Option Ent) :
    KeyOk es (some f) (c + 1)
      (if le.links - 1 > 0 then some { le with links := le.links - 1, held := held } else none) := by
  obtain ⟨f', hf, hc, _, hs⟩ := h.1 le rfl
  obtain rfl := Option.some.inj hf
  refine ⟨fun le' hle => ?_, fun f' hf' hlt => ?_⟩
  · split at hle
    · obtain rfl := Option.some.inj hle
      exact ⟨f, rfl, hc, by assumption, by show le.links - 1 + (c + 1) = f.nlink; omega⟩
    · cases hle
  · obtain rfl := Option.some.inj hf'
    rw [if_pos (by omega)]
    exact ⟨_, rfl⟩

/-- The resolver table after the prefix `seen` of `es` has gone through it (tar strategy). -/
def TInv (es seen : List Entry) (tbl : List LE) : Prop :=
  (tbl.map fun le => (le.dev, le.ino)).Nodup ∧
  (∀ le ∈ tbl, le.held = none) ∧
  ∀ k : Nat, KeyOk es (firstWith seen k) (cnt seen k) (tbl.find? (·.hasKey 0 k))

theorem passthrough_toEnt (e : Entry) (i : Nat) : passthrough (e.toEnt i) = e.pt := rfl

theorem linkOk_at (es seen rest : List Entry) (e : Entry) (hes : es = seen ++ e :: rest)
    (hok : LinkOk es) (hp : e.pt = false) :
    e.nlink < 4294967296 ∧ cnt seen e.ino + 1 ≤ e.nlink ∧ 2 ≤ e.nlink ∧
    ∀ f ∈ seen, f.pt = false → f.ino = e.ino → f.nlink = e.nlink := by
  have hmem : e ∈ es := by subst hes; simp
  obtain ⟨h1, h2, h3⟩ := hok e hmem hp
  have h2' : cnt es e.ino ≤ e.nlink := h2
  have hc : cnt es e.ino = cnt seen e.ino + (1 + cnt rest e.ino) := by
    subst hes; rw [cnt_append, cnt_cons]; simp [hp]
  have hne : e.nlink ≠ 1 := by
    intro h; simp [Entry.pt, h] at hp
  refine ⟨h1, by omega, by omega, ?_⟩
  intro f hf fp fi
  exact h3 f (by subst hes; simp [hf]) fp fi

/-- An entry that comes back untouched reads back as itself. -/
theorem fromEnt_toEnt (es : List Entry) (k : Nat) (e : Entry) (he : es[k]? = some e) (hn : e.hardlink = none) :
    fromEnt es (e.toEnt k) = some e := by
  simp only [fromEnt, Entry.toEnt, he]
  rw [← hn]

/-- One `archive_entry_linkify` call under the tar strategy, on entry number
`seen.length` of `es`. -/
theorem push_tar (es seen rest : List Entry) (e : Entry) (tbl : List LE)
    (hes : es = seen ++ e :: rest) (hok : LinkOk es) (hn : ∀ x ∈ es, x.hardlink = none)
    (hi : TInv es seen tbl) :
    ∃ tbl' x, push ⟨.tar, tbl⟩ (e.toEnt seen.length) = (⟨.tar, tbl'⟩, some x, none) ∧
      fromEnt es x = some (tarHead seen e) ∧ TInv es (seen ++ [e]) tbl' := by
  have hget : es[seen.length]? = some e := by subst hes; simp
  have hne : e.hardlink = none := hn e (by subst hes; simp)
  obtain ⟨i1, i2, i3⟩ := hi
  by_cases hp : e.pt = true
  · refine ⟨tbl, e.toEnt seen.length, push_passthrough _ _ (.inl hp), ?_, ?_⟩
    · rw [fromEnt_toEnt es _ e hget hne]; simp [tarHead, hp]
    · have h1 : ∀ k, firstWith (seen ++ [e]) k = firstWith seen k := fun k => by simp [firstWith_snoc, hp]
      have h2 : ∀ k, cnt (seen ++ [e]) k = cnt seen k := fun k => by simp [cnt_snoc, hp]
      simpa only [TInv, h1, h2] using And.intro i1 ⟨i2, i3⟩
  have hp : e.pt = false := by simpa using hp
  obtain ⟨l1, l2, l3, l4⟩ := linkOk_at es seen rest e hes hok hp
  obtain ⟨k1, k2, k3⟩ := push_find? ⟨.tar, tbl⟩ (e.toEnt seen.length) hp nofun i1
  have k4 := push_noHeld ⟨.tar, tbl⟩ (e.toEnt seen.length) nofun i2
  have hst := push_keeps_strategy ⟨.tar, tbl⟩ (e.toEnt seen.length)
  generalize push ⟨.tar, tbl⟩ (e.toEnt seen.length) = r at k1 k2 k3 k4 hst
  obtain ⟨⟨st, tbl'⟩, out⟩ := r
  obtain rfl : st = .tar := hst
  -- the other groups: neither their record nor what they have seen changes
  have hoth : ∀ k : Nat, k ≠ e.ino →
      KeyOk es (firstWith (seen ++ [e]) k) (cnt (seen ++ [e]) k) (tbl'.find? (·.hasKey 0 k)) := fun k hk => by
    have hk' : ¬(e.pt = false ∧ e.ino = k) := fun h => hk h.2.symm
    rw [firstWith_snoc, cnt_snoc, if_neg hk', if_neg hk', Option.or_none,
      k2 0 k fun h => hk (Int.ofNat_inj.mp (Prod.mk.inj h).2)]
    exact i3 k
  -- the entry's own group
  have hown : ∃ x, out = (some x, none) ∧ fromEnt es x = some (tarHead seen e) ∧
      KeyOk es (firstWith (seen ++ [e]) e.ino) (cnt (seen ++ [e]) e.ino) (tbl'.find? (·.hasKey 0 e.ino)) := by
    rw [firstWith_snoc, cnt_snoc, if_pos ⟨hp, rfl⟩, if_pos ⟨hp, rfl⟩]
    have i3e := i3 e.ino
    cases hl : tbl.find? (·.hasKey 0 (e.ino : Int)) with
    | none =>
      rw [show tbl.find? (·.hasKey (e.toEnt seen.length).dev (e.toEnt seen.length).ino) = none from hl] at k3
      obtain ⟨rfl, q2⟩ : out = (some (e.toEnt seen.length), none) ∧ tbl'.find? (·.hasKey 0 (e.ino : Int)) = _ := k3
      -- no record although members are still to come: none has been seen
      have hfn : firstWith seen e.ino = none := by
        cases hf : firstWith seen e.ino with
        | none => rfl
        | some f =>
          obtain ⟨fm, fp, fi⟩ := firstWith_some _ _ _ hf
          obtain ⟨le, hle⟩ := i3e.2 f hf (by rw [l4 f fm fp fi]; omega)
          rw [hl] at hle; cases hle
      rw [hfn, firstWith_none_cnt _ _ hfn, Option.none_or, q2]
      refine ⟨_, rfl, ?_, keyOk_opened hget ?_ l3⟩
      · rw [fromEnt_toEnt es _ e hget hne]; simp [tarHead, hp, hfn]
      · rw [ofEnt_links _ _ (show 0 < e.nlink by omega) l1]; show e.nlink - 1 + 1 = e.nlink; omega
    | some le =>
      rw [show tbl.find? (·.hasKey (e.toEnt seen.length).dev (e.toEnt seen.length).ino) = some le from hl] at k3
      obtain ⟨rfl, q2⟩ : out = (some ((e.toEnt seen.length).mkLink le.canon true), none) ∧
        tbl'.find? (·.hasKey 0 (e.ino : Int)) = _ := k3
      rw [hl] at i3e
      obtain ⟨f, hf, hc, hl0, hs⟩ := i3e.1 le rfl
      obtain ⟨fm, fp, fi⟩ := firstWith_some _ _ _ hf
      have hlt : le.links < 4294967296 := by
        rw [← l4 f fm fp fi, ← hs] at l1; exact Nat.lt_of_le_of_lt (Nat.le_add_right ..) l1
      rw [u32dec_of_pos _ hl0 hlt] at q2
      rw [hf, Option.some_or, q2]
      refine ⟨_, rfl, ?_, keyOk_next (hf ▸ i3e) _⟩
      simp [fromEnt, hget, tarHead, hp, hf, Entry.toEnt, Ent.mkLink, hc]
  obtain ⟨x, rfl, hx, hown⟩ := hown
  refine ⟨tbl', x, rfl, hx, k1, k4, fun k => ?_⟩
  by_cases hk : k = e.ino
  · exact hk ▸ hown
  · exact hoth k hk

def opsFrom (k : Nat) (l : List Entry) : List Op :=
  (List.zipIdx l k).map fun (e, i) => Op.push (e.toEnt i)

theorem run_tar (es : List Entry) (hok : LinkOk es) (hn : ∀ x ∈ es, x.hardlink = none) :
    ∀ (suf seen : List Entry) (tbl : List LE), es = seen ++ suf → TInv es seen tbl →
      ((run ⟨.tar, tbl⟩ (opsFrom seen.length suf)).2.filterMap (fromEnt es) = tarGo seen suf ∧
       ∀ le ∈ (run ⟨.tar, tbl⟩ (opsFrom seen.length suf)).1.tbl, le.held = none) := by
  intro suf
  induction suf with
  | nil =>
    intro seen tbl _ hi
    refine ⟨by simp [opsFrom, run, tarGo], ?_⟩
    intro le hle
    exact hi.2.1 le (by simpa [opsFrom, run] using hle)
  | cons e rest ih =>
    intro seen tbl hes hi
    obtain ⟨tbl', x, hpush, hx, hinv⟩ := push_tar es seen rest e tbl hes hok hn hi
    have ih' := ih (seen ++ [e]) tbl' (by simp [hes]) hinv
    rw [List.length_append, List.length_singleton] at ih'
    have hops : opsFrom seen.length (e :: rest) =
        Op.push (e.toEnt seen.length) :: opsFrom (seen.length + 1) rest := by
      simp [opsFrom, List.zipIdx_cons]
    rw [hops]
    simp only [run, step, hpush]
    refine ⟨?_, ih'.2⟩
    simp [hx, ih'.1, tarGo_cons]

theorem drainLoop_nothing_held (s : State) (ks : List Nat) (h : ∀ le ∈ s.tbl, le.held = none) :
    (drainLoop s ks).2 = [] := by
  have h0 : heldOf s.tbl = [] := List.filterMap_eq_nil_iff.mpr h
  exact (List.append_eq_nil_iff.mp (h0 ▸ (drainLoop_spec s ks).1).eq_nil).1

theorem TInv_init (es : List Entry) : TInv es [] [] :=
  ⟨by simp, by simp, fun _ => ⟨by simp, by simp [firstWith]⟩⟩

/-- Under the tar strategy the resolver model does exactly what `tarSpec` says,
for inputs that carry no hardlink yet and whose link groups are consistent. -/
theorem linkify_tar_eq (es : List Entry) (h : LinkOk es) (hn : ∀ e ∈ es, e.hardlink = none) :
    linkify .tar es = tarSpec es := by
  obtain ⟨h1, h2⟩ := run_tar es h hn es [] [] (by simp) (TInv_init es)
  have hops : pushOps es = opsFrom 0 es := rfl
  simp only [List.length_nil] at h1 h2
  unfold linkify
  simp only [hops, drainLoop_nothing_held _ _ h2, List.append_nil]
  exact h1

end Resolver

end LA.Tree
