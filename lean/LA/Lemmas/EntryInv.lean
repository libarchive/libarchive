/-
Which call of C14 fixes which getter on its own (`fixes`).  `copy_stat` is
the run of its twelve setter calls; for each getter the last of them that touches it decides.
-/
import LA.Lemmas.EntryHist
namespace LA.Entry
open LA.Gen.EntryBits

def statFixed : Getter → Bool
  | .timeSec _ | .timeNsec _ | .timeIsSet _ => true
  | .dev | .devmajor | .devminor | .devIsSet | .rdev | .rdevmajor | .rdevminor | .rdevIsSet => true
  | .ino | .inoIsSet | .nlink | .uid | .uidIsSet | .gid | .gidIsSet | .size | .sizeIsSet => true
  | .mode | .filetype | .filetypeIsSet | .perm | .permIsSet => true
  | _ => false

/-- `fixes op g`: after `op` the getter `g` returns a value that depends on the
arguments of `op` only (the "last relevant setter" of the property text). -/
def fixes : Op → Getter → Bool
  | .setTime f _ _, g | .unsetTime f, g => [Getter.timeSec f, .timeNsec f, .timeIsSet f].contains g
  | .setSize _, g | .unsetSize, g => [Getter.size, .sizeIsSet].contains g
  | .setDev _, g => [Getter.dev, .devmajor, .devminor, .devIsSet].contains g
  | .setDevmajor _, g => [Getter.devmajor, .devIsSet].contains g
  | .setDevminor _, g => [Getter.devminor, .devIsSet].contains g
  | .setRdev _, g => [Getter.rdev, .rdevmajor, .rdevminor, .rdevIsSet].contains g
  | .setRdevmajor _, g => [Getter.rdevmajor, .rdevIsSet].contains g
  | .setRdevminor _, g => [Getter.rdevminor, .rdevIsSet].contains g
  | .setIno _, g => [Getter.ino, .inoIsSet].contains g
  | .setNlink _, g => [Getter.nlink].contains g
  | .setUid _, g => [Getter.uid, .uidIsSet].contains g
  | .setGid _, g => [Getter.gid, .gidIsSet].contains g
  | .setMode _, g => [Getter.mode, .filetype, .filetypeIsSet, .perm, .permIsSet].contains g
  | .setPerm _, g => [Getter.perm, .permIsSet].contains g
  | .setFiletype _, g => [Getter.filetype, .filetypeIsSet].contains g
  | .setStr f _, g => [Getter.str f].contains g
  | .setHardlink (some _), g | .copyHardlink (some _), g | .setSymlink (some _), g =>
    [Getter.hardlink, .hardlinkIsSet, .symlink].contains g
  | .setHardlink none, g => [Getter.hardlink, .hardlinkIsSet].contains g
  | .setLinkToHardlink, g => [Getter.hardlinkIsSet, .symlink].contains g
  | .setLinkToSymlink, g => [Getter.hardlinkIsSet, .hardlink].contains g
  | .setFflags _ _, g | .copyFflagsText _, g => [Getter.fflags, .fflagsText].contains g
  | .setSymlinkType _, g => [Getter.symlinkType].contains g
  | .setIsDataEncrypted _, g => [Getter.isDataEncrypted].contains g
  | .setIsMetadataEncrypted _, g => [Getter.isMetadataEncrypted].contains g
  | .sparseClear, g => [Getter.sparseCount, .sparseBlocks].contains g
  | .xattrClear, g => [Getter.xattrCount, .xattrList].contains g
  | .copyMacMetadata _, g => [Getter.macMetadata].contains g
  | .copyStat _, g => statFixed g
  | .clear, _ => true
  | _, _ => false

set_option hygiene false in
macro "split_hf" : tactic => `(tactic| (
  simp only [fixes, List.contains_cons, List.contains_nil, Bool.or_false, Bool.or_eq_true, beq_iff_eq, Bool.false_eq_true] at hf <;>
  (try rcases hf with rfl | rfl | rfl | rfl | rfl)))

/-- A call other than `copy_stat` that fixes a getter determines it: the entry it is made on does not matter.
In each case: unfold the getters the call fixes and the setter; the flag tests that remain are
on the flag the setter has just raised or lowered. -/
theorem fixes_basic (op : Op) (g : Getter) (e1 e2 e1' e2' : Entry) (hf : fixes op g = true)
    (hc : ∀ st, op ≠ .copyStat st) (h1 : step e1 op = some e1') (h2 : step e2 op = some e2') :
    obs g e1' = obs g e2' := by
  cases op
  case setTime f t ns =>
    obtain ⟨hd, rfl⟩ := act_of_step h1
    obtain ⟨_, rfl⟩ := act_of_step h2
    obtain ⟨p, hp⟩ := Option.isSome_iff_exists.mp hd
    simp only [Op.act, hp]
    split_hf <;> cases f <;>
      simp only [obs, timeSec, timeNsec, timeIsSet, setTimeCore, Entry.withTime, Entry.has,
        hasF_or_self _ _ (TimeField.flag_ne _)]
  case copyStat => exact absurd rfl (hc _)
  all_goals
    simp only [step, unsetTime_eq, Option.some.injEq] at h1 h2
    subst h1 h2
  case clear => rfl
  case unsetTime f =>
    split_hf <;> cases f <;>
      simp only [obs, timeSec, timeNsec, timeIsSet, unsetTimeCore, setTimeCore, Entry.withTime, Entry.has, hasF_andnot_self]
  case setSize s | unsetSize =>
    split_hf <;> simp only [obs, size, sizeIsSet, unsetSize, setSize, Entry.has, hasF_or_self _ fSIZE (by decide), hasF_andnot_self]
  case setDev d | setDevmajor d | setDevminor d =>
    split_hf <;> simp only [obs, dev, devmajor, devminor, devIsSet, setDev, setDevmajor, setDevminor, Entry.has,
      hasF_or_self _ fDEV (by decide), Bool.false_eq_true, ↓reduceIte]
  case setRdev d | setRdevmajor d | setRdevminor d =>
    split_hf <;> simp only [obs, rdev, rdevmajor, rdevminor, rdevIsSet, setRdev, setRdevmajor, setRdevminor, Entry.has,
      hasF_or_self _ fRDEV (by decide), Bool.false_eq_true, ↓reduceIte]
  case setIno i => split_hf <;> simp only [obs, ino, inoIsSet, setIno, Entry.has, hasF_or_self _ fINO (by decide)]
  case setUid u => split_hf <;> simp only [obs, uid, uidIsSet, setUid, Entry.has, hasF_or_self _ fUID (by decide)]
  case setGid u => split_hf <;> simp only [obs, gid, gidIsSet, setGid, Entry.has, hasF_or_self _ fGID (by decide)]
  case setMode m =>
    split_hf <;> simp only [obs, mode, filetype, filetypeIsSet, perm, permIsSet, setMode, Entry.has,
      hasF_mode_filetype, hasF_mode_perm]
  case setPerm p => split_hf <;> simp only [obs, perm, permIsSet, setPerm, Entry.has, hasF_or_self _ fPERM (by decide), bv_perm_perm]
  case setFiletype t =>
    split_hf <;> simp only [obs, filetype, filetypeIsSet, setFiletype, Entry.has, hasF_or_self _ fFILETYPE (by decide), bv_ft_ft]
  case setStr f v => split_hf; cases f <;> rfl
  -- the link getters read the link part, which these calls set to a value of their own
  case setHardlink v | copyHardlink v | setSymlink v =>
    cases v <;> split_hf <;>
      simp only [obs, hardlink_eq, hardlinkIsSet_eq, symlink_eq, setHardlink_link, copyHardlink_link, setSymlink_link,
        cond_true, cond_false]
  case setLinkToHardlink | setLinkToSymlink =>
    split_hf <;> simp only [obs, hardlink_eq, hardlinkIsSet_eq, symlink_eq, setLinkToHardlink_link, setLinkToSymlink_link,
      cond_false]
  case setIsDataEncrypted b | setIsMetadataEncrypted b =>
    split_hf; cases b <;> simp only [obs, isDataEncrypted, isMetadataEncrypted, setIsDataEncrypted,
      setIsMetadataEncrypted, cond_true, cond_false, bv_or_and_self, bv_andnot_and_self] <;> decide
  -- the remaining calls assign the fields their getter returns, or fix nothing
  all_goals split_hf <;> rfl

theorem acts_last_writer (g : Getter) (ops : List Op) (hd : ops.all Op.defined = true) (k : Nat) (op : Op)
    (hop : ops[k]? = some op)
    (hfix : ∀ e1 e2 e1' e2', step e1 op = some e1' → step e2 op = some e2' → obs g e1' = obs g e2')
    (hpost : (ops.drop (k + 1)).all (fun o => !touches o g.group) = true) (e1 e2 : Entry) :
    obs g (acts ops e1) = obs g (acts ops e2) := by
  obtain ⟨hk, rfl⟩ := List.getElem?_eq_some_iff.mp hop
  have hp : ∀ o ∈ ops.drop (k + 1), touches o g.group = false := by
    intro o ho; simpa using List.all_eq_true.mp hpost o ho
  have hs : ∀ e, step e ops[k] = some (ops[k].act e) := fun e => by
    rw [step_eq, List.all_eq_true.mp hd _ (List.getElem_mem hk)]; rfl
  have hsplit : ops = ops.take k ++ ops[k] :: ops.drop (k + 1) := by simp
  rw [hsplit, acts_append, acts_append]
  show obs g (acts _ (ops[k].act _)) = obs g (acts _ (ops[k].act _))
  rw [obs_of_view g _ _ (acts_untouched g.group _ _ hp), obs_of_view g _ _ (acts_untouched g.group _ _ hp)]
  exact hfix _ _ _ _ (hs _) (hs _)

theorem copyStat_fixed (g : Getter) (hf : statFixed g = true) (st : StatRec) (e1 e2 e1' e2' : Entry)
    (h1 : copyStat e1 st = some e1') (h2 : copyStat e2 st = some e2') : obs g e1' = obs g e2' := by
  rw [copyStat_eq_run] at h1 h2
  obtain ⟨hd, rfl⟩ := acts_of_run h1
  obtain ⟨_, rfl⟩ := acts_of_run h2
  have key : ∀ (k : Nat) (op : Op), (copyStatOps st)[k]? = some op → fixes op g = true → (∀ st', op ≠ .copyStat st') →
      ((copyStatOps st).drop (k + 1)).all (fun o => !touches o g.group) = true →
      obs g (acts (copyStatOps st) e1) = obs g (acts (copyStatOps st) e2) :=
    fun k op hop hfx hc hp =>
      acts_last_writer g _ hd k op hop (fun a b a' b' => fixes_basic op g a b a' b' hfx hc) hp e1 e2
  cases g <;> first | cases hf | skip
  case timeSec f | timeNsec f | timeIsSet f =>
    cases f
    · exact key 0 _ rfl rfl (fun _ h => Op.noConfusion h) rfl
    · exact key 3 _ rfl rfl (fun _ h => Op.noConfusion h) rfl
    · exact key 1 _ rfl rfl (fun _ h => Op.noConfusion h) rfl
    · exact key 2 _ rfl rfl (fun _ h => Op.noConfusion h) rfl
  case dev | devmajor | devminor | devIsSet => exact key 4 _ rfl rfl (fun _ h => Op.noConfusion h) rfl
  case gid | gidIsSet => exact key 5 _ rfl rfl (fun _ h => Op.noConfusion h) rfl
  case uid | uidIsSet => exact key 6 _ rfl rfl (fun _ h => Op.noConfusion h) rfl
  case ino | inoIsSet => exact key 7 _ rfl rfl (fun _ h => Op.noConfusion h) rfl
  case nlink => exact key 8 _ rfl rfl (fun _ h => Op.noConfusion h) rfl
  case rdev | rdevmajor | rdevminor | rdevIsSet => exact key 9 _ rfl rfl (fun _ h => Op.noConfusion h) rfl
  case size | sizeIsSet => exact key 10 _ rfl rfl (fun _ h => Op.noConfusion h) rfl
  case mode | filetype | filetypeIsSet | perm | permIsSet => exact key 11 _ rfl rfl (fun _ h => Op.noConfusion h) rfl

theorem fixes_sound (op : Op) (g : Getter) (e1 e2 e1' e2' : Entry) (hf : fixes op g = true)
    (h1 : step e1 op = some e1') (h2 : step e2 op = some e2') : obs g e1' = obs g e2' := by
  cases op
  case copyStat st => exact copyStat_fixed g hf st e1 e2 e1' e2' h1 h2
  all_goals exact fixes_basic _ g e1 e2 e1' e2' hf (fun _ h => Op.noConfusion h) h1 h2

end LA.Entry
