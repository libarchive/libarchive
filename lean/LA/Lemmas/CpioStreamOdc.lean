/- The cpio odc writer against the cpio reader on a whole stream of entries (C02). Core Lean only. -/
import LA.Lemmas.CpioStream
namespace LA.Codec
open LA.NumFmt LA.Gen.CpioLayout LA.Gen.CodecConsts

/-- A device number that fits the 18-bit `c_rdev` field splits back into the major and minor it was
made of (for majors and minors that are `unsigned` values, as `makedev` takes them). -/
theorem makedev_split (M m : Int) (hM : 0 ≤ M ∧ M < 4294967296) (hm : 0 ≤ m ∧ m < 4294967296)
    (hfit : makedev M m < 262144) :
    ((devMajorN (makedev M m).toNat : Nat) : Int) = M ∧ ((devMinorN (makedev M m).toNat : Nat) : Int) = m := by
  obtain ⟨ma, rfl⟩ := Int.eq_ofNat_of_zero_le hM.1
  obtain ⟨mi, rfl⟩ := Int.eq_ofNat_of_zero_le hm.1
  have e1 : ((ma : Int) % 4294967296).toNat = ma := by omega
  have e2 : ((mi : Int) % 4294967296).toNat = mi := by omega
  unfold makedev at hfit ⊢
  simp only [e1, e2, Int.toNat_natCast] at hfit ⊢
  -- the value fits 18 bits: only the low bits of major and minor are set
  have dma := Nat.div_add_mod ma 4096
  have dmi := Nat.div_add_mod mi 256
  have lma := Nat.mod_lt ma (by decide : 0 < 4096)
  have lmi := Nat.mod_lt mi (by decide : 0 < 256)
  generalize ma % 4096 = a at *
  generalize ma / 4096 = b at *
  generalize mi % 256 = c at *
  generalize mi / 256 = d at *
  have hb : b = 0 := by omega
  have hd : d = 0 := by omega
  subst hb hd
  have h1 : (a * 256 + c) / 17592186044416 = 0 := Nat.div_eq_of_lt (by omega)
  have h2 : (a * 256 + c) / 1048576 = 0 := Nat.div_eq_of_lt (by omega)
  simp only [Nat.zero_mul, Nat.add_zero, devMajorN, devMinorN, h1, h2]
  omega

/-- The inode numbers handed out so far are bounded by the number of entries seen. -/
def InoInv (st : WState) (n : Nat) : Prop := st.inoNext ≤ n ∧ ∀ p ∈ st.inoList, p.2 ≤ n

theorem synthIno_inv (st : WState) (e : Entry) (n : Nat) (h : InoInv st n) :
    (synthIno st e).1 ≤ ((n + 1 : Nat) : Int) ∧ InoInv (synthIno st e).2 (n + 1) := by
  obtain ⟨h1, h2⟩ := h
  have key : ∀ (i : Int) (s : WState), i ≤ ((n + 1 : Nat) : Int) → s.inoNext ≤ n + 1 → (∀ p ∈ s.inoList, p.2 ≤ n + 1) →
      (i, s).1 ≤ ((n + 1 : Nat) : Int) ∧ InoInv (i, s).2 (n + 1) := fun i s a b c => ⟨a, b, c⟩
  have h2' : ∀ p ∈ st.inoList, p.2 ≤ n + 1 := fun p hp => Nat.le_succ_of_le (h2 p hp)
  unfold synthIno
  split
  · exact key _ _ (by omega) (by omega) h2'
  · split
    · exact key _ _ (by omega) (by simp only []; omega) h2'
    · split
      · rename_i p hfind
        have hp := h2 p (List.mem_of_find?_eq_some hfind)
        exact key _ _ (by omega) (by omega) h2'
      · refine key _ _ (by omega) (by simp only []; omega) ?_
        intro p hp
        simp only [List.mem_append, List.mem_singleton] at hp
        rcases hp with hp | rfl
        · exact h2' p hp
        · simp only []; omega

theorem inoInv_empty : InoInv {} 0 := ⟨Nat.le_refl _, fun p hp => by cases hp⟩

theorem inoInv_mono (st : WState) (n : Nat) (h : InoInv st n) : InoInv st (n + 1) :=
  ⟨Nat.le_succ_of_le h.1, fun p hp => Nat.le_succ_of_le (h.2 p hp)⟩

theorem synthIno_empty (e : Entry) : ¬ (synthIno {} e).1 > 262143 := by
  have := (synthIno_inv {} e 0 inoInv_empty).1
  omega

theorem cpioOverflow_odc_ino (e : Entry) (ino ino' pl fs : Int) :
    cpioOverflow odcFormatOctal (odcFields e ino pl fs) = cpioOverflow odcFormatOctal (odcFields e ino' pl fs) := by
  simp [cpioOverflow, odcFields]

/-- The status `write_header` gives when the inode numbers have not run out. -/
def odcStatusNF (e : Entry) (path : List Nat) : Status :=
  if (odcFormatOctal ((path.length : Int) + 1) odcw_namesize_size).1 then .failed
  else if (odcFormatOctal (cpioFilesize e) odcw_filesize_size).1 then .failed
  else if cpioOverflow odcFormatOctal (odcFields e 0 ((path.length : Int) + 1) (cpioFilesize e)) then .warn else .ok

theorem odcCore_st (st : WState) (e : Entry) (path : List Nat) (h : ¬ (synthIno st e).1 > 262143) :
    (odcWriteHeaderCore st e path).st = odcStatusNF e path := by
  unfold odcWriteHeaderCore odcStatusNF
  simp only []
  rw [if_neg h]
  split
  · rfl
  · split
    · rfl
    · simp only []
      rw [cpioOverflow_odc_ino e _ 0]

/-- `archive_write_odc_header` as a function of the state only through "inodes ran out". -/
theorem odcWriteHeader_st (st : WState) (e : Entry) (h : ¬ (synthIno st e).1 > 262143) :
    (odcWriteHeader st e).1 = match cpioPrecheck e false with
      | some s => s
      | none => odcStatusNF e (e.path.getD []) := by
  unfold odcWriteHeader
  cases cpioPrecheck e false with
  | some s => rfl
  | none => exact odcCore_st st e _ h

theorem odcWriteHeader_ok (st : WState) (e : Entry) (hok : (odcWriteHeader st e).1 = .ok) :
    ∃ p, e.path = some p ∧ (odcWriteHeaderCore st e p).st = .ok ∧
      odcWriteHeader st e = (.ok, (odcWriteHeaderCore st e p).bytes, (odcWriteHeaderCore st e p).state) := by
  unfold odcWriteHeader at hok ⊢
  cases hpre : cpioPrecheck e false with
  | some s => rw [hpre, cpioPrecheck_some e false s hpre] at hok; cases hok
  | none =>
    obtain ⟨p, hp, _⟩ := cpioPrecheck_none e false hpre
    rw [hpre, hp] at hok
    exact ⟨p, hp, hok, by rw [hp, ← hok]; rfl⟩

/-- A header refused with ARCHIVE_FAILED wrote nothing; the inode counter may have advanced. -/
theorem odcWriteHeader_failed (st : WState) (e : Entry) (h : (odcWriteHeader st e).1 = .failed) :
    odcWriteHeader st e = (.failed, [], st) ∨ odcWriteHeader st e = (.failed, [], (synthIno st e).2) := by
  unfold odcWriteHeader at h ⊢
  cases hpre : cpioPrecheck e false with
  | some s => rw [hpre] at h; simp only [] at h ⊢; left; rw [h]
  | none =>
    rw [hpre] at h
    simp only [] at h ⊢
    right
    unfold odcWriteHeaderCore at h ⊢
    simp only [] at h ⊢
    split
    · rename_i hf; rw [if_pos hf] at h; cases h
    · rename_i hf
      rw [if_neg hf] at h
      split
      · rfl
      · rename_i h2
        rw [if_neg h2] at h
        split
        · rfl
        · rename_i h3
          rw [if_neg h3] at h
          simp only [] at h
          split at h <;> cases h

/-- Entries the odc theorems speak about (as for newc; device majors and minors are `unsigned`
values, which is what `makedev` takes). -/
def OdcEntryOK (e : Entry) : Prop :=
  wfEntry e ∧ (e.sym ≠ [] ↔ e.ftype = .lnk) ∧ e.sym.length ≤ 1048576 ∧ e.path ≠ some trailerName ∧
  (0 ≤ e.rdevmajor ∧ e.rdevmajor < 4294967296) ∧ (0 ≤ e.rdevminor ∧ e.rdevminor < 4294967296) ∧
  ((odcWriteHeader {} e).1 = .ok ∨ (odcWriteHeader {} e).1 = .failed)

def odcAccepted (e : Entry) : Bool := (odcWriteHeader {} e).1 == .ok

theorem cpioRead_odc_entry (st : WState) (e : Entry) (chunks : List (List Nat)) (hE : OdcEntryOK e)
    (hok : (odcWriteHeader st e).1 = .ok) (more : List Nat) (fmt : Nat) (tab : LinkTab) (acc : List RB) :
    (writeEntry .odc st e chunks).2.2.2 = { (synthIno st e).2 with remaining := 0, padding := 0 } ∧
    ∃ rb tab', cpioRead false false ((writeEntry .odc st e chunks).2.2.1 ++ more) fmt tab acc
        = cpioRead false false more ARCHIVE_FORMAT_CPIO_POSIX tab' (rb :: acc) ∧ CpioReadsBack .odc (e, chunks) rb := by
  obtain ⟨hwf, hsymiff, hsl, hnt, hM, hm, _⟩ := hE
  obtain ⟨p, hp, hcore, hw⟩ := odcWriteHeader_ok st e hok
  obtain ⟨_, hf, hc⟩ := odcCore_ok st e p hcore
  rw [hc] at hw
  have hwe := writeEntry_stored .odc st e chunks _ _ _ hw (by decide)
  refine ⟨congrArg Prod.snd hwe, ?_⟩
  generalize (synthIno st e).1 = ino at hf hwe
  have L := odcLayout e ino ((p.length : Int) + 1) (cpioFilesize e)
  have hfs := ((odcFormatOctal_ok_iff _ _).1
    (hf ⟨cpioFilesize e, odcw_filesize_offset, odcw_filesize_size, false⟩ (by simp [odcFields]))).1
  have hrd : 0 ≤ odcRdev e ∧ (odcRdev e).toNat < 8 ^ odcw_rdev_size := (odcFormatOctal_ok_iff _ _).1
    (hf ⟨odcRdev e, odcw_rdev_offset, odcw_rdev_size, true⟩ (by simp [odcFields, odcRdev]))
  have hpar := odcParse_hdr e _ _ _ hf
  rw [show ((p.length : Int) + 1).toNat = p.length + 1 by omega] at hpar
  obtain ⟨tab', hd, hread⟩ := cpioRead_entry false e p _ _ chunks more fmt tab acc (cpioHdr_length L)
    (cpioMagicOk_cpioHdr L _ (List.mem_cons_self ..) rfl rfl (by decide)) hpar (mode_ftype e) rfl rfl hfs
    (wfStr_noNul (hwf.1 p hp)) (wfStr_noNul hwf.2.2.2.1) hsymiff hsl (fun h => hnt (by rw [hp, h]))
  have hwire : (writeEntry .odc st e chunks).2.2.1 ++ more
      = cpioHdr false (odcFields e ino ((p.length : Int) + 1) (cpioFilesize e)) ++
        (cpioNameBlock false p ++ (cpioData e chunks ++
          (List.replicate (cpioBodyPad false (cpioData e chunks).length) 0 ++ more))) := by
    rw [hwe]
    simp only [List.append_assoc]
    rw [← List.append_assoc (cpioData e chunks), ← cpioData_eq false e hsymiff chunks]
    simp [cpioNameBlock, cpioNamePad]
  rw [← hwire] at hread
  refine ⟨_, tab', hread, cpio_agrees .odc (Or.inl rfl) e p hp _ rfl (mode_ftype e) (mode_perm e) rfl rfl rfl rfl rfl
    ?_ (fun _ => rfl) rfl, rfl, rfl⟩
  -- the device number fits 18 bits, so it splits back into major and minor
  intro hdev
  have hr : odcRdev e = makedev e.rdevmajor e.rdevminor := if_pos hdev.symm
  rw [hr] at hrd
  have h18 : (8 : Nat) ^ odcw_rdev_size = 262144 := by decide
  have := makedev_split _ _ hM hm (by omega)
  rw [← hr] at this
  exact this

theorem synthIno_trailer (st : WState) : synthIno st trailerEntry = (0, st) := by
  unfold synthIno; rfl

theorem cpioRead_odc_trailer (st : WState) (more : List Nat) (fmt : Nat) (tab : LinkTab) (acc : List RB) :
    cpioRead false false ((closeBytes .odc st).2 ++ more) fmt tab acc
      = ⟨ARCHIVE_FORMAT_CPIO_POSIX, acc.reverse, .eof, 0⟩ := by
  have hi : ¬ (synthIno st trailerEntry).1 > 262143 := by rw [synthIno_trailer]; simp only []; omega
  obtain ⟨_, hf, hc⟩ := odcCore_ok st trailerEntry trailerName (by rw [odcCore_st st _ _ hi]; decide)
  rw [synthIno_trailer] at hf hc
  have L := odcLayout trailerEntry 0 ((trailerName.length : Int) + 1) (cpioFilesize trailerEntry)
  have hb : (closeBytes .odc st).2 = cpioHdr false (odcFields trailerEntry 0 ((trailerName.length : Int) + 1)
      (cpioFilesize trailerEntry)) ++ cpioNameBlock false trailerName := by
    show (odcWriteHeaderCore st trailerEntry trailerName).bytes = _
    rw [hc]; simp [cpioNameBlock, trailerEntry]; rfl
  rw [hb, List.append_assoc]
  exact cpioRead_trailer false _ _ more fmt tab acc (cpioHdr_length L)
    (cpioMagicOk_cpioHdr L _ (List.mem_cons_self ..) rfl rfl (by decide)) (odcParse_hdr trailerEntry _ _ _ hf)
    (by decide)

theorem cpioRead_odc_entries (es : List (Entry × List (List Nat))) (hes : ∀ ec ∈ es, OdcEntryOK ec.1)
    (st : WState) (n : Nat) (hinv : InoInv st n) (hn : n + es.length ≤ 262143)
    (stT : WState) (pad : List Nat) (fmt : Nat) (tab : LinkTab) (acc : List RB) :
    ∃ rbs, cpioRead false false ((writeEntries .odc st es).1 ++ ((closeBytes .odc stT).2 ++ pad)) fmt tab acc
        = ⟨ARCHIVE_FORMAT_CPIO_POSIX, acc.reverse ++ rbs, .eof, 0⟩ ∧
      AllPairs (CpioReadsBack .odc) (es.filter fun ec => odcAccepted ec.1) rbs := by
  obtain ⟨rbs, r', hread, -, hall⟩ := read_written
    (fun (st : WState) (ec : Entry × List (List Nat)) => (writeEntry .odc st ec.1 ec.2).2.2) (writeEntries .odc)
    (fun _ => rfl) (writeEntries_cons .odc) (fun (r : Nat × LinkTab) bs acc => cpioRead false false bs r.1 r.2 acc)
    (fun n st => InoInv st n) (fun _ _ => True) (fun ec => odcAccepted ec.1) (CpioReadsBack .odc)
    262143 es n st (fmt, tab) acc ((closeBytes .odc stT).2 ++ pad) hn hinv trivial
    (by
      intro ec hec n st r acc more hn hinv _
      have hE := hes ec hec
      obtain ⟨hile, hinv'⟩ := synthIno_inv st ec.1 n hinv
      -- inode numbers are left, so the status is the one a fresh writer gives
      have hsteq : (odcWriteHeader st ec.1).1 = (odcWriteHeader {} ec.1).1 := by
        rw [odcWriteHeader_st st ec.1 (by omega), odcWriteHeader_st {} ec.1 (synthIno_empty ec.1)]
      have hst := hE.2.2.2.2.2.2
      rw [← hsteq] at hst
      rcases hst with hok | hfail
      · rw [if_pos (by unfold odcAccepted; rw [← hsteq, hok]; rfl)]
        obtain ⟨hstate, rb, tab', h, hb⟩ := cpioRead_odc_entry st ec.1 ec.2 hE hok more r.1 r.2 acc
        exact ⟨by rw [hstate]; exact ⟨hinv'.1, hinv'.2⟩, rb, (_, tab'), h, trivial, hb⟩
      · rw [if_neg (by unfold odcAccepted; rw [← hsteq, hfail]; decide)]
        rcases odcWriteHeader_failed st ec.1 hfail with hw | hw <;>
          have hwe := writeEntry_refused .odc st _ ec.1 ec.2 hw
        · exact ⟨by rw [hwe]; exact inoInv_mono st n hinv, congrArg Prod.fst hwe⟩
        · exact ⟨by rw [hwe]; exact hinv', congrArg Prod.fst hwe⟩)
  refine ⟨rbs, ?_, hall⟩
  rw [hread, cpioRead_odc_trailer, List.reverse_append, List.reverse_reverse]

end LA.Codec
