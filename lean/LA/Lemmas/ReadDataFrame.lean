/-
Facts about `LA.RD.readLoop` that hold for EVERY handle and script (no
well-formedness assumed): what a call can add to the buffer, which members it
can change, and why callers' loops terminate.
-/
import LA.Lemmas.ReadData
namespace LA.RD

def Ret.written : Ret → List Nat
  | .ok bs => bs
  | .err _ l => l

/-- What the call does not touch: everything but the `read_data_*` members, the
archive state and the position in the current entry's script. -/
structure Frame (h h' : H) : Prop where
  term : h'.term = h.term
  hook : h'.hook = h.hook
  entries : h'.entries = h.entries
  nread : h'.nread = h.nread
  fileCount : h'.fileCount = h.fileCount
  entryObj : h'.entryObj = h.entryObj
  evs_le : h'.evs.length ≤ h.evs.length
  pos : h'.evpos + h'.evs.length = h.evpos + h.evs.length
  suffix : ∃ k, h'.evs = h.evs.drop k
  state : h.state = .data → h'.state = .data

theorem Frame.setRd (h : H) (rd : RDState) : Frame h { h with rd := rd } :=
  ⟨rfl, rfl, rfl, rfl, rfl, rfl, Nat.le_refl _, rfl, ⟨0, rfl⟩, id⟩

theorem Frame.refl (h : H) : Frame h h := .setRd h h.rd

theorem Frame.trans {a b c : H} (x : Frame a b) (y : Frame b c) : Frame a c :=
  ⟨y.term.trans x.term, y.hook.trans x.hook, y.entries.trans x.entries, y.nread.trans x.nread,
   y.fileCount.trans x.fileCount, y.entryObj.trans x.entryObj, Nat.le_trans y.evs_le x.evs_le,
   y.pos.trans x.pos,
   (by obtain ⟨k1, h1⟩ := x.suffix; obtain ⟨k2, h2⟩ := y.suffix
       exact ⟨k1 + k2, by rw [h2, h1, List.drop_drop]⟩),
   fun s => y.state (x.state s)⟩

theorem enterReadData_data (h : H) (hs : h.state = .data) : enterReadData h = h := by
  simp [enterReadData, hs]

theorem enterReadData_frame (h : H) : Frame h (enterReadData h) := by
  unfold enterReadData
  split
  · exact .setRd h _
  · exact .refl h

theorem padLen_le (rd : RDState) (s : Nat) : padLen rd s ≤ s := by
  unfold padLen
  split
  · exact Nat.le_refl _
  · split <;> omega

theorem dataBlock_frame (h : H) : Frame h (dataBlock h).2.2 := by
  unfold dataBlock
  split
  · rename_i hs
    exact ⟨rfl, rfl, rfl, rfl, rfl, rfl, Nat.le_refl _, rfl, ⟨0, rfl⟩, fun x => absurd x hs⟩
  · split
    · rename_i e rest he
      refine ⟨rfl, rfl, rfl, rfl, rfl, rfl, ?_, ?_, ⟨1, ?_⟩, id⟩
      · simp [he]
      · simp [he]; omega
      · simp [he]
    · exact .refl h

theorem fetch_frame (h : H) (s : Nat) : Frame h (fetch h s).2 :=
  (Frame.setRd h _).trans ((dataBlock_frame _).trans (.setRd _ _))

theorem fetch_eof {h : H} {s : Nat} {h2 : H} (e : fetch h s = (.eof, h2)) :
    h2.evs.length < h.evs.length ∨ (h.evs = [] ∧ h.term.st = .eof) := by
  unfold fetch dataBlock at e
  simp only [] at e
  split at e
  · injection e with e1 _; cases e1
  · split at e
    · rename_i _ ev rest he
      left
      injection e with e1 e2; subst e2
      simp at he ⊢; simp [he]
    · rename_i _ he
      right
      injection e with e1 e2
      refine ⟨he, ?_⟩
      cases ht : h.term.st with
      | eof => rfl
      | err x => simp [ht, TSt.toSt] at e1

def StepOk (h : H) (s : Nat) (acc : List Nat) : Step → Prop
  | .done r h' => r.written = acc ∧ Frame h h' ∧
      (∀ bs, r = .ok bs → h'.evs.length < h.evs.length ∨ (h.evs = [] ∧ h.term.st = .eof))
  | .more h' s' acc' => (∃ add, acc' = acc ++ add ∧ add.length + s' = s) ∧ Frame h h'

/-- The second half of the pass, entered from a handle `g` reached from `h`. -/
theorem padCopy_frame {h g : H} (f : Frame h g) (s : Nat) (acc : List Nat) : StepOk h s acc (padCopy g s acc) := by
  unfold padCopy
  have hp := padLen_le g.rd s
  split
  · exact ⟨rfl, f, fun bs e => by cases e⟩
  · simp only []
    split
    · generalize hj : Nat.min g.rd.blk.length (s - padLen g.rd s) = j
      have hj1 : j ≤ g.rd.blk.length := hj ▸ Nat.min_le_left _ _
      have hj2 : j ≤ s - padLen g.rd s := hj ▸ Nat.min_le_right _ _
      refine ⟨⟨_, List.append_assoc _ _ _, ?_⟩, f.trans (.setRd g _)⟩
      rw [List.length_append, List.length_replicate, List.length_take, Nat.min_eq_left hj1]
      omega
    · exact ⟨⟨_, rfl, by rw [List.length_replicate]; omega⟩, f.trans (.setRd g _)⟩

theorem step_frame (h : H) (s : Nat) (acc : List Nat) : StepOk h s acc (step h s acc) := by
  unfold step
  split
  · have f := fetch_frame h s
    split
    · rename_i h2 hf
      rw [hf] at f
      split
      · exact ⟨rfl, f, fun _ _ => fetch_eof hf⟩
      · exact padCopy_frame f s acc
    · rename_i e h2 hf
      rw [hf] at f
      exact ⟨rfl, f, fun bs e => by cases e⟩
    · rename_i h2 hf
      rw [hf] at f
      exact padCopy_frame f s acc
  · exact padCopy_frame (.refl h) s acc

theorem readLoop_frame (h : H) (s : Nat) (acc : List Nat) :
    (∃ add, (readLoop h s acc).1.written = acc ++ add ∧ add.length ≤ s) ∧ Frame h (readLoop h s acc).2 := by
  fun_induction readLoop h s acc with
  | case1 h acc => exact ⟨⟨[], (List.append_nil _).symm, Nat.le_refl _⟩, .setRd h _⟩
  | case2 h s acc hs r h' hst =>
    have := step_frame h s acc
    rw [hst] at this
    exact ⟨⟨[], this.1.trans (List.append_nil _).symm, Nat.zero_le _⟩, this.2.1⟩
  | case3 h s acc hs h' s' acc' hst ih =>
    have := step_frame h s acc
    rw [hst] at this
    obtain ⟨⟨add, rfl, hl⟩, f⟩ := this
    obtain ⟨⟨add2, ha2, hl2⟩, f2⟩ := ih
    exact ⟨⟨add ++ add2, by rw [ha2, List.append_assoc], by rw [List.length_append]; omega⟩, f.trans f2⟩

/-- A call with a non-empty buffer that reports neither bytes nor an error has used
up a scripted result, or the script is at its end-of-data terminal: loops of the
form `while (archive_read_data(...) > 0)` and retry loops terminate. -/
theorem readLoop_progress (h : H) (s : Nat) (acc : List Nat) (hs : 0 < s) :
    (∃ e l, (readLoop h s acc).1 = .err e l) ∨
    acc.length < (readLoop h s acc).1.written.length ∨
    (readLoop h s acc).2.evs.length < h.evs.length ∨ (h.evs = [] ∧ h.term.st = .eof) := by
  fun_induction readLoop h s acc with
  | case1 h acc => omega
  | case2 h s acc hs' r h' hst =>
    have := step_frame h s acc
    rw [hst] at this
    cases r with
    | err e l => exact .inl ⟨e, l, rfl⟩
    | ok bs => exact .inr (.inr (this.2.2 bs rfl))
  | case3 h s acc hs' h' s' acc' hst _ =>
    -- the pass used up a scripted result, or it put something in the buffer
    have := step_frame h s acc
    rw [hst] at this
    obtain ⟨⟨add, rfl, hl⟩, _⟩ := this
    obtain ⟨⟨add2, ha2, _⟩, f2⟩ := readLoop_frame h' s' (acc ++ add)
    rcases step_more (Nat.pos_of_ne_zero hs') hst with hm | ⟨_, hm⟩
    · exact .inr (.inr (.inl (Nat.lt_of_le_of_lt f2.evs_le hm)))
    · right; left
      rw [ha2, List.length_append, List.length_append]
      omega

end LA.RD
