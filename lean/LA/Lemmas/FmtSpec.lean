/- The format description of `LA.Model.FmtSpec` in propositional form: `representable` as its conditions,
the field-by-field comparison as a conjunction. Core Lean only. -/
import LA.Model.FmtSpec
namespace LA.Codec

theorem chkField_eq_none {α} [DecidableEq α] [ToString α] (nm : String) (o : Option α) (v : α) :
    chkField nm o v = none ↔ ∀ w, o = some w → w = v := by
  unfold chkField
  cases o with
  | none => simp
  | some w => by_cases h : w = v <;> simp [h]

/-- No field is named: every field the expectation carries has the value that was read back. -/
theorem Exp.mismatch_eq_none (x : Exp) (r : RB) (nsec : Nat) :
    x.mismatch r nsec = none ↔
      (∀ w, x.path = some w → w = r.path) ∧ (∀ w, x.ftype = some w → w = r.ftype) ∧ (∀ w, x.perm = some w → w = r.perm) ∧
      (∀ w, x.uid = some w → w = r.uid) ∧ (∀ w, x.gid = some w → w = r.gid) ∧
      (∀ w, x.size = some w → w = r.size.getD (-1)) ∧ (∀ w, x.mtime = some w → w = r.mtime.getD (-1)) ∧
      (∀ w, x.mtimeNs = some w → w = nsec) ∧ (∀ w, x.uname = some w → w = r.uname) ∧ (∀ w, x.gname = some w → w = r.gname) ∧
      (∀ w, x.sym = some w → w = r.sym) ∧ (∀ w, x.hard = some w → w = r.hard) ∧
      (∀ w, x.rdev.map (·.1) = some w → w = r.rdevmajor) ∧ (∀ w, x.rdev.map (·.2) = some w → w = r.rdevminor) ∧
      (∀ w, x.dev = some w → w = r.dev) ∧ (∀ w, x.nlink = some w → w = r.nlink) := by
  unfold Exp.mismatch
  rw [List.findSome?_eq_none_iff]
  simp only [List.forall_mem_cons, List.not_mem_nil, false_imp_iff, implies_true, and_true, id, chkField_eq_none]

theorem inR_iff (v lo hi : Int) : inR v lo hi = true ↔ lo ≤ v ∧ v ≤ hi := by
  unfold inR; simp

theorem imp_iff (a b : Bool) : imp a b = true ↔ (a = true → b = true) := by
  cases a <;> cases b <;> decide

theorem representable_iff (f : WFmt) (e : Entry) :
    representable f e = true ↔ ∃ p, e.path = some p ∧ reprShape f e p = true ∧ reprRanges f e = true ∧
      reprNames f e p (normPath f e.ftype p) = true := by
  unfold representable
  cases e.path with
  | none => simp
  | some p => simp [and_assoc]

theorem reprShape_iff (f : WFmt) (e : Entry) (p : List Nat) :
    reprShape f e p = true ↔
      p ≠ [] ∧ hasDotDot p = false ∧ (e.ftype ∈ typesOf f ∨ (e.hard ≠ [] ∧ isTar f = true)) ∧
      (e.ftype = .lnk → e.sym ≠ []) ∧ (e.sym ≠ [] → e.ftype = .lnk) ∧
      (e.hard ≠ [] → carriesHard f = true ∧ e.sym = []) ∧ (e.ftype = .reg → p.getLast? ≠ some slash) := by
  simp only [reprShape, imp_iff, Bool.and_eq_true, Bool.or_eq_true, Bool.not_eq_true', List.isEmpty_eq_false_iff,
    beq_iff_eq, bne_iff_ne, ne_eq, List.isEmpty_iff, List.contains_iff_mem, and_assoc]

theorem reprRanges_iff (f : WFmt) (e : Entry) :
    reprRanges f e = true ↔
      (carriesIds f = true → (0 ≤ e.uid ∧ e.uid ≤ idMax f) ∧ 0 ≤ e.gid ∧ e.gid ≤ idMax f) ∧
      ((mtimeRange f).1 ≤ e.mtime ∧ e.mtime ≤ (mtimeRange f).2) ∧
      (match e.size with | some s => 0 ≤ s ∧ s ≤ sizeMax f | none => isCpio f = false) ∧
      (carriesNames f = true ∧ (f = .ustar ∨ f = .gnutar) → e.uname.length ≤ 32 ∧ e.gname.length ≤ 32) ∧
      ((e.ftype = .chr ∨ e.ftype = .blk) ∧ carriesRdev f = true →
        (0 ≤ e.rdevmajor ∧ e.rdevmajor ≤ (rdevMax f).1) ∧ 0 ≤ e.rdevminor ∧ e.rdevminor ≤ (rdevMax f).2) := by
  unfold reprRanges
  cases e.size <;>
  simp only [imp_iff, inR_iff, Bool.and_eq_true, Bool.or_eq_true, Bool.not_eq_true', beq_iff_eq, decide_eq_true_eq,
    and_assoc]

end LA.Codec
