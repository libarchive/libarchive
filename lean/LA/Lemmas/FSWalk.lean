/-
Helper lemmas for C04: "no symlink along this prefix" (`NoLinkT`, `NoLinkAt`).  It is
preserved by the primitive mutations, and the kernel walk along such a prefix is a plain descent
through directory entries.
-/
import LA.Lemmas.FSConfine
namespace LA.FS

/-- Descending from subtree `t` along `cs`: every component that exists is a
directory (the descent goes on) or a non-symlink (the descent stops there). -/
def NoLinkT (fs : FS) : Tree → List Name → Prop
  | _, [] => True
  | t, c :: rest => match t.child c with
    | none => True
    | some t' => if t'.isDir = true then NoLinkT fs t' rest else isLnk fs t' = false

/-- The same, from a position. -/
def NoLinkAt (fs : FS) (pos : List Name) (cs : List Name) : Prop :=
  ∀ t, get fs.root pos = some t → NoLinkT fs t cs

def NoDots (cs : List Name) : Prop := ∀ c ∈ cs, c ≠ DOTN ∧ c ≠ DOTDOTN

def LenOK (cs : List Name) : Prop := ∀ c ∈ cs, ¬ c.length > nameMax

theorem noLinkT_nil (fs : FS) (t : Tree) : NoLinkT fs t [] := trivial

theorem noLinkT_cons {fs : FS} {t t' : Tree} {c : Name} (rest : List Name) (h : t.child c = some t') :
    NoLinkT fs t (c :: rest) ↔ if t'.isDir = true then NoLinkT fs t' rest else isLnk fs t' = false := by
  simp only [NoLinkT, h]

theorem noLinkT_cons_none {fs : FS} {t : Tree} {c : Name} (rest : List Name) (h : t.child c = none) :
    NoLinkT fs t (c :: rest) := by
  simp only [NoLinkT, h]

theorem noLinkT_prefix (fs : FS) : ∀ (cs cs' : List Name) (t : Tree), cs' <+: cs → NoLinkT fs t cs → NoLinkT fs t cs' := by
  intro cs
  induction cs with
  | nil =>
    intro cs' t h _
    cases List.prefix_nil.mp h
    trivial
  | cons c cs ih =>
    intro cs' t hp h
    cases cs' with
    | nil => trivial
    | cons c' cs' =>
      obtain ⟨hcc, hp'⟩ := List.cons_prefix_cons.mp hp
      subst hcc
      cases hc : t.child c' with
      | none => exact noLinkT_cons_none _ hc
      | some t' =>
        rw [noLinkT_cons _ hc] at h ⊢
        split
        · rename_i hd; rw [if_pos hd] at h; exact ih cs' t' hp' h
        · rename_i hd; rw [if_neg hd] at h; exact h

theorem noLinkAt_prefix {fs : FS} {pos cs cs' : List Name} (hp : cs' <+: cs) (h : NoLinkAt fs pos cs) :
    NoLinkAt fs pos cs' := fun t ht => noLinkT_prefix fs cs cs' t hp (h t ht)

theorem isLnk_dir {fs : FS} {t : Tree} (h : t.isDir = true) : isLnk fs t = false := by
  cases t with
  | dir => rfl
  | file => simp [Tree.isDir] at h

/-- An object that may be put at a checked position without spoiling the check:
an empty directory, or a file reference that is not a symlink. -/
def OKx (fs : FS) (x : Tree) : Prop :=
  (x.isDir = true → ∀ cs, NoLinkT fs x cs) ∧ (x.isDir = false → isLnk fs x = false)

theorem okx_emptyDir (fs : FS) (m : Nat) (mt : Int) : OKx fs (.dir m mt []) := by
  refine ⟨fun _ cs => ?_, fun h => by simp [Tree.isDir] at h⟩
  cases cs with
  | nil => trivial
  | cons c r => exact noLinkT_cons_none _ rfl

/-- A shape-keeping change `f` of the subtree at `d` keeps `NoLinkT` along `cs`, provided `f` keeps it
along what is left of `cs` at `d` (which only matters when `cs` passes through `d`). -/
theorem noLinkT_modify (fs : FS) (f : Tree → Tree) (hs : ShapeKeeping f) : ∀ (d cs : List Name) (t : Tree),
    NoLinkT fs t cs → (∀ t' rest, cs = d ++ rest → NoLinkT fs t' rest → NoLinkT fs (f t') rest) →
    NoLinkT fs (modify f t d) cs := by
  intro d
  induction d with
  | nil => intro cs t h hf; exact hf t cs rfl h
  | cons e d ih =>
    intro cs t h hf
    rw [modify_cons]
    cases hch : t.child e with
    | none => exact h
    | some t' =>
      cases cs with
      | nil => trivial
      | cons c rest =>
        by_cases hn : e = c
        · subst hn
          have hput : (t.put e (modify f t' d)).child e = some (modify f t' d) := by
            rw [child_put, if_pos ⟨rfl, isDir_of_child hch⟩]
          rw [noLinkT_cons _ hch] at h
          rw [noLinkT_cons _ hput, isDir_modify f hs]
          split
          · rename_i hd
            rw [if_pos hd] at h
            exact ih rest t' h (fun t'' rest' he => hf t'' rest' (by rw [he]; rfl))
          · rename_i hd
            rw [if_neg hd] at h
            rw [modify_file f hs _ (by simpa using hd)]; exact h
        · simp only [NoLinkT, child_put, hn, false_and, if_false] at h ⊢; exact h

/-- Putting `x` under the name `n`: harmless when `x` is `OKx`, or when the checked prefix ends here. -/
theorem noLinkT_put_touch (fs : FS) (n : Name) (x t : Tree) (rest : List Name) (h : NoLinkT fs t rest)
    (hc : OKx fs x ∨ rest = []) : NoLinkT fs (t.put n x).touch rest := by
  cases rest with
  | nil => trivial
  | cons c rest =>
    have hx := hc.resolve_right (List.cons_ne_nil _ _)
    simp only [NoLinkT, child_touch, child_put] at h ⊢
    by_cases hn : n = c ∧ t.isDir = true
    · simp only [hn, and_self, if_true]
      split
      · rename_i hd; exact hx.1 hd rest
      · rename_i hd; exact hx.2 (by simpa using hd)
    · simp only [hn, if_false]; exact h

theorem noLinkT_del_touch (fs : FS) (n : Name) (t : Tree) (rest : List Name) (h : NoLinkT fs t rest) :
    NoLinkT fs (t.del n).touch rest := by
  cases rest with
  | nil => trivial
  | cons c rest =>
    simp only [NoLinkT, child_touch, child_del] at h ⊢
    by_cases hn : n = c
    · simp [hn]
    · simp only [hn, if_false]; exact h

/-- A change that keeps every entry of the directory it is applied to. -/
theorem noLinkT_keepChildren (fs : FS) {f : Tree → Tree} (hk : ∀ t c, (f t).child c = t.child c)
    (t : Tree) (rest : List Name) (h : NoLinkT fs t rest) : NoLinkT fs (f t) rest := by
  cases rest with
  | nil => trivial
  | cons c rest => simp only [NoLinkT, hk] at h ⊢; exact h

/-- Changing the inode table without turning any referenced inode into a symlink. -/
theorem noLinkT_files (fs fs' : FS) : ∀ (cs : List Name) (t : Tree),
    (∀ p i, get t p = some (.file i) → isLnk fs' (.file i) = true → isLnk fs (.file i) = true) →
    NoLinkT fs t cs → NoLinkT fs' t cs := by
  intro cs
  induction cs with
  | nil => intro _ _ _; trivial
  | cons c rest ih =>
    intro t hl h
    cases hc : t.child c with
    | none => exact noLinkT_cons_none _ hc
    | some t' =>
      rw [noLinkT_cons _ hc] at h ⊢
      cases t' with
      | dir m mt es =>
        exact ih _ (fun p i hp => hl (c :: p) i (by rw [get_cons, hc]; exact hp)) h
      | file i =>
        cases hh : isLnk fs' (.file i) with
        | false => rfl
        | true =>
          have := hl [c] i (by rw [get_cons, hc]; rfl) hh
          rw [if_neg (by simp [Tree.isDir]), this] at h; exact absurd h (by simp)

theorem filter_noDots {cs : List Name} (h : NoDots cs) : cs.filter (fun c => !(c == DOTN)) = cs :=
  List.filter_eq_self.mpr fun c hc => by simpa using (h c hc).1

/-- The kernel walk along a component list without "..", whose components other than "." hold no
symlink, goes nowhere but down: it walks over the "." in place and ends at `pos` followed by the
other components, each of which passed the NAME_MAX test. -/
theorem walk_noLink_dots (fs : FS) (b : Nat) : ∀ (cs pos : List Name) (t : Tree), (∀ c ∈ cs, c ≠ DOTDOTN) →
    get fs.root pos = some t → NoLinkT fs t (cs.filter (fun c => !(c == DOTN))) →
    ∀ r, walk fs b pos cs = .ok r →
      r = pos ++ cs.filter (fun c => !(c == DOTN)) ∧ LenOK (cs.filter (fun c => !(c == DOTN))) := by
  intro cs
  induction cs with
  | nil =>
    intro pos t _ _ _ r h
    rw [walk] at h
    simp at h
    simp [h, LenOK]
  | cons c rest ih =>
    intro pos t hnd hget hnl r h
    have hc := hnd c (by simp)
    have hnd' : ∀ x ∈ rest, x ≠ DOTDOTN := fun x hx => hnd x (by simp [hx])
    rw [walk] at h
    simp only [hget] at h
    cases t with
    | file i => simp at h
    | dir m mt es =>
      by_cases hdot : c = DOTN
      · subst hdot
        simp only [↓reduceIte] at h
        have : (DOTN :: rest).filter (fun c => !(c == DOTN)) = rest.filter (fun c => !(c == DOTN)) := by
          rw [List.filter_cons]; simp
        rw [this] at hnl ⊢
        exact ih pos _ hnd' hget hnl r h
      · have hf : (c :: rest).filter (fun c => !(c == DOTN)) = c :: rest.filter (fun c => !(c == DOTN)) := by
          rw [List.filter_cons]; simp [hdot]
        rw [hf] at hnl ⊢
        simp only [hdot, hc, if_false] at h
        split at h
        · simp at h
        · rename_i hlen
          have hcons : ∀ {l : List Name}, LenOK l → LenOK (c :: l) := fun hl x hx => by
            rcases List.mem_cons.mp hx with rfl | hx
            · exact hlen
            · exact hl x hx
          split at h
          · simp at h
          · rename_i m' mt' es' hch
            rw [noLinkT_cons _ hch] at hnl
            simp only [Tree.isDir, if_true] at hnl
            obtain ⟨hr, hl⟩ := ih (pos ++ [c]) _ hnd' (by rw [get_snoc, hget]; exact hch) hnl r h
            exact ⟨by simp [hr], hcons hl⟩
          · rename_i i hch
            rw [noLinkT_cons _ hch] at hnl
            simp only [Tree.isDir, Bool.false_eq_true, if_false, isLnk] at hnl
            split at h
            · rename_i tg hf2; simp [hf2] at hnl
            · split at h
              · rename_i hr
                subst hr
                simp only [Except.ok.injEq] at h
                exact ⟨by simp [← h], hcons (fun _ hx => nomatch hx)⟩
              · simp at h
            · simp at h

theorem walk_noLink (fs : FS) (b : Nat) (cs pos : List Name) (t : Tree) (hnd : NoDots cs)
    (hget : get fs.root pos = some t) (hnl : NoLinkT fs t cs) (r : List Name) (h : walk fs b pos cs = .ok r) :
    r = pos ++ cs ∧ LenOK cs := by
  have := walk_noLink_dots fs b cs pos t (fun c hc => (hnd c hc).2) hget (by rwa [filter_noDots hnd]) r h
  rwa [filter_noDots hnd] at this

theorem walk_noLinkAt {fs : FS} {b : Nat} {cs pos : List Name} (hnd : NoDots cs) (hnl : NoLinkAt fs pos cs)
    {r : List Name} (h : walk fs b pos cs = .ok r) : r = pos ++ cs := by
  cases hget : get fs.root pos with
  | none =>
    cases cs with
    | nil => rw [walk] at h; simp at h; simp [h]
    | cons c rest => rw [walk] at h; simp [hget] at h
  | some t => exact (walk_noLink fs b cs pos t hnd hget (hnl t hget) r h).1

/-- … so it stays below wherever it started. -/
theorem walk_noLink_prefix {fs : FS} {b : Nat} {cs pos T : List Name} (hT : T <+: pos) (hnd : NoDots cs)
    (hnl : NoLinkAt fs pos cs) {r : List Name} (h : walk fs b pos cs = .ok r) : T <+: r := by
  rw [walk_noLinkAt hnd hnl h]
  exact List.IsPrefix.trans hT (List.prefix_append _ _)

/-- Along an existing chain of directories the kernel walk is the plain descent. -/
theorem walk_chain (fs : FS) (b : Nat) : ∀ (cs pos : List Name), NoDots cs → LenOK cs →
    (∃ t, get fs.root (pos ++ cs) = some t ∧ t.isDir = true) → walk fs b pos cs = .ok (pos ++ cs) := by
  intro cs
  induction cs with
  | nil => intro pos _ _ _; rw [walk]; simp
  | cons c rest ih =>
    intro pos hnd hlen ⟨t, hget, hdir⟩
    have hc := hnd c (by simp)
    have hstep : pos ++ c :: rest = (pos ++ [c]) ++ rest := by simp
    -- the directory at `pos` and its entry `c`, a directory as well
    rw [hstep, get_append, get_snoc] at hget
    cases h0 : get fs.root pos with
    | none => simp [h0] at hget
    | some t0 =>
      cases h1 : t0.child c with
      | none => simp [h0, h1] at hget
      | some t1 =>
        simp only [h0, h1, Option.bind_some] at hget
        have ht1 : t1.isDir = true := by
          cases rest with
          | nil => simp at hget; subst hget; exact hdir
          | cons c2 r2 =>
            rw [get_cons] at hget
            cases h2 : t1.child c2 with
            | none => simp [h2] at hget
            | some t2 => exact isDir_of_child h2
        have hrec := ih (pos ++ [c]) (fun x hx => hnd x (by simp [hx])) (fun x hx => hlen x (by simp [hx]))
          ⟨t, by rw [get_append, get_snoc, h0]; simpa [h1] using hget, hdir⟩
        rw [walk, h0]
        cases t0 with
        | file i => simp [Tree.child] at h1
        | dir m mt es =>
          simp only [hc.1, hc.2, if_false, hlen c (by simp), h1]
          cases t1 with
          | file i => simp [Tree.isDir] at ht1
          | dir m1 mt1 es1 => simp only []; rw [hrec, hstep]

end LA.FS
