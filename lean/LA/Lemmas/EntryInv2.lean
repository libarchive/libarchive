/-
The invariants every history of C14 maintains (truthful is-set flags,
exclusive link flags, well-formed sparse list and cursors, coherent stat cache).
-/
import LA.Lemmas.EntryInv
namespace LA.Entry
open LA.Gen.EntryBits

/-- A cleared is-set flag means the group still looks as in a cleared entry. -/
def Truthful (e : Entry) : Prop := ∀ G ∈ truthGroups, hasF e.ae_set G.mask = false → view G e = view G {}

theorem truth_flag : ∀ G ∈ truthGroups, ∀ e : Entry, hasF e.ae_set G.mask = (view G e).bits.headD false := by
  intro G hG e
  simp only [truthGroups, List.mem_cons, List.not_mem_nil, or_false] at hG
  rcases hG with rfl | rfl | rfl | rfl | rfl | rfl | rfl | rfl | rfl | rfl | rfl <;> rfl

theorem truthful_of_view {G : Group} (hG : G ∈ truthGroups) {e e' : Entry} (hv : view G e' = view G e)
    (h : hasF e.ae_set G.mask = false → view G e = view G {}) (hf : hasF e'.ae_set G.mask = false) :
    view G e' = view G {} := by
  rw [truth_flag G hG, hv, ← truth_flag G hG] at hf
  rw [hv]; exact h hf

theorem hasF_or_of_right {s m f : Flags} (h : hasF m f = true) : hasF (s ||| m) f = true := by
  simp only [hasF, bne_iff_ne, ne_eq] at h ⊢
  intro h0; apply h
  rw [← bv_or_and_self s m, BitVec.and_assoc, BitVec.and_comm m, ← BitVec.and_assoc, h0]; simp

namespace Local
variable {t : Group → Bool} {X : Entry → Entry}

theorem truthful (hX : Local t X)
    (hr : ∀ G ∈ truthGroups, ∀ e, t G = false ∨ hasF (X e).ae_set G.mask = true ∨ view G (X e) = view G {})
    (e : Entry) (h : Truthful e) : Truthful (X e) := by
  intro G hG hflag
  rcases hr G hG e with ht | h1 | h1
  · exact truthful_of_view hG (hX.frame G e ht) (h G hG) hflag
  · rw [h1] at hflag; cases hflag
  · exact h1

theorem truthful_untouched (hX : Local t X) (hu : (truthGroups.all fun G => !t G) = true) :
    ∀ e, Truthful e → Truthful (X e) :=
  hX.truthful fun G hG _ => .inl (by simpa using List.all_eq_true.mp hu G hG)

/-- a setter that or-s into the flag word the flag of every such group it touches -/
theorem truthful_raise (hX : Local t X) {m : Flags} (hs : ∀ e, (X e).ae_set = e.ae_set ||| m)
    (hm : (truthGroups.all fun G => !t G || hasF m G.mask) = true) : ∀ e, Truthful e → Truthful (X e) :=
  hX.truthful fun G hG e => by
    have := List.all_eq_true.mp hm G hG
    cases ht : t G
    · exact .inl rfl
    · rw [ht] at this; exact .inr (.inl (hs e ▸ hasF_or_of_right this))

/-- an unsetter: the one such group `o` it touches is as in a cleared entry afterwards -/
theorem truthful_reset (hX : Local t X) (o : Group) (hu : (truthGroups.all fun G => G == o || !t G) = true)
    (hr : ∀ e, view o (X e) = view o {}) : ∀ e, Truthful e → Truthful (X e) :=
  hX.truthful fun G hG e => by
    have := List.all_eq_true.mp hu G hG
    cases ht : t G
    · exact .inl rfl
    · rw [ht] at this; exact .inr (.inr ((by simpa using this : G = o) ▸ hr e))

end Local

theorem truthful_act : ∀ (op : Op) (e : Entry), Truthful e → Truthful (op.act e) :=
  act_preserves fun op hb e h => by
    cases op with
    | copyStat st => cases hb
    | clear => exact fun _ _ _ => rfl
    | setTime f t ns =>
      show Truthful (match fixNs t ns with
        | some p => setTimeCore f e p.1 p.2.toNat
        | none => e)
      cases fixNs t ns
      · exact h
      · exact (setTimeCore_local f _ _).truthful_raise (setTimeCore_flags f · _ _) (by cases f <;> rfl) e h
    | unsetTime f =>
      refine (unsetTimeCore_local f).truthful_reset (.time f) (by cases f <;> rfl) (fun e => ?_) e h
      cases f <;> simp only [view, unsetTimeCore, setTimeCore, Entry.withTime, Entry.has, hasF_andnot_self, timeSec, timeNsec] <;> rfl
    | unsetSize =>
      refine unsetSize_local.truthful_reset .size rfl (fun e => ?_) e h
      simp only [view, unsetSize, setSize, Entry.has, hasF_andnot_self]; rfl
    | setSize _ | setDev _ | setDevmajor _ | setDevminor _ | setIno _ | setUid _ | setGid _ | setMode _ | setPerm _
    | setFiletype _ => exact (act_local_basic _ hb).truthful_raise (fun _ => rfl) rfl e h
    | _ => exact (act_local_basic _ hb).truthful_untouched rfl e h

-- `new` is the cleared entry with its symlink type set
theorem truthful_new : Truthful new := truthful_act (.setSymlinkType _) {} fun _ _ _ => rfl

def Excl (e : Entry) : Prop := ¬(e.has fHARDLINK = true ∧ e.has fSYMLINK = true)

theorem excl_of_view (e e' : Entry) (h : view .link e' = view .link e) : Excl e → Excl e' := by
  simp only [view, View.mk.injEq, List.cons.injEq, and_true, true_and] at h
  unfold Excl; rw [h.1.1, h.1.2]; exact id

theorem excl_iff (e : Entry) : Excl e ↔ (e.link.hard && e.link.sym) = false := by
  show ¬(e.link.hard = true ∧ e.link.sym = true) ↔ _
  cases e.link.hard <;> cases e.link.sym <;> decide

theorem excl_act : ∀ (op : Op) (e : Entry), Excl e → Excl (op.act e) :=
  act_preserves fun op hb e h => by
    cases op with
    | copyStat st => cases hb
    -- on the link part the setters are Boolean functions of the two flags
    | setHardlink v | copyHardlink v | setSymlink v | setLink v | setLinkToHardlink | setLinkToSymlink =>
      rw [excl_iff] at h ⊢
      first | cases v | skip
      all_goals
        simp only [Op.act, step, Option.getD_some, setHardlink_link, copyHardlink_link, setSymlink_link, setLink_link,
          setLinkToHardlink_link, setLinkToSymlink_link]
        revert h; cases e.link.hard <;> cases e.link.sym <;> decide
    | clear => exact fun h => Bool.noConfusion ((hasF_zero _).symm.trans h.1)
    | _ => exact excl_of_view e _ ((act_local_basic _ hb).frame .link e rfl) h

/-- blocks are non-negative, end inside the int64 range, and every block ends strictly
before the next one starts (adjacent blocks have been merged) -/
def SparseWF (l : List (Int × Int)) : Prop :=
  (∀ b ∈ l, 0 ≤ b.1 ∧ 0 ≤ b.2 ∧ b.1 + b.2 ≤ INT64_MAX) ∧ l.Pairwise (fun a b => a.1 + a.2 < b.1)

theorem sparseWF_append (l : List (Int × Int)) (a x : Int × Int) (h : SparseWF (l ++ [a]))
    (hx : 0 ≤ x.1 ∧ 0 ≤ x.2 ∧ x.1 + x.2 ≤ INT64_MAX) (hlt : a.1 + a.2 < x.1) : SparseWF (l ++ [a] ++ [x]) := by
  obtain ⟨h1, h2⟩ := h
  refine ⟨?_, ?_⟩
  · intro b hb
    rcases List.mem_append.mp hb with hb | hb
    · exact h1 b hb
    · simp only [List.mem_singleton] at hb; subst hb; exact hx
  · rw [List.pairwise_append]
    refine ⟨h2, by simp, ?_⟩
    intro b hb y hy
    simp only [List.mem_singleton] at hy; subst hy
    rcases List.mem_append.mp hb with hb' | hb'
    · have := (List.pairwise_append.mp h2).2.2 b hb' a (by simp)
      have ha := (h1 a (by simp)).2.1
      omega
    · simp only [List.mem_singleton] at hb'; subst hb'; exact hlt

theorem sparseWF_merge (l : List (Int × Int)) (so sl len : Int) (h : SparseWF (l ++ [(so, sl)]))
    (hl : 0 ≤ len) (hm : so + sl + len ≤ INT64_MAX) : SparseWF (l ++ [(so, sl + len)]) := by
  obtain ⟨h1, h2⟩ := h
  refine ⟨?_, ?_⟩
  · intro b hb
    rcases List.mem_append.mp hb with hb | hb
    · exact h1 b (List.mem_append.mpr (Or.inl hb))
    · simp only [List.mem_singleton] at hb; subst hb
      have := h1 (so, sl) (by simp)
      simp only at this ⊢; omega
  · rw [List.pairwise_append] at h2 ⊢
    refine ⟨h2.1, by simp, ?_⟩
    intro b hb y hy
    simp only [List.mem_singleton] at hy; subst hy
    exact h2.2.2 b hb (so, sl) (by simp)

theorem sparseWF_nil : SparseWF [] := ⟨by simp, by simp⟩

theorem sparseAddL_wf (sz : Int) (l : List (Int × Int)) (o len : Int) (h : SparseWF l) :
    SparseWF (sparseAddL sz l o len) := by
  unfold sparseAddL
  split; · exact h
  rename_i h0
  split; · exact h
  rename_i h1
  simp only [Bool.or_eq_true, decide_eq_true_eq, not_or, Int.not_lt] at h0 h1
  have hx : 0 ≤ (o, len).1 ∧ 0 ≤ (o, len).2 ∧ (o, len).1 + (o, len).2 ≤ INT64_MAX := by
    simp only [INT64_MAX] at h1 ⊢; omega
  split
  · rename_i so sl hlast
    obtain ⟨l', rfl⟩ := List.getLast?_eq_some_iff.mp hlast
    split; · exact h
    split
    · rename_i h3
      split; · exact h
      simp only [List.dropLast_concat]
      simp only [beq_iff_eq] at h3
      refine sparseWF_merge l' so sl len h h0.2 ?_
      simp only [INT64_MAX] at h1 ⊢; omega
    · rename_i h3
      simp only [beq_iff_eq] at h3
      exact sparseWF_append l' (so, sl) (o, len) h hx (by simp only; omega)
  · rename_i hnone
    have : l = [] := by simpa using hnone
    subst this
    refine ⟨?_, by simp⟩
    intro b hb; simp only [List.nil_append, List.mem_singleton] at hb; subst hb; exact hx

def ListsOK (e : Entry) : Prop :=
  SparseWF e.sparse ∧ (∀ k, e.sparse_p = some k → k < e.sparse.length) ∧ e.xattr_p ≤ e.xattrs.length

theorem listsOK_of_views (e e' : Entry) (h1 : view .sparse e' = view .sparse e) (h2 : view .xattr e' = view .xattr e) :
    ListsOK e → ListsOK e' := by
  simp only [view, View.mk.injEq, List.cons.injEq, and_true, true_and] at h1 h2
  unfold ListsOK; rw [h1.2.1, h1.2.2, h2.1, h2.2]; exact id

theorem sparseAddL_length (sz : Int) (l : List (Int × Int)) (o len : Int) : l.length ≤ (sparseAddL sz l o len).length := by
  unfold sparseAddL
  repeat' split
  all_goals simp
  rename_i so sl hlast _ _ _
  obtain ⟨l', rfl⟩ := List.getLast?_eq_some_iff.mp hlast
  simp

theorem listsOK_sparseAdd (e : Entry) (o l : Int) : ListsOK e → ListsOK (sparseAdd e o l) := by
  intro ⟨w, c, x⟩
  refine ⟨sparseAddL_wf _ _ _ _ w, ?_, x⟩
  intro k hk
  have := c k hk
  have := sparseAddL_length (size e) e.sparse o l
  simp only [sparseAdd]; omega
theorem listsOK_sparseClear (e : Entry) : ListsOK e → ListsOK (sparseClear e) := by
  intro ⟨_, _, x⟩; exact ⟨sparseWF_nil, by simp [sparseClear], x⟩
theorem listsOK_sparseCount (e : Entry) : ListsOK e → ListsOK (sparseCount e).1 := by
  intro h; rw [sparseCount_fst]
  cases sparseWhole (size e) e.sparse
  · exact h
  · exact listsOK_sparseClear e h
theorem listsOK_sparseReset (e : Entry) : ListsOK e → ListsOK (sparseReset e).1 := by
  intro ⟨w, _, x⟩
  refine listsOK_sparseCount _ ⟨w, ?_, x⟩
  intro k hk
  cases he : e.sparse with
  | nil => simp [he] at hk
  | cons a l => simp [he] at hk; subst hk; simp
theorem listsOK_sparseNext (e : Entry) : ListsOK e → ListsOK (sparseNext e).1 := by
  intro ⟨w, c, x⟩
  refine ⟨w, ?_, x⟩
  intro k hk
  simp only [sparseNext] at hk ⊢
  cases hp : e.sparse_p with
  | none => simp [hp, sparseNextP] at hk
  | some j =>
    simp only [hp, sparseNextP] at hk
    split at hk
    · cases hk; assumption
    · cases hk
theorem listsOK_xattrAdd (e : Entry) (n v : Bytes) : ListsOK e → ListsOK (xattrAdd e n v) := by
  intro ⟨w, c, x⟩; exact ⟨w, c, by simp only [xattrAdd, List.length_cons]; omega⟩
theorem listsOK_xattrClear (e : Entry) : ListsOK e → ListsOK (xattrClear e) := by
  intro ⟨w, c, _⟩; exact ⟨w, c, by simp [xattrClear]⟩
theorem listsOK_xattrReset (e : Entry) : ListsOK e → ListsOK (xattrReset e).1 := by
  intro ⟨w, c, _⟩; exact ⟨w, c, by simp [xattrReset]⟩
theorem listsOK_xattrNext (e : Entry) : ListsOK e → ListsOK (xattrNext e).1 := by
  intro ⟨w, c, x⟩; exact ⟨w, c, by simp only [xattrNext]; omega⟩

theorem listsOK_act : ∀ (op : Op) (e : Entry), ListsOK e → ListsOK (op.act e) :=
  act_preserves fun op hb e h => by
    cases op with
    | copyStat st => cases hb
    | setSize s | unsetSize => exact h
    | sparseAdd o l => exact listsOK_sparseAdd e o l h
    | sparseClear => exact listsOK_sparseClear e h
    | sparseCount => exact listsOK_sparseCount e h
    | sparseReset => exact listsOK_sparseReset e h
    | sparseNext => exact listsOK_sparseNext e h
    | xattrAdd n v => exact listsOK_xattrAdd e n v h
    | xattrClear => exact listsOK_xattrClear e h
    | xattrReset => exact listsOK_xattrReset e h
    | xattrNext => exact listsOK_xattrNext e h
    | clear => exact ⟨sparseWF_nil, fun _ h => (by cases h), Nat.le_refl _⟩
    | _ =>
      exact listsOK_of_views e _ ((act_local_basic _ hb).frame .sparse e rfl) ((act_local_basic _ hb).frame .xattr e rfl) h

def StatCoherent (e : Entry) : Prop := e.stat_valid = true → e.stat_cache = statOf e

theorem statCoherent_of_view (e e' : Entry) (h : view .statAll e' = view .statAll e) : StatCoherent e → StatCoherent e' := by
  simp only [view, View.mk.injEq, List.cons.injEq, and_true, true_and] at h
  have h1 : statOf e' = statOf e := by
    simp only [statOf, timeSec, timeNsec, dev, gid, uid, ino, nlink, rdev, rdevIsSet, size, mode, h]
    rfl
  unfold StatCoherent; rw [h1, h.1.2.2.2, h.2.2.2.2]; exact id

theorem statCoherent_invalid (e : Entry) (h : e.stat_valid = false) : StatCoherent e := by
  intro hv; rw [h] at hv; cases hv

theorem statCoherent_stat (e : Entry) : StatCoherent e → StatCoherent (stat e).1 := by
  intro hc _
  show (bif e.stat_valid then e.stat_cache else statOf e) = statOf (stat e).1
  have : statOf (stat e).1 = statOf e := rfl
  rw [this]
  cases hv : e.stat_valid
  · rfl
  · exact hc hv

theorem statCoherent_act : ∀ (op : Op) (e : Entry), StatCoherent e → StatCoherent (op.act e) :=
  act_preserves fun op hb e h => by
    cases op with
    | copyStat st => cases hb
    | stat => exact statCoherent_stat e h
    | setTime f t ns =>
      show StatCoherent (match fixNs t ns with
        | some p => setTimeCore f e p.1 p.2.toNat
        | none => e)
      cases fixNs t ns
      · exact h
      · exact statCoherent_invalid _ (by cases f <;> rfl)
    | unsetTime f => exact statCoherent_invalid _ (by cases f <;> rfl)
    | setSize _ | unsetSize | setDev _ | setDevmajor _ | setDevminor _ | setRdev _ | setRdevmajor _ | setRdevminor _
    | setIno _ | setNlink _ | setUid _ | setGid _ | setMode _ | setPerm _ | setFiletype _ | clear =>
      exact statCoherent_invalid _ rfl
    | _ => exact statCoherent_of_view e _ ((act_local_basic _ hb).frame .statAll e rfl) h

theorem u64ToI64_of_small (n : Int) (h0 : 0 ≤ n) (h1 : n ≤ 9223372036854775807) : u64ToI64 n.toNat = n := by
  unfold u64ToI64 two64
  have : (n.toNat : Int) = n := Int.toNat_of_nonneg h0
  have h2 : n.toNat % 18446744073709551616 = n.toNat := Nat.mod_eq_of_lt (by omega)
  rw [h2]
  split <;> omega

def xattrDrain : Nat → Entry → List (Bytes × Bytes)
  | 0, _ => []
  | n + 1, e => match (xattrNext e).2 with
    | none => []
    | some x => x :: xattrDrain n (xattrNext e).1

theorem xattrDrain_spec (n : Nat) (e : Entry) (hp : e.xattr_p ≤ e.xattrs.length) (hn : e.xattr_p ≤ n) :
    xattrDrain n e = e.xattrs.drop (e.xattrs.length - e.xattr_p) := by
  induction n generalizing e with
  | zero =>
    have : e.xattr_p = 0 := by omega
    simp [xattrDrain, this]
  | succ n ih =>
    simp only [xattrDrain, xattrNext]
    by_cases h0 : e.xattr_p = 0
    · simp [h0]
    · have hlt : e.xattrs.length - e.xattr_p < e.xattrs.length := by omega
      have hb : (e.xattr_p == 0) = false := by simp [h0]
      simp only [hb, cond_false, List.getElem?_eq_getElem hlt]
      rw [ih _ (by simp only; omega) (by simp only; omega)]
      simp only
      have : e.xattrs.length - (e.xattr_p - 1) = (e.xattrs.length - e.xattr_p) + 1 := by omega
      rw [this]
      exact (List.drop_eq_getElem_cons hlt).symm

def sparseDrain : Nat → Entry → List (Int × Int)
  | 0, _ => []
  | n + 1, e => match (sparseNext e).2 with
    | none => []
    | some x => x :: sparseDrain n (sparseNext e).1

theorem sparseDrain_none (n : Nat) (e : Entry) (h : e.sparse_p = none) : sparseDrain n e = [] := by
  cases n with
  | zero => rfl
  | succ n => simp [sparseDrain, sparseNext, sparseNextV, h]

theorem sparseDrain_spec (n : Nat) (e : Entry) (k : Nat) (hp : e.sparse_p = some k) (hk : k < e.sparse.length)
    (hn : e.sparse.length - k ≤ n) : sparseDrain n e = e.sparse.drop k := by
  induction n generalizing e k with
  | zero => omega
  | succ n ih =>
    simp only [sparseDrain, sparseNext, sparseNextV, hp, List.getElem?_eq_getElem hk]
    rw [List.drop_eq_getElem_cons hk]
    congr 1
    by_cases hlast : k + 1 < e.sparse.length
    · exact ih _ (k + 1) (by simp [sparseNextP, hlast]) (by simpa using hlast) (by simp only; omega)
    · rw [sparseDrain_none _ _ (by simp [sparseNextP, hlast])]
      have : e.sparse.length ≤ k + 1 := by omega
      simp [List.drop_eq_nil_of_le this]

end LA.Entry
