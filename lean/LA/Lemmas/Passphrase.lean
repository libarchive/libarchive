/- Helper lemmas for `LA.Passphrase` (archive_read_add_passphrase.c and the retry loops). -/
import LA.Model.Passphrase
namespace LA.Passphrase

/-- The C invariant that makes the linked-list operations sound:
`candidate` never exceeds the number of nodes. -/
def Inv (s : St) : Prop := s.candidate ≤ (s.list.length : Int)

def rotl (l : List P) (k : Nat) : List P := l.drop k ++ l.take k

theorem rot1_length (l : List P) : (rot1 l).length = l.length := by
  cases l <;> simp [rot1]

theorem rot1_mem (l : List P) (p : P) : p ∈ rot1 l ↔ p ∈ l := by
  cases l with
  | nil => rfl
  | cons a t => simp [rot1, Or.comm]

theorem rot1_rotl (l : List P) (k : Nat) (h : k < l.length) : rot1 (rotl l k) = rotl l (k + 1) := by
  rw [rotl, List.drop_eq_getElem_cons h, rotl, List.take_succ_eq_append_getElem h, List.cons_append, rot1,
    List.append_assoc]

theorem rotl_zero (l : List P) : rotl l 0 = l := List.append_nil l
theorem rotl_length (l : List P) : rotl l l.length = l := by simp [rotl]
theorem rotl_len (l : List P) (k : Nat) : (rotl l k).length = l.length := by
  rw [rotl, List.length_append, Nat.add_comm, ← List.length_append, List.take_append_drop]
theorem rotl_head (l : List P) (k : Nat) (h : k < l.length) : (rotl l k).head? = some l[k] := by
  rw [rotl, List.drop_eq_getElem_cons h]; rfl

/-- what the client answers to its `i`-th invocation from this state on (NULL when no
callback is registered) -/
def answer (s : St) (i : Nat) : Option P :=
  match s.cb with
  | none => none
  | some f => f (s.calls + i)

/-- Everything `next` can ever return from this state fails the test `m`. -/
def AllWrong (m : P → Bool) (s : St) : Prop :=
  (∀ p ∈ s.list, m p = false) ∧ (∀ f, s.cb = some f → ∀ i p, f i = some p → m p = false)

/-- Asking the client from a state with the list used up (`candidate = 0`): the answer is
the next one of the callback; the state stays sound, stays used up (an answer becomes the
one candidate), and the answers still to come are the following ones. -/
theorem askCallback_spec (s : St) (h0 : s.candidate = 0) :
    (askCallback s).2 = answer s 0 ∧ (∀ i, answer (askCallback s).1 i = answer s (i + 1)) ∧
    Inv (askCallback s).1 ∧ ((askCallback s).1.candidate = 0 ∨ (askCallback s).1.candidate = 1) := by
  obtain ⟨l, c, cb, n⟩ := s
  subst h0
  cases cb with
  | none => simp [askCallback, answer, Inv]
  | some f =>
    have e : ∀ i, n + 1 + i = n + (i + 1) := by omega
    cases hf : f n with
    | none => simp [askCallback, answer, Inv, hf, e]
    | some pw => simp [askCallback, answer, Inv, hf, e]; omega

/-- An answer of the client is put in front of the list; nothing else moves. -/
theorem askCallback_list (s : St) :
    (askCallback s).1.list = s.list ∨
      ∃ p, (askCallback s).2 = some p ∧ (askCallback s).1.list = p :: s.list := by
  unfold askCallback
  cases s.cb with
  | none => exact .inl rfl
  | some f =>
    dsimp only
    cases f s.calls with
    | none => exact .inl rfl
    | some pw => exact .inr ⟨pw, rfl, rfl⟩

theorem askCallback_wrong (m : P → Bool) (s : St) (h : AllWrong m s) :
    AllWrong m (askCallback s).1 ∧ ∀ p, (askCallback s).2 = some p → m p = false := by
  obtain ⟨l, c, cb, n⟩ := s
  cases cb with
  | none => exact ⟨h, nofun⟩
  | some f =>
    cases hf : f n with
    | none => simp only [askCallback, hf]; exact ⟨h, nofun⟩
    | some pw =>
      have hw : m pw = false := h.2 f rfl _ _ hf
      simp only [askCallback, hf]
      exact ⟨⟨List.forall_mem_cons.mpr ⟨hw, h.1⟩, h.2⟩, fun p e => Option.some.inj e ▸ hw⟩

/-- First call after a reset on a non-empty list: the count is taken, the head is
the first candidate, nothing moves. -/
theorem next_first (s : St) (h : s.candidate < 0) (a : P) (t : List P) (hl : s.list = a :: t) :
    next s = .ret { s with candidate := (s.list.length : Int) } (some a) := by
  simp [next, h, hl]

theorem next_first_empty (s : St) (h : s.candidate < 0) (hl : s.list = []) :
    next s = .ret (askCallback { s with candidate := 0 }).1 (askCallback { s with candidate := 0 }).2 := by
  simp [next, h, hl]

/-- A miss with more candidates to go: the list is rotated by one and its new head is
the next candidate. -/
theorem next_rotate (s : St) (h : 1 < s.candidate) (hi : Inv s) :
    ∃ a, (rot1 s.list).head? = some a ∧
      next s = .ret { s with candidate := s.candidate - 1, list := rot1 s.list } (some a) := by
  have hn : ¬ s.candidate < 0 := by omega
  match hl : s.list with
  | a :: b :: t => exact ⟨b, rfl, by simp [next, hn, h, hl, rotate, rot1]⟩
  | [] => rw [Inv, hl] at hi; exact absurd (Int.lt_of_lt_of_le h hi) (by decide)
  | [_] => rw [Inv, hl] at hi; exact absurd (Int.lt_of_lt_of_le h hi) (Int.lt_irrefl 1)

/-- The miss on the last candidate: the rotation is completed (the list is back in
the order it had at the reset) and the client is asked. -/
theorem next_last (s : St) (h : s.candidate = 1) (hi : Inv s) :
    next s = .ret (askCallback { s with candidate := 0, list := rot1 s.list }).1
                  (askCallback { s with candidate := 0, list := rot1 s.list }).2 := by
  match hl : s.list with
  | [] => rw [Inv, hl, h] at hi; cases hi
  | [a] => simp [next, h, hl, rot1]
  | a :: b :: t => simp [next, h, hl, rot1]

theorem next_zero (s : St) (h : s.candidate = 0) :
    next s = .ret (askCallback s).1 (askCallback s).2 := by
  simp [next, h]

/-- No candidate is left in the list: the next call asks the client. -/
def Exhausted (s : St) : Prop := s.candidate ≤ 1 ∧ (s.candidate < 0 → s.list = [])

theorem next_ask (s : St) (hi : Inv s) (hx : Exhausted s) :
    ∃ s0, s0.candidate = 0 ∧ s0.cb = s.cb ∧ s0.calls = s.calls ∧ (∀ p, p ∈ s0.list ↔ p ∈ s.list) ∧
      next s = .ret (askCallback s0).1 (askCallback s0).2 := by
  by_cases h : s.candidate < 0
  · exact ⟨{ s with candidate := 0 }, rfl, rfl, rfl, fun _ => .rfl, next_first_empty s h (hx.2 h)⟩
  · by_cases h1 : s.candidate = 1
    · exact ⟨{ s with candidate := 0, list := rot1 s.list }, rfl, rfl, rfl, rot1_mem _, next_last s h1 hi⟩
    · have h0 : s.candidate = 0 := by have := hx.1; omega
      exact ⟨s, h0, rfl, rfl, fun _ => .rfl, next_zero s h0⟩

/-- `next` never follows a dangling or NULL pointer, keeps the invariant, and hands out
nothing but listed passphrases and answers of the client. -/
theorem next_keeps (m : P → Bool) (s : St) (hi : Inv s) :
    ∃ s' p, next s = .ret s' p ∧ Inv s' ∧
      (AllWrong m s → AllWrong m s' ∧ ∀ q, p = some q → m q = false) := by
  by_cases h2 : 1 < s.candidate
  · obtain ⟨a, ha, hn⟩ := next_rotate s h2 hi
    refine ⟨_, _, hn, by unfold Inv at *; simp [rot1_length]; omega, fun h => ⟨⟨?_, h.2⟩, ?_⟩⟩
    · exact fun p hp => h.1 p ((rot1_mem _ _).mp hp)
    · intro q hq; obtain rfl := Option.some.inj hq
      exact h.1 _ ((rot1_mem _ _).mp (List.mem_of_mem_head? ha))
  · by_cases h1 : s.candidate < 0 ∧ s.list ≠ []
    · obtain ⟨a, t, hl⟩ := List.exists_cons_of_ne_nil h1.2
      refine ⟨_, _, next_first s h1.1 a t hl, Int.le_refl _, fun h => ⟨h, ?_⟩⟩
      intro q hq; obtain rfl := Option.some.inj hq
      exact h.1 _ (by simp [hl])
    · have hx : Exhausted s := ⟨by omega, fun h => Decidable.byContradiction fun hne => h1 ⟨h, hne⟩⟩
      obtain ⟨s0, h0, hcb, _, hmem, hn⟩ := next_ask s hi hx
      refine ⟨_, _, hn, (askCallback_spec s0 h0).2.2.1, fun h => askCallback_wrong m s0 ⟨?_, ?_⟩⟩
      · exact fun p hp => h.1 p ((hmem p).mp hp)
      · exact hcb ▸ h.2

theorem next_inv (s : St) (hi : Inv s) : ∃ s' p, next s = .ret s' p ∧ Inv s' :=
  let ⟨s', p, h, hi', _⟩ := next_keeps (fun _ => false) s hi; ⟨s', p, h, hi'⟩

theorem nexts_cons {s s1 s' : St} {p : Option P} {ps : List (Option P)} {n : Nat}
    (h : next s = .ret s1 p) (hr : nexts s1 n = some (s', ps)) : nexts s (n + 1) = some (s', p :: ps) := by
  simp only [nexts, h, hr]

theorem nexts_cons_inv {s s' : St} {n : Nat} {qs : List (Option P)} (h : nexts s (n + 1) = some (s', qs)) :
    ∃ s1 p ps, next s = .ret s1 p ∧ nexts s1 n = some (s', ps) ∧ qs = p :: ps := by
  rw [nexts] at h
  split at h
  · cases h
  · split at h
    · cases h
    · cases h
      exact ⟨_, _, _, ‹_›, ‹_›, rfl⟩

theorem nexts_add {s s' s'' : St} {ps qs : List (Option P)} {a : Nat} (b : Nat)
    (h1 : nexts s a = some (s', ps)) (h2 : nexts s' b = some (s'', qs)) :
    nexts s (a + b) = some (s'', ps ++ qs) := by
  induction a generalizing s ps with
  | zero => cases h1; rwa [Nat.zero_add]
  | succ a ih =>
    obtain ⟨s1, p, ps', hn, hr, rfl⟩ := nexts_cons_inv h1
    rw [Nat.add_right_comm]
    exact nexts_cons hn (ih hr)

theorem nexts_one {s s1 : St} {p : Option P} (h : next s = .ret s1 p) : nexts s 1 = some (s1, [p]) :=
  nexts_cons h rfl

theorem rotl_inv (s : St) (k : Nat) :
    Inv { s with list := rotl s.list k, candidate := (s.list.length : Int) - k } := by
  rw [Inv, rotl_len]; exact Int.sub_le_self _ (Int.natCast_nonneg k)

/-- The list phase.  After a reset the first `k+1 ≤ |list|` calls return the first `k+1`
listed passphrases; the list is then rotated by `k`, so the candidate returned last is at
its head. -/
theorem list_phase (s : St) (hc : s.candidate < 0) (k : Nat) (hk : k < s.list.length) :
    nexts s (k + 1) = some ({ s with list := rotl s.list k, candidate := (s.list.length : Int) - k },
                            (s.list.take (k + 1)).map some) := by
  induction k with
  | zero =>
    obtain ⟨a, t, hl⟩ := List.exists_cons_of_ne_nil (List.ne_nil_of_length_pos hk)
    rw [nexts_one (next_first s hc a t hl)]
    simp [hl, rotl_zero]
  | succ k ih =>
    have hk' : k < s.list.length := Nat.lt_of_succ_lt hk
    obtain ⟨a, ha, hn⟩ := next_rotate _ (by simp only; omega) (rotl_inv s k)
    rw [nexts_add 1 (ih hk') (nexts_one hn)]
    simp only at ha ⊢
    rw [rot1_rotl _ k hk'] at ha ⊢
    rw [rotl_head _ (k + 1) hk] at ha
    obtain rfl := Option.some.inj ha
    rw [List.take_succ_eq_append_getElem hk, List.map_append, Int.sub_sub]
    rfl

/-- A full miss: `|list| + 1` calls after the reset return every listed passphrase once,
in list order, and then whatever the client answers; the list is back in its
original order before the client is asked. -/
theorem full_miss (s : St) (hc : s.candidate < 0) :
    nexts s (s.list.length + 1) =
      some ((askCallback { s with candidate := 0 }).1,
            s.list.map some ++ [(askCallback { s with candidate := 0 }).2]) := by
  cases hlen : s.list.length with
  | zero =>
    have hl : s.list = [] := List.eq_nil_of_length_eq_zero hlen
    rw [nexts_one (next_first_empty s hc hl), hl]; rfl
  | succ n =>
    rw [nexts_add 1 (list_phase s hc n (by omega))
      (nexts_one (next_last _ (by simp only; omega) (rotl_inv s n)))]
    simp only
    rw [rot1_rotl _ n (by omega), ← hlen, rotl_length, List.take_length]

theorem add_inv (s : St) (p : Option P) (h : Inv s) : Inv (add s p).1 := by
  unfold add
  split <;> try exact h
  unfold Inv at *; simp <;> omega

theorem reset_inv (s : St) : Inv (reset s) := by
  unfold Inv reset; simp <;> omega

theorem reset_neg (s : St) : (reset s).candidate < 0 := Int.negSucc_lt_zero 0

/-- Once the list is used up every further call asks the client exactly once; the results
are the client's answers in order. -/
theorem ask_phase (s : St) (hi : Inv s) (hx : Exhausted s) (j : Nat) :
    ∃ s', nexts s j = some (s', (List.range j).map (answer s)) ∧ Inv s' := by
  induction j generalizing s with
  | zero => exact ⟨s, rfl, hi⟩
  | succ j ih =>
    obtain ⟨s0, h0, hcb, hcalls, _, hn⟩ := next_ask s hi hx
    obtain ⟨ha, hrest, hi1, hc1⟩ := askCallback_spec s0 h0
    obtain ⟨s', hs', hi'⟩ := ih _ hi1 ⟨by omega, fun h => by omega⟩
    have e : answer s0 = answer s := by unfold answer; rw [hcb, hcalls]
    refine ⟨s', ?_, hi'⟩
    rw [nexts_cons hn hs', ha, List.range_succ_eq_map, List.map_cons, List.map_map, ← e]
    exact congrArg (fun f => some (s', answer s0 0 :: (List.range j).map f)) (funext hrest)

/-- The list phase as a whole leaves a state with the list used up and the client's
answers still to come. -/
theorem list_all (s : St) (hc : s.candidate < 0) :
    ∃ s1, nexts s s.list.length = some (s1, s.list.map some) ∧ Inv s1 ∧ Exhausted s1 ∧
      answer s1 = answer s := by
  cases hlen : s.list.length with
  | zero =>
    have hl : s.list = [] := List.eq_nil_of_length_eq_zero hlen
    exact ⟨s, by rw [hl]; rfl, by unfold Inv; omega, ⟨by omega, fun _ => hl⟩, rfl⟩
  | succ n =>
    have hp := list_phase s hc n (by omega)
    rw [List.take_of_length_le (Nat.le_of_eq hlen)] at hp
    refine ⟨_, hp, rotl_inv s n, ⟨?_, fun h => ?_⟩, rfl⟩
    · simp only; omega
    · simp only at h; omega

/-- After a reset: the `|l|` listed passphrases in order, then the client's answers. -/
theorem iteration (s : St) (j : Nat) :
    ∃ s', nexts (reset s) (s.list.length + j) =
      some (s', s.list.map some ++ (List.range j).map (answer s)) ∧ Inv s' := by
  obtain ⟨s1, h1, hi1, hx1, ha⟩ := list_all (reset s) (reset_neg s)
  obtain ⟨s', hs', hi'⟩ := ask_phase s1 hi1 hx1 j
  exact ⟨s', ha ▸ nexts_add j h1 hs', hi'⟩

/-- No passphrase that can come up matches ⇒ the loop ends in ARCHIVE_FAILED. -/
theorem retryLoop_wrong (cap : Nat) (m : P → Bool) (s : St) (retry : Nat)
    (hi : Inv s) (h : AllWrong m s) :
    ∃ s' t w, retryLoop cap m s retry = .failed s' t w := by
  fun_induction retryLoop cap m s retry with
  | case1 s retry hn => obtain ⟨_, _, hn', _⟩ := next_keeps m s hi; cases hn.symm.trans hn'
  | case2 => exact ⟨_, _, _, rfl⟩
  | case3 s retry s' p hn hm =>
    obtain ⟨_, _, hn', _, hw⟩ := next_keeps m s hi
    cases hn.symm.trans hn'
    cases hm.symm.trans ((hw h).2 p rfl)
  | case4 => exact ⟨_, _, _, rfl⟩
  | case5 s retry s' p hn _ _ ih =>
    obtain ⟨_, _, hn', hi', hw⟩ := next_keeps m s hi
    cases hn.symm.trans hn'
    exact ih hi' (hw h).1

/-- The number of `next` calls is bounded by the cap, whatever the callback does. -/
theorem retryLoop_tries (cap : Nat) (m : P → Bool) (s : St) (retry : Nat) (hr : retry ≤ cap + 1) :
    (retryLoop cap m s retry).tries ≤ cap + 2 := by
  fun_induction retryLoop cap m s retry with
  | case1 => exact Nat.zero_le _
  | case2 => exact Nat.succ_le_succ hr
  | case3 => exact Nat.succ_le_succ hr
  | case4 => exact Nat.succ_le_succ hr
  | case5 s retry s' p _ _ hc ih => exact ih (Nat.succ_le_succ (Nat.le_of_not_gt hc))

theorem retryLoop_hit {cap : Nat} {m : P → Bool} {s s' : St} {p : P} {retry : Nat}
    (hn : next s = .ret s' (some p)) (hm : m p = true) :
    retryLoop cap m s retry = .found s' p (retry + 1) := by
  rw [retryLoop, hn]
  simp only [hm, if_true]

theorem retryLoop_miss {cap : Nat} {m : P → Bool} {s s' : St} {p : P} {retry : Nat}
    (hn : next s = .ret s' (some p)) (hm : m p = false) (hc : retry ≤ cap) :
    retryLoop cap m s retry = retryLoop cap m s' (retry + 1) := by
  rw [retryLoop, hn]
  simp only [hm, Bool.false_eq_true, if_false, Nat.not_lt.mpr hc]

/-- If `k+1` calls of `next` return the passphrases `ps` and then `q`, of which exactly `q`
matches, the loop stops there (provided the cap is not hit first). -/
theorem retryLoop_found (cap : Nat) (m : P → Bool) (k : Nat) (s s' : St) (retry : Nat)
    (ps : List P) (q : P)
    (hnx : nexts s (k + 1) = some (s', (ps ++ [q]).map some)) (hlen : ps.length = k)
    (hwrong : ∀ p ∈ ps, m p = false) (hq : m q = true) (hcap : retry + k ≤ cap + 1) :
    retryLoop cap m s retry = .found s' q (retry + k + 1) := by
  subst hlen
  induction ps generalizing s retry with
  | nil =>
    obtain ⟨s1, p, ps', hn, hr, he⟩ := nexts_cons_inv hnx
    cases hr; cases he
    exact retryLoop_hit hn hq
  | cons p0 ps ih =>
    obtain ⟨s1, p, ps', hn, hr, he⟩ := nexts_cons_inv hnx
    cases he
    have hcap' : retry + 1 + ps.length ≤ cap + 1 := by rwa [Nat.add_right_comm]
    rw [retryLoop_miss hn (hwrong p0 (List.mem_cons_self ..)) (by omega),
      ih s1 (retry + 1) (hnx := hr) (hwrong := fun p hp => hwrong p (List.mem_cons_of_mem _ hp)) (hcap := hcap'),
      List.length_cons, Nat.add_right_comm retry 1]
    rfl

end LA.Passphrase
