/- Helper lemmas about the numeric formatters / parsers of `LA.Model.NumFmt` (core Lean only). -/
import LA.Model.NumFmt
namespace LA.NumFmt

def digitsBE (b : Nat) (ch : Nat → Nat) : Nat → Nat → List Nat
  | _, 0 => []
  | v, s + 1 => ch (v / b ^ s % b) :: digitsBE b ch v s

theorem digitsBE_snoc (b : Nat) (ch : Nat → Nat) (v s : Nat) :
    digitsBE b ch v (s + 1) = digitsBE b ch (v / b) s ++ [ch (v % b)] := by
  induction s with
  | zero => simp [digitsBE]
  | succ s ih =>
    rw [digitsBE, ih, digitsBE, List.cons_append, Nat.div_div_eq_div_mul, ← Nat.pow_succ']

theorem digitsBE_length (b : Nat) (ch : Nat → Nat) (v s : Nat) : (digitsBE b ch v s).length = s := by
  induction s with
  | zero => rfl
  | succ s ih => simp [digitsBE, ih]

theorem digitsBE_mod (b : Nat) (ch : Nat → Nat) (v s : Nat) :
    digitsBE b ch (v % b ^ s) s = digitsBE b ch v s := by
  induction s generalizing v with
  | zero => rfl
  | succ s ih =>
    rw [digitsBE_snoc, digitsBE_snoc, Nat.pow_succ', Nat.mod_mul_right_div_self, Nat.mod_mul_right_mod, ih]

theorem digitsBE_zero (b : Nat) (ch : Nat → Nat) (s : Nat) :
    digitsBE b ch 0 s = List.replicate s (ch 0) := by
  induction s with
  | zero => rfl
  | succ s ih => simp [digitsBE, ih, List.replicate_succ]

theorem digitsBE_max (b : Nat) (hb : 0 < b) (ch : Nat → Nat) (s : Nat) :
    digitsBE b ch (b ^ s - 1) s = List.replicate s (ch (b - 1)) := by
  induction s with
  | zero => rfl
  | succ s ih =>
    have hp : 0 < b ^ s := Nat.pow_pos hb
    have e : b ^ (s + 1) - 1 = b * (b ^ s - 1) + (b - 1) := by
      rw [Nat.pow_succ', Nat.mul_sub_one]
      have : b * 1 ≤ b * b ^ s := Nat.mul_le_mul_left b hp
      omega
    rw [digitsBE_snoc, e, Nat.mul_add_div hb, Nat.mul_add_mod, Nat.div_eq_of_lt (by omega), Nat.add_zero,
      Nat.mod_eq_of_lt (by omega), ih, ← List.replicate_succ']

theorem horner_succ (b v s l : Nat) :
    l * b ^ (s + 1) + v % b ^ (s + 1) = (l * b + v / b ^ s % b) * b ^ s + v % b ^ s := by
  rw [Nat.mod_pow_succ, Nat.pow_succ', Nat.add_mul, Nat.mul_assoc, Nat.mul_comm (b ^ s)]
  omega

theorem horner_le (b : Nat) (v s l : Nat) (hb : 0 < b) :
    l * b + v / b ^ s % b ≤ l * b ^ (s + 1) + v % b ^ (s + 1) := by
  rw [horner_succ]
  exact Nat.le_trans (Nat.le_mul_of_pos_right _ (Nat.pow_pos hb)) (Nat.le_add_right ..)

theorem digitsBE_mem (b : Nat) (hb : 0 < b) (ch : Nat → Nat) (v s : Nat) :
    ∀ c ∈ digitsBE b ch v s, ∃ d, d < b ∧ c = ch d := by
  induction s with
  | zero => intro c hc; cases hc
  | succ s ih =>
    intro c hc
    rcases List.mem_cons.1 hc with rfl | h
    · exact ⟨_, Nat.mod_lt _ hb, rfl⟩
    · exact ih c h

/-- **Reading a digit string back.**  `L` is the digit loop of a reader with its accumulator.  If it steps
over one digit character as Horner's rule says, as long as the new accumulator stays below `B` (where its
overflow handling sets in), it reads a whole digit string that way. -/
theorem read_digitsBE {α : Type} (L : List Nat → Nat → α) (b : Nat) (hb : 0 < b) (ch : Nat → Nat) (B : Nat)
    (step : ∀ d l tail, d < b → l * b + d < B → L (ch d :: tail) l = L tail (l * b + d))
    (v s l : Nat) (tail : List Nat) (h : l * b ^ s + v % b ^ s < B) :
    L (digitsBE b ch v s ++ tail) l = L tail (l * b ^ s + v % b ^ s) := by
  induction s generalizing l with
  | zero => simp [digitsBE, Nat.mod_one]
  | succ s ih =>
    have h' := Nat.lt_of_le_of_lt (horner_le b v s l hb) h
    rw [horner_succ] at h ⊢
    rw [digitsBE, List.cons_append, step _ _ _ (Nat.mod_lt _ hb) h', ih _ h]

theorem pow_pos8 (s : Nat) : 0 < 8 ^ s := Nat.pow_pos (by decide)

theorem octLoop_snd (v s : Nat) : (octLoop v s).2 = v / 8 ^ s := by
  induction s generalizing v with
  | zero => simp [octLoop]
  | succ s ih => rw [octLoop, ih, Nat.div_div_eq_div_mul, ← Nat.pow_succ']

theorem octLoop_fst_length (v s : Nat) : (octLoop v s).1.length = s := by
  induction s generalizing v with
  | zero => simp [octLoop]
  | succ s ih => simp [octLoop, ih]

def octHead : Nat → Nat → List Nat
  | _, 0 => []
  | v, s + 1 => (c0 + v / 8 ^ s % 8) :: octHead v s

theorem octHead_eq (v s : Nat) : octHead v s = digitsBE 8 (c0 + ·) v s := by
  induction s with
  | zero => rfl
  | succ s ih => rw [octHead, ih, digitsBE]

theorem octLoop_fst (v s : Nat) : (octLoop v s).1 = octHead v s := by
  induction s generalizing v with
  | zero => rfl
  | succ s ih => rw [octHead_eq, digitsBE_snoc, ← octHead_eq, octLoop, ih]

theorem octHead_length (v s : Nat) : (octHead v s).length = s := by
  rw [octHead_eq, digitsBE_length]

theorem octHead_digit (v s : Nat) : ∀ c ∈ octHead v s, c0 ≤ c ∧ c ≤ c7 := by
  intro c hc
  rw [octHead_eq] at hc
  obtain ⟨d, hd, rfl⟩ := digitsBE_mem 8 (by decide) _ v s c hc
  simp only [c0, c7]; omega

theorem octHead_mod (v s : Nat) : octHead (v % 8 ^ s) s = octHead v s := by
  rw [octHead_eq, octHead_eq, digitsBE_mod]

theorem octHead_max (s : Nat) : octHead (8 ^ s - 1) s = List.replicate s c7 := by
  rw [octHead_eq, digitsBE_max 8 (by decide)]; rfl

theorem octHead_zero (s : Nat) : octHead 0 s = List.replicate s c0 := by
  rw [octHead_eq, digitsBE_zero]; rfl

/-- `tar_atol_base_n`'s digit loop over a digit string followed by `tail`: as long as the result
stays below `limit * base` the overflow cut-off never fires. -/
theorem atolLoop_digitsBE (b lim ldl : Nat) (hb : 0 < b) (v s l : Nat) (tail : List Nat)
    (h : l * b ^ s + v % b ^ s < lim * b) :
    atolLoop b lim ldl (digitsBE b (c0 + ·) v s ++ tail) l = atolLoop b lim ldl tail (l * b ^ s + v % b ^ s) := by
  refine read_digitsBE (atolLoop b lim ldl) b hb _ _ (fun d l tail hd h => ?_) v s l tail h
  have : l < lim := Nat.lt_of_mul_lt_mul_right (Nat.lt_of_le_of_lt (Nat.le_add_right ..) h)
  rw [atolLoop, if_pos ⟨by omega, by omega⟩, if_neg (by omega), Nat.add_sub_cancel_left]

/-- A byte that ends the digit loop. -/
def nonOctal (c : Nat) : Prop := ¬(c0 ≤ c ∧ c < c0 + 8)

instance (c : Nat) : Decidable (nonOctal c) := by unfold nonOctal; infer_instance

theorem stops_of_head (tail : List Nat) (h : ∀ c ∈ tail.head?, nonOctal c) :
    tail = [] ∨ ∃ c r, tail = c :: r ∧ nonOctal c := by
  cases tail with
  | nil => exact .inl rfl
  | cons c r => exact .inr ⟨c, r, rfl, h c rfl⟩

theorem atolLoop_stop (lim ldl l : Nat) (tail : List Nat)
    (h : tail = [] ∨ ∃ c r, tail = c :: r ∧ nonOctal c) :
    atolLoop 8 lim ldl tail l = some l := by
  rcases h with h | ⟨c, r, h, hc⟩
  · subst h; rfl
  · subst h; simp only [atolLoop]; rw [if_neg hc]

theorem dropBlanks_digit (c : Nat) (r : List Nat) (h : c0 ≤ c ∧ c ≤ c7) : dropBlanks (c :: r) = c :: r := by
  simp only [dropBlanks]
  have : ¬(c = sp ∨ c = 9) := by simp only [c0, c7, sp] at *; omega
  rw [if_neg this]

/-- `tar_atol_base_n` on a field whose first byte is neither blank nor '-'. -/
theorem tarAtolBaseN_start (c : Nat) (r : List Nat) (hc : c ≠ 45) (hb : ¬(c = sp ∨ c = 9)) :
    tarAtolBaseN (c :: r) 8 =
      match atolLoop 8 1152921504606846975 7 (c :: r) 0 with
      | some l => (l : Int)
      | none => I64_MAX := by
  unfold tarAtolBaseN
  simp only [dropBlanks, if_neg hb]
  split
  · next rest heq => simp at heq; exact absurd heq.1 hc
  · rfl

/-- Octal field of a non-negative value that fits, followed by a terminator (or the end of the
field): `tar_atol` returns the value.  (`s ≥ 1`: the first byte decides octal vs base-256.) -/
theorem tarAtol_octHead (v s : Nat) (tail : List Nat) (hs : 0 < s) (hv : v < 8 ^ s)
    (hfit : v ≤ 1152921504606846975)
    (ht : tail = [] ∨ ∃ c r, tail = c :: r ∧ nonOctal c) :
    tarAtol (octHead v s ++ tail) = (v : Int) := by
  obtain ⟨s', rfl⟩ : ∃ s', s = s' + 1 := ⟨s - 1, by omega⟩
  have hd := Nat.mod_lt (v / 8 ^ s') (by decide : 0 < 8)
  have hlist : octHead v (s' + 1) ++ tail = (c0 + v / 8 ^ s' % 8) :: (octHead v s' ++ tail) := rfl
  unfold tarAtol
  rw [hlist]
  simp only [if_neg (show ¬(c0 + v / 8 ^ s' % 8 ≥ 128) by simp only [c0]; omega)]
  unfold tarAtol8
  rw [tarAtolBaseN_start _ _ (by simp only [c0]; omega) (by simp only [c0, sp]; omega), ← hlist, octHead_eq,
    atolLoop_digitsBE 8 _ 7 (by decide) v (s' + 1) 0 tail (by rw [Nat.mod_eq_of_lt hv]; omega),
    atolLoop_stop _ _ _ _ ht]
  simp [Nat.mod_eq_of_lt hv]

/-! ### cpio: `atol8` / `atol16` on what `format_octal` / `format_hex` wrote -/

theorem cpioAtol8_octHead (v s l : Nat) (tail : List Nat)
    (h : l * 8 ^ s + v % 8 ^ s < 18446744073709551616) :
    cpioAtol8 (octHead v s ++ tail) l = cpioAtol8 tail (l * 8 ^ s + v % 8 ^ s) := by
  rw [octHead_eq]
  refine read_digitsBE cpioAtol8 8 (by decide) _ _ (fun d l tail hd h => ?_) v s l tail h
  rw [cpioAtol8, if_pos (by simp only [c0, c7]; omega), Nat.add_sub_cancel_left, Nat.mod_eq_of_lt h]

theorem cpioAtol8_stop (l : Nat) (tail : List Nat)
    (h : tail = [] ∨ ∃ c r, tail = c :: r ∧ ¬(c0 ≤ c ∧ c ≤ c7)) : cpioAtol8 tail l = l := by
  rcases h with h | ⟨c, r, h, hc⟩
  · subst h; rfl
  · subst h; simp only [cpioAtol8]; rw [if_neg hc]

def hexHead (v s : Nat) : List Nat := digitsBE 16 hexChar v s

theorem hexHead_snoc (v s : Nat) : hexHead v (s + 1) = hexHead (v / 16) s ++ [hexChar (v % 16)] :=
  digitsBE_snoc ..

theorem hexDigits_eq (v s : Nat) : hexDigits v s = hexHead v s := by
  induction s generalizing v with
  | zero => rfl
  | succ s ih => rw [hexHead_snoc, hexDigits, ih]

theorem hexHead_length (v s : Nat) : (hexHead v s).length = s := digitsBE_length ..

theorem hexVal_hexChar (d : Nat) (h : d < 16) : hexVal (hexChar d) = some d := by
  revert d; decide

theorem cpioAtol16_hexHead (v s l : Nat) (tail : List Nat)
    (h : l * 16 ^ s + v % 16 ^ s < 18446744073709551616) :
    cpioAtol16 (hexHead v s ++ tail) l = cpioAtol16 tail (l * 16 ^ s + v % 16 ^ s) := by
  refine read_digitsBE cpioAtol16 16 (by decide) _ _ (fun d l tail hd h => ?_) v s l tail h
  simp only [cpioAtol16, hexVal_hexChar _ hd, Nat.mod_eq_of_lt h]

theorem hexHead_max (s : Nat) : hexHead (16 ^ s - 1) s = List.replicate s 102 :=
  digitsBE_max 16 (by decide) hexChar s

theorem div_pow_eq_zero_iff (n s : Nat) : n / 8 ^ s = 0 ↔ n < 8 ^ s :=
  Nat.div_eq_zero_iff_lt (pow_pos8 s)

theorem ustarFormatOctal_eq (v : Int) (s : Nat) :
    ustarFormatOctal v s =
      if v < 0 then (true, List.replicate s c0)
      else if v.toNat < 8 ^ s then (false, octHead v.toNat s)
      else (true, List.replicate s c7) := by
  unfold ustarFormatOctal
  simp only [octLoop_snd, octLoop_fst, div_pow_eq_zero_iff]

theorem ustarFormatOctal_length (v : Int) (s : Nat) : (ustarFormatOctal v s).2.length = s := by
  rw [ustarFormatOctal_eq]
  split
  · simp
  · split <;> simp [octHead_length]

theorem ustarFormatOctal_digit (v : Int) (s : Nat) : ∀ c ∈ (ustarFormatOctal v s).2, c0 ≤ c ∧ c ≤ c7 := by
  intro c hc
  rw [ustarFormatOctal_eq] at hc
  split at hc
  · rw [(List.mem_replicate.1 hc).2]; decide
  · split at hc
    · exact octHead_digit _ _ c hc
    · rw [(List.mem_replicate.1 hc).2]; decide

theorem gnutarFormatOctal_eq (v : Int) (s : Nat) :
    gnutarFormatOctal v s =
      if (if v < 0 then 0 else v).toNat < 8 ^ s then (false, octHead (if v < 0 then 0 else v).toNat s)
      else (true, List.replicate s c7) := by
  unfold gnutarFormatOctal
  simp only [octLoop_snd, octLoop_fst, div_pow_eq_zero_iff]

theorem int_pow8 (d : Nat) : (8 : Int) ^ d = ((8 ^ d : Nat) : Int) := (Int.natCast_pow 8 d).symm
theorem int_pow16 (d : Nat) : (16 : Int) ^ d = ((16 ^ d : Nat) : Int) := (Int.natCast_pow 16 d).symm

/-- The range test `0 ≤ v ≤ b^d - 1` of the cpio formatters, and their saturation value. -/
theorem fits_iff (v : Int) (N : Nat) (hN : 0 < N) :
    ((0 ≤ v ∧ v ≤ (N : Int) - 1) ↔ (0 ≤ v ∧ v.toNat < N)) ∧ ((N : Int) - 1).toNat = N - 1 := by
  omega

theorem odcFormatOctal_eq (v : Int) (d : Nat) :
    odcFormatOctal v d =
      if 0 ≤ v ∧ v.toNat < 8 ^ d then (false, octHead v.toNat d) else (true, List.replicate d c7) := by
  unfold odcFormatOctal octDigits
  simp only [octLoop_fst, int_pow8, fits_iff v _ (pow_pos8 d), octHead_max]

theorem newcFormatHex_eq (v : Int) (d : Nat) :
    newcFormatHex v d =
      if 0 ≤ v ∧ v.toNat < 16 ^ d then (false, hexHead v.toNat d) else (true, List.replicate d 102) := by
  unfold newcFormatHex
  simp only [hexDigits_eq, int_pow16, fits_iff v _ (Nat.pow_pos (by decide) : 0 < 16 ^ d), hexHead_max]

/-! ### `format_octal` of the tar writers against `tar_atol` -/

theorem ustarFormatOctal_ok_iff (v : Int) (s : Nat) : (ustarFormatOctal v s).1 = false ↔ 0 ≤ v ∧ v.toNat < 8 ^ s := by
  rw [ustarFormatOctal_eq]
  split
  · exact ⟨fun h => Bool.noConfusion h, fun h => by omega⟩
  · split <;> simp [*] <;> omega

/-- What `format_octal` wrote without complaint is read back exactly by `tar_atol`. -/
theorem tarAtol_ustarFormatOctal (v : Int) (s : Nat) (tail : List Nat)
    (hs : 0 < s) (hs20 : s ≤ 20) (hok : (ustarFormatOctal v s).1 = false)
    (ht : tail = [] ∨ ∃ c r, tail = c :: r ∧ nonOctal c) :
    tarAtol ((ustarFormatOctal v s).2 ++ tail) = v := by
  obtain ⟨h0, hvn⟩ := (ustarFormatOctal_ok_iff v s).1 hok
  have hbytes : (ustarFormatOctal v s).2 = octHead v.toNat s := by
    rw [ustarFormatOctal_eq, if_neg (by omega), if_pos hvn]
  have hbound : v.toNat ≤ 1152921504606846975 := by
    have h1 : 8 ^ s ≤ 8 ^ 20 := Nat.pow_le_pow_right (by decide) hs20
    have h2 : (8 : Nat) ^ 20 = 1152921504606846976 := by decide
    omega
  rw [hbytes, tarAtol_octHead _ _ _ hs hvn hbound ht]
  omega

/-- The `do … while (--s > 0 && v > 0)` loop writes the low `k ≥ 1` digits of `v` and leaves `s + 1 - k`
places unused; short of `s + 1` digits it stops only because nothing is left of `v`. -/
theorem arLoop_spec (b : Nat) (hb : 2 ≤ b) (s v : Nat) :
    ∃ k, 0 < k ∧ k ≤ s + 1 ∧ (k < s + 1 → v < b ^ k) ∧
      arLoop b v (s + 1) = (digitsBE b (c0 + ·) v k, v / b ^ k, s + 1 - k) := by
  have hb0 : 0 < b := by omega
  have one : ([c0 + v % b], v / b, s) = (digitsBE b (c0 + ·) v 1, v / b ^ 1, s + 1 - 1) := by
    simp [digitsBE]
  induction s generalizing v with
  | zero => exact ⟨1, by omega, by omega, by omega, by rw [arLoop, if_neg (by omega)]; exact one⟩
  | succ s ih =>
    rw [arLoop]
    by_cases hc : s + 1 > 0 ∧ v / b > 0
    · obtain ⟨k, hk0, hk, hlt, heq⟩ := ih (v / b) (by simp [digitsBE])
      refine ⟨k + 1, by omega, by omega, fun h => ?_, ?_⟩
      · rw [Nat.pow_succ]; exact (Nat.div_lt_iff_lt_mul hb0).1 (hlt (by omega))
      · rw [if_pos hc, heq, digitsBE_snoc, Nat.div_div_eq_div_mul, ← Nat.pow_succ', Nat.add_sub_add_right]
    · -- the loop stops early only because nothing is left of `v`
      have hv0 : v / b = 0 := Nat.eq_zero_of_not_pos fun h => hc ⟨Nat.succ_pos s, h⟩
      exact ⟨1, by omega, by omega, fun _ => by rw [Nat.pow_one]; exact (Nat.div_eq_zero_iff_lt hb0).1 hv0,
        by rw [if_neg hc]; exact one⟩

/-- `format_octal` / `format_decimal` of the ar writer in closed form: the digits of a value that fits,
without leading zeros, blank padded. -/
theorem arFormat_eq (b : Nat) (hb : 2 ≤ b) (v : Int) (s : Nat) (hv : 0 ≤ v) :
    ∃ k, 0 < k ∧ k ≤ s + 1 ∧ (v.toNat < b ^ (s + 1) → v.toNat < b ^ k) ∧
      arFormat b v (s + 1) = if v.toNat < b ^ (s + 1) then (false, digitsBE b (c0 + ·) v.toNat k ++ List.replicate (s + 1 - k) sp)
        else (true, List.replicate (s + 1) (c0 + (b - 1))) := by
  obtain ⟨k, hk0, hk, hlt, heq⟩ := arLoop_spec b hb s v.toNat
  have hp : 0 < b ^ k := Nat.pow_pos (by omega)
  have hle : b ^ k ≤ b ^ (s + 1) := Nat.pow_le_pow_right (by omega) hk
  have hiff : v.toNat / b ^ k = 0 ↔ v.toNat < b ^ (s + 1) := by
    rw [Nat.div_eq_zero_iff_lt hp]
    constructor
    · omega
    · intro h
      rcases Nat.lt_or_ge k (s + 1) with h1 | h1
      · exact hlt h1
      · rw [show k = s + 1 by omega]; exact h
  refine ⟨k, hk0, hk, fun h => (Nat.div_eq_zero_iff_lt hp).1 (hiff.2 h), ?_⟩
  unfold arFormat
  rw [if_neg (by omega), heq]
  simp only [hiff]

theorem arFormat_length (b : Nat) (hb : 2 ≤ b) (v : Int) (s : Nat) (hs : 0 < s) : (arFormat b v s).2.length = s := by
  obtain ⟨s', rfl⟩ : ∃ s', s = s' + 1 := ⟨s - 1, by omega⟩
  by_cases hv : v < 0
  · unfold arFormat; rw [if_pos hv]; exact List.length_replicate
  · obtain ⟨k, -, hk, -, heq⟩ := arFormat_eq b hb v s' (by omega)
    rw [heq]
    split
    · simp only [List.length_append, digitsBE_length, List.length_replicate]; omega
    · exact List.length_replicate

end LA.NumFmt
