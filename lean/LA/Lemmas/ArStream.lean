/- The ar writers against the ar reader on a whole archive (C02). Core Lean only. -/
import LA.Lemmas.Ar
import LA.Lemmas.CpioStream
namespace LA.Codec
open LA.NumFmt LA.Gen.ArLayout LA.Gen.CodecConsts

/-- What `archive_write_ar_header` settles for a member named `p`: the name field, what follows the
header, the value of the size field; `none` for its refusals (ARCHIVE_WARN). -/
def arPlan (v : ArVariant) (e : Entry) (p : List Nat) : Option (List Nat × List Nat × Int) :=
  match arBasename p with
  | none => none
  | some name =>
    match arNameField v name with
    | none => none
    | some (nf, after) =>
      match arStatFields e (e.sizeV + (after.length : Nat)) with
      | none => none
      | some _ => some (nf, after, e.sizeV + (after.length : Nat))

theorem arPlan_some (v : ArVariant) (e : Entry) (p nf after : List Nat) (size : Int)
    (h : arPlan v e p = some (nf, after, size)) :
    ∃ name fs, arBasename p = some name ∧ arNameField v name = some (nf, after) ∧
      arStatFields e size = some fs ∧ size = e.sizeV + (after.length : Nat) := by
  unfold arPlan at h
  split at h
  · cases h
  · next name hb =>
    split at h
    · cases h
    · next hn =>
      split at h
      · cases h
      · next fs hs => cases h; exact ⟨name, fs, hb, hn, hs, rfl⟩

theorem path_cases (e : Entry) : (e.path = none ∨ e.path = some []) ∨ ∃ c r, e.path = some (c :: r) := by
  cases h : e.path with
  | none => exact .inl (.inl rfl)
  | some p =>
    cases p with
    | nil => exact .inl (.inr rfl)
    | cons c r => exact .inr ⟨c, r, rfl⟩

/-- Without a pathname nothing is written, not even the global header. -/
theorem arWriteHeader_nopath (v : ArVariant) (st : ArState) (e : Entry) (h : e.path = none ∨ e.path = some []) :
    arWriteHeader v st e = (.warn, [], { wroteGlobal := st.wroteGlobal, remaining := 0, padding := 0 }) := by
  unfold arWriteHeader
  rcases h with h | h <;> rw [h]

theorem arWriteHeader_named (v : ArVariant) (st : ArState) (e : Entry) (c : Nat) (r : List Nat)
    (hp : e.path = some (c :: r)) :
    arWriteHeader v st e =
      if arSpecial (c :: r) then (.unmodelled, if st.wroteGlobal then [] else arMagic, ⟨true, 0, 0⟩)
      else match arPlan v e (c :: r) with
        | none => (.warn, if st.wroteGlobal then [] else arMagic, ⟨true, 0, 0⟩)
        | some (nf, after, size) =>
          (.ok, (if st.wroteGlobal then [] else arMagic) ++ arHdr e size nf ++ after,
           ⟨true, size.toNat - after.length, size.toNat % 2⟩) := by
  unfold arWriteHeader arPlan
  rw [hp]
  simp only []
  split
  · rfl
  · cases arBasename (c :: r) with
    | none => rfl
    | some name =>
      simp only []
      cases arNameField v name with
      | none => rfl
      | some na =>
        simp only []
        cases hs : arStatFields e (e.sizeV + (na.2.length : Nat)) with
        | none => rfl
        | some fs => simp only []; rw [(arStatFields_some e _ fs hs).2.2.2.2.2.2]; rfl

theorem arWriteHeader_ok (v : ArVariant) (st : ArState) (e : Entry) (hok : (arWriteHeader v st e).1 = .ok) :
    ∃ p name nf after fs, e.path = some p ∧ p ≠ [] ∧ arBasename p = some name ∧
      arNameField v name = some (nf, after) ∧
      arStatFields e (e.sizeV + (after.length : Nat)) = some fs ∧
      arWriteHeader v st e
        = (.ok, (if st.wroteGlobal then [] else arMagic) ++ arHdr e (e.sizeV + (after.length : Nat)) nf ++ after,
           { wroteGlobal := true, remaining := (e.sizeV + (after.length : Nat)).toNat - after.length,
             padding := (e.sizeV + (after.length : Nat)).toNat % 2 }) := by
  rcases path_cases e with hnp | ⟨c, r, hp⟩
  · rw [arWriteHeader_nopath v st e hnp] at hok; cases hok
  · rw [arWriteHeader_named v st e c r hp] at hok ⊢
    by_cases hsp : arSpecial (c :: r) = true
    · rw [if_pos hsp] at hok; cases hok
    · rw [if_neg hsp] at hok ⊢
      cases hpl : arPlan v e (c :: r) with
      | none => rw [hpl] at hok; cases hok
      | some x =>
        obtain ⟨nf, after, size⟩ := x
        obtain ⟨name, fs, hb, hn, hs, rfl⟩ := arPlan_some v e _ nf after size hpl
        exact ⟨c :: r, name, nf, after, fs, hp, by simp, hb, hn, hs, rfl⟩

/-- Any other answer (ARCHIVE_WARN): at most the global header was written. -/
theorem arWriteHeader_warn (v : ArVariant) (st : ArState) (e : Entry) (hw : (arWriteHeader v st e).1 = .warn)
    (hg : st.wroteGlobal = true) :
    arWriteHeader v st e = (.warn, [], { wroteGlobal := true, remaining := 0, padding := 0 }) := by
  rcases path_cases e with hnp | ⟨c, r, hp⟩
  · rw [arWriteHeader_nopath v st e hnp, hg]
  · rw [arWriteHeader_named v st e c r hp] at hw ⊢
    by_cases hsp : arSpecial (c :: r) = true
    · rw [if_pos hsp] at hw; cases hw
    · rw [if_neg hsp] at hw ⊢
      cases hpl : arPlan v e (c :: r) with
      | none => simp only [hg, if_true]
      | some x => rw [hpl] at hw; cases hw

theorem arWriteHeader_status_indep (v : ArVariant) (st st' : ArState) (e : Entry) :
    (arWriteHeader v st e).1 = (arWriteHeader v st' e).1 := by
  rcases path_cases e with hnp | ⟨c, r, hp⟩
  · rw [arWriteHeader_nopath v st e hnp, arWriteHeader_nopath v st' e hnp]
  · rw [arWriteHeader_named v st e c r hp, arWriteHeader_named v st' e c r hp]
    split
    · rfl
    · cases arPlan v e (c :: r) <;> rfl

theorem foldArData_spec (chunks : List (List Nat)) (n : Nat) (out : List Nat) (st : ArState) :
    (chunks.foldl arDataStep (n, out, st)).2.1 = out ++ (chunks.flatten).take st.remaining ∧
    (chunks.foldl arDataStep (n, out, st)).2.2
      = { st with remaining := st.remaining - ((chunks.flatten).take st.remaining).length } :=
  foldTake_spec arDataStep (·.remaining) (fun st r => { st with remaining := r }) (fun _ _ => rfl) (fun _ _ _ => rfl)
    (fun _ => rfl) (fun _ _ _ _ => rfl) chunks n out st

theorem arWriteEntry_ok (v : ArVariant) (st : ArState) (e : Entry) (chunks : List (List Nat))
    (hd : List Nat) (R P : Nat) (hP : P < 2)
    (hw : arWriteHeader v st e = (.ok, hd, { wroteGlobal := true, remaining := R, padding := P }))
    (hbody : R ≤ (chunks.flatten).length) :
    (arWriteEntry v st e chunks).2.2.2
      = (hd ++ (chunks.flatten).take R ++ List.replicate P 10, { wroteGlobal := true, remaining := 0, padding := P }) := by
  unfold arWriteEntry
  simp only [hw]
  obtain ⟨h1, h2⟩ := foldArData_spec chunks 0 [] { wroteGlobal := true, remaining := R, padding := P }
  simp only [List.nil_append] at h1
  have hl : ((chunks.flatten).take R).length = R := by rw [List.length_take]; omega
  simp only [h1, h2, hl, Nat.sub_self, arFinishEntry, ne_eq, not_true_eq_false, if_false]
  have : (if P = 0 then (Status.ok, ([] : List Nat)) else (Status.ok, [10])).2 = List.replicate P 10 := by
    rcases Nat.lt_or_ge P 1 with h | h
    · have : P = 0 := by omega
      subst this; rfl
    · have : P = 1 := by omega
      subst this; rfl
  rw [this]

theorem arWriteEntry_nop (v : ArVariant) (st : ArState) (e : Entry) (chunks : List (List Nat)) (b : Bool)
    (hw : arWriteHeader v st e = (.warn, [], { wroteGlobal := b, remaining := 0, padding := 0 })) :
    (arWriteEntry v st e chunks).2.2.2 = ([], { wroteGlobal := b, remaining := 0, padding := 0 }) := by
  unfold arWriteEntry
  simp only [hw]
  obtain ⟨h1, h2⟩ := foldArData_spec chunks 0 [] { wroteGlobal := b, remaining := 0, padding := 0 }
  simp only [List.nil_append, List.take_zero] at h1
  simp only [h1, h2, List.take_zero, List.length_nil, Nat.sub_self, arFinishEntry, ne_eq, not_true_eq_false, if_false,
    if_true, List.append_nil]

def arFmtOf : ArVariant → WFmt
  | .bsd => .arbsd | .svr4 => .arsvr4

theorem ar_agrees (v : ArVariant) (e : Entry) (p : List Nat) (hp : e.path = some p) (hreg : e.ftype = .reg)
    (hsym : e.sym = []) (total : Int) (t b : List Nat) :
    (norm (arFmtOf v) e).mismatch
      { ({ arRB e total t with path := basename p, size := some e.sizeV } : RB) with body := b } 0 = none := by
  have hm2 := mode_perm e
  have hlt : e.mode < 4294967296 := by have := mode_lt e; omega
  rw [Nat.mod_eq_of_lt hlt] at hm2
  have hperm : e.perm % 4096 % 4096 = e.perm % 4096 := Nat.mod_mod _ _
  have hbits : e.mode % 65536 / 4096 * 4096 = AE_IFREG := by
    have := mode_ftype e
    rw [Nat.mod_eq_of_lt hlt, hreg] at this
    exact this
  cases v <;>
    simp [arFmtOf, Exp.mismatch, norm, chkField, hp, normPath, carriesHard, isTar, carriesIds, carriesNames, carriesRdev,
      permMask, isCpio, arRB, rbSetMode, hreg, hsym, hperm, FType.bits, Nat.mod_eq_of_lt hlt, hbits] <;>
    omega

def symdefName : List Nat := [95, 95, 46, 83, 89, 77, 68, 69, 70]

/-- What C02 promises about one member read back. -/
def ArReadsBack (v : ArVariant) (ec : Entry × List (List Nat)) (rb : RB) : Prop :=
  (norm (arFmtOf v) ec.1).mismatch rb 0 = none ∧ rb.body = (ec.2.flatten).take ec.1.sizeV.toNat ∧ rb.bodySt = .eof

/-- Members the ar theorems speak about: a C-string pathname, no link target, a non-negative size, at
least as many body bytes as declared (the ar writer does not zero-fill: it only reports a short body),
a header the writer accepts (ARCHIVE_OK) or refuses (ARCHIVE_WARN), and for accepted ones a member
name other than `__.SYMDEF` of at most 1 MiB (the reader's limit for BSD long names). -/
def ArEntryOK (v : ArVariant) (ec : Entry × List (List Nat)) : Prop :=
  (∀ p, ec.1.path = some p → noNul p) ∧ ec.1.sym = [] ∧ 0 ≤ ec.1.sizeV ∧
  ((arWriteHeader v {} ec.1).1 = .ok ∨ (arWriteHeader v {} ec.1).1 = .warn) ∧
  ((arWriteHeader v {} ec.1).1 = .ok →
    (∀ p, ec.1.path = some p → basename p ≠ symdefName ∧ (basename p).length ≤ 1048576) ∧
    ec.1.sizeV.toNat ≤ (ec.2.flatten).length)

/-- The header of an accepted member under the reader, for each of the three name forms: SVR4 `name/`,
BSD `name` (the blank the C writes behind it is a blank already), BSD `#1/<length>` with the name
behind the header. -/
theorem arHdr_read (v : ArVariant) (e : Entry) (size : Int) (name nf after : List Nat) (fs : List (Nat × List Nat))
    (hnf : arNameField v name = some (nf, after)) (hst : arStatFields e size = some fs)
    (hnn : noNul name) (hne : name ≠ []) (hns : ∀ c ∈ name, c ≠ slash) :
    (arHdr e size nf).length = 60 ∧ slice (arHdr e size nf) ar_fmag_offset 2 = [96, 10] ∧
    ∃ t, arTrimmed (arHdr e size nf) = t ∧ arCommon (arHdr e size nf) t = (arRB e size t, size.toNat) ∧
      ((after = [] ∧ t = name) ∨
       (after = name ∧ (∃ ds, t = 35 :: 49 :: 47 :: ds) ∧
        arAtol 10 (slice (arHdr e size nf) (ar_name_offset + 3) (ar_name_size - 3)) = name.length)) := by
  unfold arNameField at hnf
  cases v with
  | svr4 =>
    simp only [] at hnf
    split at hnf
    · next h15 =>
      obtain ⟨rfl, rfl⟩ := Prod.mk.inj (Option.some.inj hnf)
      have hl : (name ++ [slash]).length ≤ 16 := by simp; omega
      have hH := arHdr_slices e size (name ++ [slash]) hl
      exact ⟨hH.1, hH.2.1, name, arTrimmed_svr4 e size name h15 hnn hne hns, arCommon_hdr e size _ name hl fs hst,
        .inl ⟨rfl, rfl⟩⟩
    · cases hnf
  | bsd =>
    simp only [] at hnf
    split at hnf
    · next hshort =>
      obtain ⟨rfl, rfl⟩ := Prod.mk.inj (Option.some.inj hnf)
      rw [arHdr_snoc_sp e size name hshort.1]
      have hH := arHdr_slices e size name hshort.1
      exact ⟨hH.1, hH.2.1, name, arTrimmed_bsd_short e size name hshort.1 hnn hns hshort.2,
        arCommon_hdr e size name name hshort.1 fs hst, .inl ⟨rfl, rfl⟩⟩
    · split at hnf
      · cases hnf
      · next hov =>
        obtain ⟨rfl, rfl⟩ := Prod.mk.inj (Option.some.inj hnf)
        have hl : ([35, 49, 47] ++ (arFormat 10 (name.length : Nat) (ar_name_size - 3)).2).length ≤ 16 := by
          have := arFormat_length 10 (by omega) (name.length : Nat) (ar_name_size - 3) (by decide)
          simp only [List.length_append, this, List.length_cons, List.length_nil]; decide
        have hH := arHdr_slices e size _ hl
        obtain ⟨ds, htrim, hnum⟩ := arTrimmed_bsd_long e size name.length (by simpa using hov)
        exact ⟨hH.1, hH.2.1, _, htrim, arCommon_hdr e size _ _ hl fs hst, .inr ⟨rfl, ⟨ds, rfl⟩, hnum⟩⟩

theorem arMember_roundtrip (v : ArVariant) (st : ArState) (hg : st.wroteGlobal = true) (e : Entry) (chunks : List (List Nat))
    (hE : ArEntryOK v (e, chunks)) (hok : (arWriteHeader v st e).1 = .ok)
    (more : List Nat) (fmt : Nat) (acc : List RB) :
    ∃ rb fmt', (arWriteEntry v st e chunks).2.2.2.2.wroteGlobal = true ∧
      arRead false ((arWriteEntry v st e chunks).2.2.2.1 ++ more) fmt acc = arRead false more fmt' (rb :: acc) ∧
      ArReadsBack v (e, chunks) rb := by
  obtain ⟨hpn, hsym, hsz0, _, hacc⟩ := hE
  simp only [] at hpn hsym hsz0 hacc
  obtain ⟨hnm, hbody⟩ := hacc (by rw [arWriteHeader_status_indep v {} st, hok])
  obtain ⟨p, name, nf, after, fs, hp, hpne, hb, hnf, hst, hw⟩ := arWriteHeader_ok v st e hok
  rw [hg] at hw
  simp only [if_true, List.nil_append] at hw
  obtain ⟨hnsym, hnlen⟩ := hnm p hp
  -- the member name: the last component of the pathname
  obtain ⟨hname, hlast⟩ : name = basename p ∧ p.getLast? ≠ some slash := by
    unfold arBasename at hb
    split at hb
    · cases hb
    · next hl => exact ⟨(Option.some.inj hb).symm, hl⟩
  have hspec := basename_spec p
  rw [← hname] at hspec hnsym hnlen
  have hplain : ArPlainName name := ⟨hspec.2 hpne hlast, fun c hc => (hspec.1 c hc).1, hnsym⟩
  obtain ⟨_, _, _, _, hreg, hsfit, _⟩ := arStatFields_some e _ fs hst
  have htot := (arField_back 10 (by decide) (by decide) _ _ (by decide) hsfit (by decide)).2
  rw [show (e.sizeV + (after.length : Nat)).toNat - after.length = e.sizeV.toNat by omega] at hw
  have hbl : ((chunks.flatten).take e.sizeV.toNat).length = e.sizeV.toNat := by rw [List.length_take]; omega
  rw [arWriteEntry_ok v st e chunks _ _ _ (Nat.mod_lt _ (by decide)) hw hbody]
  obtain ⟨hlen, hmag, t, htrim, hcommon, hform⟩ := arHdr_read v e _ name nf after fs hnf hst
    (fun c hc => hpn p hp c (hspec.1 c hc).2) hplain.1 hplain.2.1
  have hagree := ar_agrees v e p hp hreg hsym (e.sizeV + (after.length : Nat)) t ((chunks.flatten).take e.sizeV.toNat)
  rw [← hname] at hagree
  rcases hform with ⟨rfl, rfl⟩ | ⟨rfl, ⟨ds, rfl⟩, hnum⟩
  · simp only [List.length_nil, Int.natCast_zero, Int.add_zero, List.append_nil] at hcommon htot hagree hlen hmag htrim ⊢
    obtain ⟨fmt', hstep⟩ := arRead_short _ t ((chunks.flatten).take e.sizeV.toNat) more fmt acc hlen hmag htrim hplain
      (by rw [hcommon, hbl])
    rw [hbl, hcommon] at hstep
    refine ⟨?rb1, fmt', trivial, ?h1, ?a1⟩
    case h1 => rw [List.append_assoc, List.append_assoc]; exact hstep
    case a1 => exact ⟨hagree, rfl, rfl⟩
  · have hsz : (e.sizeV + (after.length : Nat)).toNat = after.length + ((chunks.flatten).take e.sizeV.toNat).length := by
      rw [hbl]; omega
    obtain ⟨fmt', hstep⟩ := arRead_long _ ds after ((chunks.flatten).take e.sizeV.toNat) more fmt acc hlen hmag htrim hnum
      hnlen (fun c hc => hpn p hp c (hspec.1 c hc).2) (by rw [hcommon, hsz])
    rw [hcommon, show ((((chunks.flatten).take e.sizeV.toNat).length : Nat) : Int) = e.sizeV by rw [hbl]; omega] at hstep
    refine ⟨?rb2, fmt', rfl, ?h2, ?a2⟩
    case h2 => rw [hsz, List.append_assoc, List.append_assoc, List.append_assoc]; exact hstep
    case a2 => exact ⟨hagree, rfl, rfl⟩

def arAccepted (v : ArVariant) (e : Entry) : Bool := (arWriteHeader v {} e).1 == .ok

theorem arRead_entries (v : ArVariant) (es : List (Entry × List (List Nat))) (hes : ∀ ec ∈ es, ArEntryOK v ec)
    (st : ArState) (hg : st.wroteGlobal = true) (tail : List Nat) (htail : tail.length < 60) (fmt : Nat) (acc : List RB) :
    ∃ rbs fmt', arRead false ((arWriteEntries v st es).1 ++ tail) fmt acc = ⟨fmt', acc.reverse ++ rbs, .eof, 0⟩ ∧
      AllPairs (ArReadsBack v) (es.filter fun ec => arAccepted v ec.1) rbs := by
  obtain ⟨rbs, fmt', hread, -, hall⟩ := read_written
    (fun (st : ArState) (ec : Entry × List (List Nat)) => (arWriteEntry v st ec.1 ec.2).2.2.2) (arWriteEntries v)
    (fun _ => rfl) (fun _ _ _ => rfl) (fun (fmt : Nat) bs acc => arRead false bs fmt acc)
    (fun _ st => st.wroteGlobal = true) (fun _ _ => True) (fun ec => arAccepted v ec.1) (ArReadsBack v)
    es.length es 0 st fmt acc tail (by omega) hg trivial
    (by
      intro ec hec n st fmt acc more _ hg _
      have hE := hes ec hec
      have hst := hE.2.2.2.1
      rw [arWriteHeader_status_indep v {} st] at hst
      rcases hst with hok | hwarn
      · rw [if_pos (by unfold arAccepted; rw [arWriteHeader_status_indep v {} st, hok]; rfl)]
        obtain ⟨rb, fmt1, hg', hstep, hrb⟩ := arMember_roundtrip v st hg ec.1 ec.2 hE hok more fmt acc
        exact ⟨hg', rb, fmt1, hstep, trivial, hrb⟩
      · rw [if_neg (by unfold arAccepted; rw [arWriteHeader_status_indep v {} st, hwarn]; decide)]
        have hwe := arWriteEntry_nop v st ec.1 ec.2 true (arWriteHeader_warn v st ec.1 hwarn hg)
        exact ⟨by rw [hwe], congrArg Prod.fst hwe⟩)
  refine ⟨rbs, fmt', ?_, hall⟩
  rw [hread, arRead, if_pos htail, List.reverse_append, List.reverse_reverse]

/-! ### the global header is written with the first member that has a name, or at close -/

theorem arWriteHeader_wroteGlobal (v : ArVariant) (st : ArState) (e : Entry)
    (h : st.wroteGlobal = true ∨ ∃ c r, e.path = some (c :: r)) : (arWriteHeader v st e).2.2.wroteGlobal = true := by
  rcases path_cases e with hnp | ⟨c, r, hp⟩
  · rw [arWriteHeader_nopath v st e hnp]
    rcases h with h | ⟨c, r, h⟩
    · exact h
    · rcases hnp with hnp | hnp <;> rw [hnp] at h <;> cases h
  · rw [arWriteHeader_named v st e c r hp]
    split
    · rfl
    · cases arPlan v e (c :: r) <;> rfl

theorem arWriteEntry_wroteGlobal (v : ArVariant) (st : ArState) (e : Entry) (chunks : List (List Nat))
    (h : st.wroteGlobal = true ∨ ∃ c r, e.path = some (c :: r)) :
    (arWriteEntry v st e chunks).2.2.2.2.wroteGlobal = true := by
  unfold arWriteEntry
  simp only []
  rw [(foldArData_spec chunks 0 [] _).2]
  exact arWriteHeader_wroteGlobal v st e h

theorem arWriteEntries_wroteGlobal (v : ArVariant) (es : List (Entry × List (List Nat))) (st : ArState)
    (h : st.wroteGlobal = true) : (arWriteEntries v st es).2.wroteGlobal = true := by
  induction es generalizing st with
  | nil => exact h
  | cons ec r ih => exact ih _ (arWriteEntry_wroteGlobal v st ec.1 ec.2 (Or.inl h))

theorem arWriteHeader_flag (v : ArVariant) (st : ArState) (e : Entry) (hg : st.wroteGlobal = false)
    (c : Nat) (r : List Nat) (hp : e.path = some (c :: r)) :
    arWriteHeader v st e = ((arWriteHeader v { st with wroteGlobal := true } e).1,
        arMagic ++ (arWriteHeader v { st with wroteGlobal := true } e).2.1,
        (arWriteHeader v { st with wroteGlobal := true } e).2.2) := by
  rw [arWriteHeader_named v st e c r hp, arWriteHeader_named v _ e c r hp, hg]
  split
  · simp
  · cases arPlan v e (c :: r) <;> simp

theorem arFold_flag (chunks : List (List Nat)) (n : Nat) (out : List Nat) (st : ArState) (b : Bool) :
    (chunks.foldl arDataStep (n, out, { st with wroteGlobal := b })).2.1 = (chunks.foldl arDataStep (n, out, st)).2.1 ∧
    (chunks.foldl arDataStep (n, out, { st with wroteGlobal := b })).2.2
      = { (chunks.foldl arDataStep (n, out, st)).2.2 with wroteGlobal := b } := by
  obtain ⟨h1, h2⟩ := foldArData_spec chunks n out { st with wroteGlobal := b }
  obtain ⟨h3, h4⟩ := foldArData_spec chunks n out st
  rw [h1, h2, h3, h4]
  exact ⟨rfl, rfl⟩

/-- The bytes of an archive: the global header once, then what the members write when the global
header is already there. -/
theorem arWriteEntries_magic (v : ArVariant) (es : List (Entry × List (List Nat))) (st : ArState)
    (hg : st.wroteGlobal = false) :
    (arWriteEntries v st es).1 ++ arCloseBytes (arWriteEntries v st es).2
      = arMagic ++ (arWriteEntries v { st with wroteGlobal := true } es).1 := by
  induction es generalizing st with
  | nil => simp [arWriteEntries, arCloseBytes, hg]
  | cons ec r ih =>
    obtain ⟨e, chunks⟩ := ec
    simp only [arWriteEntries]
    rcases path_cases e with hnp | ⟨c, p, hp⟩
    · -- no name: nothing at all is written, the flag stays down
      have a1 := arWriteEntry_nop v st e chunks _ (arWriteHeader_nopath v st e hnp)
      have a2 := arWriteEntry_nop v { st with wroteGlobal := true } e chunks _
        (arWriteHeader_nopath v { st with wroteGlobal := true } e hnp)
      rw [hg] at a1
      rw [a1, a2]
      simp only [List.nil_append]
      exact ih { wroteGlobal := false, remaining := 0, padding := 0 } rfl
    · -- the global header goes out in front of this member
      have hw := arWriteHeader_flag v st e hg c p hp
      have e1 : (arWriteEntry v st e chunks).2.2.2.1
            = arMagic ++ (arWriteEntry v { st with wroteGlobal := true } e chunks).2.2.2.1 ∧
          (arWriteEntry v st e chunks).2.2.2.2 = (arWriteEntry v { st with wroteGlobal := true } e chunks).2.2.2.2 := by
        unfold arWriteEntry
        simp only [hw, List.append_assoc]
        trivial
      rw [e1.1, e1.2]
      have hcl : arCloseBytes (arWriteEntries v (arWriteEntry v { st with wroteGlobal := true } e chunks).2.2.2.2 r).2
          = [] := by
        unfold arCloseBytes
        rw [arWriteEntries_wroteGlobal v r _ (arWriteEntry_wroteGlobal v _ e chunks (Or.inl rfl))]; rfl
      rw [hcl, List.append_nil, List.append_assoc]

end LA.Codec
