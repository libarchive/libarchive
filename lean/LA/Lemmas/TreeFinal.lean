/-
C12 helper: what `LA.Props.C12` takes from the walk (TreeWalk) and the entry phase (TreeRestore) for the
capture of a well-formed tree, and the link resolver and cpio reader on entry lists without hard links.
-/
import LA.Lemmas.TreeWalk
import LA.Lemmas.TreeClose
import LA.Lemmas.TreeRestore
namespace LA.Tree

theorem entriesOk_of_treeOk {t : Node} (h : TreeOk t) : EntriesOk (capture t) :=
  { nodup := capture_paths_nodup t h.names
    fresh := fun e he => (capture_fresh t e he).1
    leaves := h.leaves, modes := h.modes, links := h.links, counts := h.counts }

theorem toFS_lookup {t : Node} {p : Path} {y : FNode} (h : (toFS t).lookup p = some y) :
    ∃ e ∈ capture t, e.path = p ∧ y = e.fnode := by
  have := lookup_some_mem h
  unfold toFS at this
  obtain ⟨e, he, hey⟩ := List.mem_map.mp this
  simp only [Prod.mk.injEq] at hey
  exact ⟨e, he, hey.1, hey.2.symm⟩

/-- The entry phase over the tar-linkified capture of a well-formed tree. -/
theorem restoreAll_capture (t : Node) (ht : TreeOk t) (o : Opts) (ho : OptsOk o) (dstMode : Nat)
    (hdst : o.root = true ∨ (dstMode &&& 0o200 ≠ 0 ∧ dstMode &&& 0o100 ≠ 0)) :
    linkify .tar (capture t) = tarSpec (capture t) ∧
      P1 o dstMode (capture t) (restoreAll o (emptyDst dstMode) (tarSpec (capture t))).1 ∧
      ∀ s ∈ (restoreAll o (emptyDst dstMode) (tarSpec (capture t))).2, s = .ok := by
  obtain ⟨m, cs, rfl⟩ := ht.isDir
  have hes := entriesOk_of_treeOk ht
  exact ⟨linkify_tar_eq _ hes.linkOk hes.fresh,
    restoreAll_tar o ho dstMode hdst ((Node.dir m cs).entry []) ((Node.dir m cs).inside []) hes rfl rfl
      (capture_parents m cs)⟩

section Cpio
open LA.Lnk

theorem run_all_pt (l : List Entry) (hp : ∀ e ∈ l, e.pt = true) : ∀ (k : Nat) (s : State),
    run s (opsFrom k l) = (s, (List.zipIdx l k).map fun (e, i) => e.toEnt i) := by
  induction l with
  | nil => intro k s; simp [opsFrom, run]
  | cons e rest ih =>
    intro k s
    have hops : opsFrom k (e :: rest) = Op.push (e.toEnt k) :: opsFrom (k + 1) rest := by
      simp [opsFrom, List.zipIdx_cons]
    have hpush : push s (e.toEnt k) = (s, some (e.toEnt k), none) := by
      unfold push
      simp [passthrough_toEnt, hp e (by simp)]
    rw [hops]
    simp only [run, step, hpush, ih (fun x hx => hp x (List.mem_cons_of_mem _ hx)) (k + 1) s]
    simp [List.zipIdx_cons]

theorem filterMap_fromEnt_zipIdx (es : List Entry) (hn : ∀ e ∈ es, e.hardlink = none) :
    ∀ (l : List Entry) (k : Nat), (∀ i e, l[i]? = some e → es[k + i]? = some e) →
      ((List.zipIdx l k).map fun (e, i) => e.toEnt i).filterMap (fromEnt es) = l := by
  intro l
  induction l with
  | nil => intro k _; simp
  | cons e rest ih =>
    intro k h
    have he : es[k]? = some e := by simpa using h 0 e (by simp)
    have hmem : e ∈ es := List.mem_of_getElem? he
    simp only [List.zipIdx_cons, List.map_cons, List.filterMap_cons]
    rw [fromEnt_toEnt es k e he (hn e hmem)]
    simp only [List.cons.injEq, true_and]
    apply ih (k + 1)
    intro i x hx
    have := h (i + 1) x (by simpa using hx)
    rw [← this]; congr 1; omega

/-- When no object has a second name the resolver (any strategy) hands every entry through. -/
theorem linkify_no_links (es : List Entry) (st : Strategy) (h1 : ∀ e ∈ es, e.pt = true)
    (h2 : ∀ e ∈ es, e.hardlink = none) : linkify st es = es := by
  unfold linkify
  have hops : pushOps es = opsFrom 0 es := rfl
  simp only [hops, run_all_pt es h1 0]
  have : (drainLoop { strategy := st } (List.replicate es.length 0)).2 = [] := by
    apply drainLoop_nothing_held
    intro le hle; simp at hle
  rw [this, List.append_nil]
  exact filterMap_fromEnt_zipIdx es h2 es 0 (by intro i e h; simpa using h)

theorem cpioReadLinks_no_links (l : List Entry) (h : ∀ e ∈ l, e.nlink ≤ 1 ∨ e.ftype = .dir) :
    ∀ tbl, cpioReadLinks tbl l = l := by
  induction l with
  | nil => intro tbl; rfl
  | cons e rest ih =>
    intro tbl
    have he := h e (by simp)
    have hc : (decide (e.nlink ≤ 1) || e.ftype == .dir) = true := by
      rcases he with he | he <;> simp [he]
    simp only [cpioReadLinks, hc, if_true]
    rw [ih (fun x hx => h x (List.mem_cons_of_mem _ hx))]

end Cpio

end LA.Tree
