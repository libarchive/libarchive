/-
Programs over system calls, and ways of speaking about them.  `AllCalls P m`:
every call `m` can issue (whatever the earlier calls returned) satisfies `P`;
`AllRets P m`: every value `m` can return satisfies `P`; `Triple P m Q`: run
from a state in `P`, `m` ends with a value and a state in `Q`.  The first two
are read off the program text (`Spec P Q m`: both in one pass); a state assertion kept
by the `P`-calls is kept by running a program whose calls are all `P`-calls.
-/
import LA.Model.Extract
import LA.Lemmas.FSCalls
namespace LA.Xtr
open LA.FS LA.PathClean

theorem run_bind {α β} (m : Prog α) (f : α → Prog β) (pr : Proc) :
    (m >>= f).run pr = (f (m.run pr).1).run (m.run pr).2 := by
  induction m generalizing pr with
  | ret a => rfl
  | call s k ih => exact ih _ _

@[simp] theorem run_pure {α} (a : α) (pr : Proc) : (pure a : Prog α).run pr = (a, pr) := rfl

theorem run_sys (s : Sys) (pr : Proc) : (sys s).run pr = exec s pr := rfl

def AllCalls {α : Type} (P : Sys → Prop) : Prog α → Prop
  | .ret _ => True
  | .call s k => P s ∧ ∀ r, AllCalls P (k r)

@[simp] theorem allCalls_ret {α} (P : Sys → Prop) (a : α) : AllCalls P (Prog.ret a) = True := rfl
@[simp] theorem allCalls_pure {α} (P : Sys → Prop) (a : α) : AllCalls P (pure a : Prog α) = True := rfl

theorem allCalls_bind {α β} {P : Sys → Prop} {m : Prog α} {f : α → Prog β}
    (hm : AllCalls P m) (hf : ∀ a, AllCalls P (f a)) : AllCalls P (m >>= f) := by
  induction m with
  | ret a => exact hf a
  | call s k ih => exact ⟨hm.1, fun r => ih r (hm.2 r)⟩

theorem allCalls_sys {P : Sys → Prop} {s : Sys} (h : P s) : AllCalls P (sys s) := ⟨h, fun _ => trivial⟩

/-- A call whose result is only tested: every continuation ends at once. -/
theorem allCalls_sys_bind {α} {P : Sys → Prop} {s : Sys} {f : R → Prog α} (h : P s)
    (hf : ∀ r, AllCalls P (f r)) : AllCalls P (sys s >>= f) := ⟨h, hf⟩

theorem allCalls_ite {α} {P : Sys → Prop} {b : Prop} [Decidable b] {m1 m2 : Prog α}
    (h1 : AllCalls P m1) (h2 : AllCalls P m2) : AllCalls P (if b then m1 else m2) := by
  split
  · exact h1
  · exact h2

theorem allCalls_true {α} (m : Prog α) : AllCalls (fun _ => True) m := by
  induction m with
  | ret a => trivial
  | call s k ih => exact ⟨trivial, ih⟩

/-- An assertion kept by every `P`-call is kept by a program all of whose calls are `P`-calls. -/
theorem run_allCalls {α} {I : Proc → Prop} {P : Sys → Prop} (hP : ∀ s pr, P s → I pr → I (exec s pr).2)
    {m : Prog α} (hm : AllCalls P m) {pr : Proc} (hI : I pr) : I (m.run pr).2 := by
  induction m generalizing pr with
  | ret a => exact hI
  | call s k ih => exact ih _ (hm.2 _) (hP s pr hm.1 hI)

def AllRets {α : Type} (P : α → Prop) : Prog α → Prop
  | .ret a => P a
  | .call _ k => ∀ r, AllRets P (k r)

theorem allRets_pure {α} {P : α → Prop} {a : α} (h : P a) : AllRets P (pure a : Prog α) := h

theorem run_allRets {α} {P : α → Prop} {m : Prog α} (h : AllRets P m) (pr : Proc) : P (m.run pr).1 := by
  induction m generalizing pr with
  | ret a => exact h
  | call s k ih => exact ih _ (h _) _

/-! ### calls and returned values, read off the program text in one pass -/

def Spec {α : Type} (P : Sys → Prop) (Q : α → Prop) : Prog α → Prop
  | .ret a => Q a
  | .call s k => P s ∧ ∀ r, Spec P Q (k r)

theorem Spec.calls {α} {P : Sys → Prop} {Q : α → Prop} {m : Prog α} (h : Spec P Q m) : AllCalls P m := by
  induction m with
  | ret a => trivial
  | call s k ih => exact ⟨h.1, fun r => ih r (h.2 r)⟩

theorem Spec.rets {α} {P : Sys → Prop} {Q : α → Prop} {m : Prog α} (h : Spec P Q m) : AllRets Q m := by
  induction m with
  | ret a => exact h
  | call s k ih => exact fun r => ih r (h.2 r)

theorem spec_of_allCalls {α} {P : Sys → Prop} {m : Prog α} (h : AllCalls P m) : Spec P (fun _ => True) m := by
  induction m with
  | ret a => trivial
  | call s k ih => exact ⟨h.1, fun r => ih r (h.2 r)⟩

theorem spec_bind {α β} {P : Sys → Prop} {Q' : α → Prop} {Q : β → Prop} {m : Prog α} {f : α → Prog β}
    (hm : Spec P Q' m) (hf : ∀ a, Q' a → Spec P Q (f a)) : Spec P Q (m >>= f) := by
  induction m with
  | ret a => exact hf a hm
  | call s k ih => exact ⟨hm.1, fun r => ih r (hm.2 r)⟩

theorem spec_sys_bind {α} {P : Sys → Prop} {Q : α → Prop} {s : Sys} {f : R → Prog α} (h : P s)
    (hf : ∀ r, Spec P Q (f r)) : Spec P Q (sys s >>= f) := ⟨h, hf⟩

theorem spec_ite {α} {P : Sys → Prop} {Q : α → Prop} {b : Prop} [Decidable b] {m1 m2 : Prog α}
    (h1 : Spec P Q m1) (h2 : Spec P Q m2) : Spec P Q (if b then m1 else m2) := by
  split
  · exact h1
  · exact h2

def Triple {α} (P : Proc → Prop) (m : Prog α) (Q : α → Proc → Prop) : Prop :=
  ∀ pr, P pr → Q (m.run pr).1 (m.run pr).2

theorem triple_pure {α} {P : Proc → Prop} {Q : α → Proc → Prop} {a : α} (h : ∀ pr, P pr → Q a pr) :
    Triple P (pure a) Q := fun pr hp => h pr hp

theorem triple_skip {α} {P : Proc → Prop} {a : α} : Triple P (pure a) (fun _ => P) := fun _ hp => hp

theorem triple_bind {α β} {P : Proc → Prop} {m : Prog α} {Q : α → Proc → Prop} {f : α → Prog β}
    {R : β → Proc → Prop} (h1 : Triple P m Q) (h2 : ∀ a, Triple (Q a) (f a) R) : Triple P (m >>= f) R := by
  intro pr hp
  rw [run_bind]
  exact h2 _ _ (h1 pr hp)

theorem triple_conseq {α} {P P' : Proc → Prop} {m : Prog α} {Q Q' : α → Proc → Prop}
    (hP : ∀ pr, P' pr → P pr) (h : Triple P m Q) (hQ : ∀ a pr, Q a pr → Q' a pr) : Triple P' m Q' :=
  fun pr hp => hQ _ _ (h pr (hP pr hp))

/-- A fact about the value at hand that came with the pre-condition. -/
theorem triple_assume {α} {φ : Prop} {P : Proc → Prop} {m : Prog α} {Q : α → Proc → Prop}
    (h : φ → Triple P m Q) : Triple (fun pr => P pr ∧ φ) m Q := fun pr hp => h hp.2 pr hp.1

theorem triple_sys {P : Proc → Prop} {s : Sys} {Q : R → Proc → Prop}
    (h : ∀ pr, P pr → Q (exec s pr).1 (exec s pr).2) : Triple P (sys s) Q := h

theorem triple_sys_keep {P : Proc → Prop} {s : Sys} (h : ∀ pr, P pr → P (exec s pr).2) :
    Triple P (sys s) (fun _ => P) := h

theorem triple_ite {α} {P : Proc → Prop} {Q : α → Proc → Prop} {b : Prop} [Decidable b] {m1 m2 : Prog α}
    (h1 : b → Triple P m1 Q) (h2 : ¬ b → Triple P m2 Q) : Triple P (if b then m1 else m2) Q := by
  split
  · exact h1 ‹_›
  · exact h2 ‹_›

theorem triple_of_allCalls {α} {I : Proc → Prop} {C : Sys → Prop} (hC : ∀ s pr, C s → I pr → I (exec s pr).2)
    {m : Prog α} (hm : AllCalls C m) : Triple I m (fun _ => I) := fun _ hp => run_allCalls hC hm hp

theorem triple_of_spec {α} {I : Proc → Prop} {C : Sys → Prop} {Q : α → Prop}
    (hC : ∀ s pr, C s → I pr → I (exec s pr).2) {m : Prog α} (hm : Spec C Q m) :
    Triple I m (fun r pr' => I pr' ∧ Q r) :=
  fun pr hp => ⟨run_allCalls hC hm.calls hp, run_allRets hm.rets pr⟩

theorem triple_and {α} {P P' : Proc → Prop} {m : Prog α} {Q Q' : α → Proc → Prop}
    (h : Triple P m Q) (h' : Triple P' m Q') : Triple (fun pr => P pr ∧ P' pr) m (fun r pr' => Q r pr' ∧ Q' r pr') :=
  fun pr hp => ⟨h pr hp.1, h' pr hp.2⟩

end LA.Xtr
