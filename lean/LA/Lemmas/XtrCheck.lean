/-
Helper lemmas for C04: `check_symlinks_fsobj` (the component loop
`LA.Xtr.checkLoop`) on a tree.
-/
import LA.Lemmas.XtrHoare
import LA.Lemmas.PathFam
namespace LA.Xtr
open LA.FS LA.PathClean

/-- A real name: not empty, no '/', not "." or "..". -/
def GoodName (c : Name) : Prop := c ≠ [] ∧ (∀ x ∈ c, x ≠ SLASH) ∧ c ≠ DOTN ∧ c ≠ DOTDOTN

theorem good_single {c : Name} (h : GoodName c) : Good c := by
  intro x hx
  rw [splitSlash_clean h.2.1] at hx
  simp at hx; subst hx
  exact ⟨h.1, h.2.2.1, h.2.2.2⟩

theorem compsOf_single {c : Name} (h : GoodName c) : compsOf c = [c] := by
  rw [compsOf_good (good_single h), splitSlash_clean h.2.1]

theorem rel_single {c : Name} (h : GoodName c) : Rel c := rel_good (good_single h)

theorem locate_single (fs : FS) (D : List Name) {c : Name} (h : GoodName c) :
    locate0 fs D c = match get fs.root D with
      | some (.dir ..) => if c.length > nameMax then .error .ENAMETOOLONG else .ok (.entry D c)
      | some (.file _) => .error .ENOTDIR
      | none => .error .ENOENT := by
  rw [locate0_rel fs D (rel_single h) (i := []) (compsOf_single h), walk]
  rfl

/-- `fstatat(dfd, c, AT_SYMLINK_NOFOLLOW)` on a single name, in a directory. -/
theorem lookup_single (fs : FS) (D : List Name) {c : Name} (h : GoodName c) {tD : Tree}
    (hD : get fs.root D = some tD) (hdir : tD.isDir = true) :
    lookupNoFollow fs D c =
      if c.length > nameMax then .error .ENAMETOOLONG
      else match tD.child c with
        | some t => .ok (D ++ [c], t)
        | none => .error .ENOENT := by
  unfold lookupNoFollow
  by_cases hbig : c.length ≥ pathMax
  · have : c.length > nameMax := by unfold pathMax at hbig; unfold nameMax; omega
    simp only [locate, hbig, if_true, this]
  rw [locate_of_lt (by omega), locate_single fs D h, hD]
  cases tD with
  | file i => simp [Tree.isDir] at hdir
  | dir m mt es =>
    by_cases hl : c.length > nameMax
    · simp [hl]
    · simp only [hl, if_false, hD, Option.bind_some]
      cases (Tree.dir m mt es).child c <;> rfl

/-- The components between `head` and the current one: the first of them is
absent from the directory the descriptor is on, or a non-directory that is not a symlink. -/
def HdInv (pr : Proc) (D : List Name) (hd : List Name) : Prop :=
  hd = [] ∨ ∃ h hd', hd = h :: hd' ∧ ∀ tD, get pr.fs.root D = some tD →
    (tD.child h = none ∨ ∃ t, tD.child h = some t ∧ t.isDir = false ∧ isLnk pr.fs t = false)

theorem good_join {L : List Name} (hL : L ≠ []) (h : ∀ x ∈ L, GoodName x) : Good (joinSlash L) := by
  intro x hx
  rw [split_join L hL (fun c hc => (h c hc).2.1)] at hx
  exact ⟨(h x hx).1, (h x hx).2.2.1, (h x hx).2.2.2⟩

theorem compsOf_join {L : List Name} (hL : L ≠ []) (h : ∀ x ∈ L, GoodName x) : compsOf (joinSlash L) = L := by
  rw [compsOf_good (good_join hL h), split_join L hL (fun c hc => (h c hc).2.1)]

/-- `fstatat(dfd, c, …)` when the descriptor is not on a directory (any more). -/
theorem lookup_single_nodir (fs : FS) (D : List Name) {c : Name} (h : GoodName c)
    (hD : ∀ t, get fs.root D = some t → t.isDir = false) : ∃ e, lookupNoFollow fs D c = .error e := by
  unfold lookupNoFollow
  by_cases hbig : c.length ≥ pathMax
  · exact ⟨.ENAMETOOLONG, by simp only [locate, hbig, if_true]⟩
  rw [locate_of_lt (by omega), locate_single fs D h]
  cases hg : get fs.root D with
  | none => exact ⟨_, rfl⟩
  | some t =>
    cases t with
    | file i => exact ⟨_, rfl⟩
    | dir m mt es => have := hD _ hg; simp [Tree.isDir] at this

theorem noLinkT_file (fs : FS) (i : Nat) (cs : List Name) : NoLinkT fs (.file i) cs := by
  cases cs with
  | nil => trivial
  | cons c r => simp [NoLinkT, Tree.child]

/-- The descent stops at a name that is absent, or a non-directory that is not a symlink. -/
theorem noLinkT_blocked {fs : FS} {tD : Tree} {h : Name}
    (hb : tD.child h = none ∨ ∃ t, tD.child h = some t ∧ t.isDir = false ∧ isLnk fs t = false) (tl : List Name) :
    NoLinkT fs tD (h :: tl) := by
  rcases hb with hn | ⟨t, ht, htd, htl⟩
  · exact noLinkT_cons_none _ hn
  · rw [noLinkT_cons _ ht, if_neg (by simp [htd])]; exact htl

theorem noLinkAt_of_get {fs : FS} {D cs : List Name} {tD : Tree} (hD : get fs.root D = some tD)
    (h : NoLinkT fs tD cs) : NoLinkAt fs D cs :=
  fun _ ht => Option.some.inj (hD.symm.trans ht) ▸ h

/-- What `fstatat(dfd, c, AT_SYMLINK_NOFOLLOW)` on a single name finds: the entry `c` of the directory the
descriptor is on; or an error, which is ENOENT only if no descent from there gets past `c`. -/
theorem lookup_single_cases (fs : FS) (D : List Name) {c : Name} (h : GoodName c) :
    (∃ e, lookupNoFollow fs D c = .error e ∧ (e = .ENOENT → ∀ tl, NoLinkAt fs D (c :: tl))) ∨
    (∃ m mt es t, get fs.root D = some (.dir m mt es) ∧ ¬ c.length > nameMax ∧
      (Tree.dir m mt es).child c = some t ∧ lookupNoFollow fs D c = .ok (D ++ [c], t)) := by
  cases hD : get fs.root D with
  | none =>
    obtain ⟨e, he⟩ := lookup_single_nodir fs D h (fun t ht => by rw [hD] at ht; cases ht)
    exact .inl ⟨e, he, fun _ _ t ht => by rw [hD] at ht; cases ht⟩
  | some tD =>
    cases tD with
    | file i =>
      obtain ⟨e, he⟩ := lookup_single_nodir fs D h (fun t ht => by cases hD.symm.trans ht; rfl)
      exact .inl ⟨e, he, fun _ _ => noLinkAt_of_get hD (noLinkT_file _ _ _)⟩
    | dir m mt es =>
      have hlk := lookup_single fs D h hD rfl
      by_cases hlen : c.length > nameMax
      · rw [if_pos hlen] at hlk
        exact .inl ⟨_, hlk, nofun⟩
      · rw [if_neg hlen] at hlk
        cases hch : (Tree.dir m mt es).child c with
        | none =>
          rw [hch] at hlk
          exact .inl ⟨_, hlk, fun _ _ => noLinkAt_of_get hD (noLinkT_cons_none _ hch)⟩
        | some t =>
          rw [hch] at hlk
          exact .inr ⟨m, mt, es, t, rfl, hlen, hch, hlk⟩

/-- With a non-empty `hd` the `fstatat` cannot succeed: the walk along `hd` would end below a name
that is absent or not a directory. -/
theorem lookup_hd_err (pr : Proc) (D : List Name) (h : Name) (hd' : List Name) (cc : Name)
    (hg : ∀ x ∈ (h :: hd') ++ [cc], GoodName x)
    (hinv : ∀ tD, get pr.fs.root D = some tD →
      (tD.child h = none ∨ ∃ t, tD.child h = some t ∧ t.isDir = false ∧ isLnk pr.fs t = false)) :
    ∃ e, lookupNoFollow pr.fs D (joinSlash ((h :: hd') ++ [cc])) = .error e := by
  have hne : (h :: hd') ++ [cc] ≠ [] := by simp
  have hR := rel_good (good_join hne hg)
  have hinit : initOf (joinSlash ((h :: hd') ++ [cc])) = h :: hd' := by
    rw [initOf, compsOf_join hne hg, List.dropLast_concat]
  unfold lookupNoFollow
  cases hl : locate pr.fs D (joinSlash ((h :: hd') ++ [cc])) with
  | error e => exact ⟨e, rfl⟩
  | ok loc =>
    exfalso
    obtain ⟨d, n, _, _, hw, ⟨t, ht, htd⟩, _⟩ := locate_rel_ok hR hl
    rw [hinit] at hw
    have hnd : NoDots (h :: hd') := fun x hx => (hg x (List.mem_append_left _ hx)).2.2
    have hnl : NoLinkAt pr.fs D (h :: hd') := fun tD hD => noLinkT_blocked (hinv tD hD) hd'
    rw [walk_noLinkAt hnd hnl hw, get_append] at ht
    cases hD : get pr.fs.root D with
    | none => simp [hD] at ht
    | some tD =>
      simp only [hD, Option.bind_some, get_cons] at ht
      rcases hinv tD hD with hn | ⟨t', ht', htd', _⟩
      · simp [hn] at ht
      · cases hd' with
        | nil => simp [ht'] at ht; exact absurd (ht ▸ htd) (by simp [htd'])
        | cons x r => simp [ht', get_cons, child_none_of_file htd'] at ht

structure LoopPost (c : Ctx) (D : List Name) (target : List Name) (pr : Proc) (r : St) (pr' : Proc) : Prop where
  keep : ∀ q', Sem c q' pr → Sem c q' pr'
  dfd : ∃ D', pr'.dfd = some D'
  dirs : ∀ P t, P <+: D → get pr.fs.root P = some t → t.isDir = true →
    ∃ t', get pr'.fs.root P = some t' ∧ t'.isDir = true
  sound : r = .ok → NoLinkAt pr'.fs D target

theorem loopPost_refl (c : Ctx) (D target : List Name) (pr : Proc) (r : St) (hd : ∃ D', pr.dfd = some D')
    (hs : r = .ok → NoLinkAt pr.fs D target) : LoopPost c D target pr r pr :=
  ⟨fun _ h => h, hd, fun _ t _ h1 h2 => ⟨t, h1, h2⟩, hs⟩

/-- `unlinkat(dfd, c, 0)` of a non-directory entry of the directory the descriptor is on. -/
theorem doUnlink_single (pr : Proc) (D : List Name) {cc : Name} (hc : GoodName cc) (hl : ¬ cc.length > nameMax)
    {tD : Tree} (hD : get pr.fs.root D = some tD) (hdir : tD.isDir = true) {i : Nat}
    (hch : tD.child cc = some (.file i)) :
    doUnlink pr D cc = (.ok, { pr with fs := delAt pr.fs D cc }) := by
  unfold doUnlink
  rw [locate_of_lt (by unfold pathMax; unfold nameMax at hl; omega), locate_single pr.fs D hc, hD]
  cases tD with
  | file j => simp [Tree.isDir] at hdir
  | dir m mt es =>
    simp only [hl, if_false, hD, Option.bind_some, hch]

theorem dirs_delAt (fs : FS) (D : List Name) (n : Name) (P : List Name) (t : Tree) (hP : P <+: D)
    (h1 : get fs.root P = some t) (h2 : t.isDir = true) :
    ∃ t', get (delAt fs D n).root P = some t' ∧ t'.isDir = true := by
  obtain ⟨r, rfl⟩ := hP
  simp only [delAt]
  rw [get_modify_prefix, h1]
  exact ⟨_, rfl, by rw [isDir_modify _ (shapeKeeping_del_touch n)]; exact h2⟩

/-- After `unlinkat(dfd, c, 0)` the directory has no entry `c`. -/
theorem child_delAt {fs : FS} {D : List Name} {n : Name} {t : Tree} (h : get (delAt fs D n).root D = some t) :
    t.child n = none := by
  rw [delAt, get_modify_same] at h
  obtain ⟨t0, _, rfl⟩ := Option.map_eq_some_iff.mp h
  simp [child_del]

def loopTarget (ln : Bool) (l : List Name) : List Name := if ln then l.dropLast else l

theorem loopTarget_cons (ln : Bool) (cc : Name) (rest : List Name) :
    loopTarget ln (cc :: rest) = [] ∨ loopTarget ln (cc :: rest) = cc :: loopTarget ln rest := by
  unfold loopTarget
  cases ln with
  | false => exact .inr rfl
  | true =>
    cases rest with
    | nil => exact .inl rfl
    | cons c2 r => exact .inr rfl

theorem noLinkAt_target {fs : FS} {D : List Name} {cc : Name} (ln : Bool) (rest : List Name)
    (h : NoLinkAt fs D (cc :: loopTarget ln rest)) : NoLinkAt fs D (loopTarget ln (cc :: rest)) := by
  rcases loopTarget_cons ln cc rest with h0 | h1
  · rw [h0]; exact fun _ _ => trivial
  · rw [h1]; exact h

theorem loopPost_trans {c : Ctx} {D D2 : List Name} {tg tg2 : List Name} {pr pr1 pr2 : Proc} {r r2 : St}
    (h1k : ∀ q', Sem c q' pr → Sem c q' pr1)
    (h1d : ∀ P t, P <+: D → get pr.fs.root P = some t → t.isDir = true →
      ∃ t', get pr1.fs.root P = some t' ∧ t'.isDir = true)
    (hDD : D <+: D2)
    (h2 : LoopPost c D2 tg2 pr1 r2 pr2)
    (hs : r = .ok → NoLinkAt pr2.fs D tg) : LoopPost c D tg pr r pr2 :=
  ⟨fun q' h => h2.keep q' (h1k q' h), h2.dfd,
   fun P t hP ht hd => by
     obtain ⟨t1, ht1, hd1⟩ := h1d P t hP ht hd
     exact h2.dirs P t1 (List.IsPrefix.trans hP hDD) ht1 hd1,
   hs⟩

theorem lookupFollow_single_dir (fs : FS) (D : List Name) {cc : Name} (hgc : GoodName cc)
    (hlen : ¬ cc.length > nameMax) {m : Nat} {mt : Int} {es : List (Name × Tree)}
    (hD : get fs.root D = some (.dir m mt es)) {m' : Nat} {mt' : Int} {es' : List (Name × Tree)}
    (hch : (Tree.dir m mt es).child cc = some (.dir m' mt' es')) :
    lookupFollow fs D cc = .ok (D ++ [cc], .dir m' mt' es') := by
  have hg := good_single hgc
  have hget : get fs.root (D ++ [cc]) = some (.dir m' mt' es') := by rw [get_snoc, hD]; exact hch
  rw [lookupFollow_of_lt (by unfold pathMax; unfold nameMax at hlen; omega)]
  unfold lookupFollow0
  simp only [hg.ne_nil, if_false, isAbs_good hg, compsOf_single hgc, Bool.false_eq_true]
  rw [walk]
  simp only [hD, hgc.2.2.1, hgc.2.2.2, if_false, hlen, hch]
  rw [walk]
  simp only [hget, trailingSlash_good hg, Bool.false_and, Bool.false_eq_true, if_false]

theorem checkLoop_spec (c : Ctx) (fl : XFlags) (hsec : fl.secureSymlinks = true) (ln : Bool) :
    ∀ (l hd : List Name) (D : List Name) (pr : Proc), l ≠ [] →
      (∀ x ∈ hd ++ l, GoodName x) → pr.dfd = some D → HdInv pr D hd →
      LoopPost c D (loopTarget ln (hd ++ l)) pr
        ((checkLoop fl ln hd l).run pr).1 ((checkLoop fl ln hd l).run pr).2 := by
  intro l
  induction l with
  | nil => intro _ _ _ h; exact absurd rfl h
  | cons cc rest ih =>
    intro hd D pr _ hg hdfd hinv
    rw [checkLoop]
    simp only [run_bind, run_sys]
    simp only [exec, hdfd]
    have hgc : GoodName cc := hg cc (by simp)
    rcases hinv with rfl | ⟨h, hd', rfl, hinv⟩
    · -- head = current component: the descriptor is on the directory that holds `cc`
      simp only [List.nil_append, joinSlash]
      rcases lookup_single_cases pr.fs D hgc with ⟨e, he, hs⟩ | ⟨m, mt, es, t, hD, hlen, hch, hlk⟩
      · simp only [he, statR]
        cases e <;> exact loopPost_refl c D _ pr _ ⟨D, hdfd⟩
          fun hr => noLinkAt_target ln rest (hs (by cases hr <;> rfl) _)
      simp only [hlk, statR]
      cases t with
      | dir m' mt' es' =>
        simp only [statOfTree]
        cases rest with
        | nil =>
          simp only [List.isEmpty_nil, Bool.not_true, Bool.false_eq_true, if_false, run_pure]
          refine loopPost_refl c D _ pr _ ⟨D, hdfd⟩ fun _ => noLinkAt_target ln [] (noLinkAt_of_get hD ?_)
          rw [noLinkT_cons _ hch, if_pos (show (Tree.dir m' mt' es').isDir = true from rfl)]
          cases ln <;> trivial
        | cons c2 rest' =>
          simp only [List.isEmpty_cons, Bool.not_false, if_true, run_bind, run_sys]
          have hlf := lookupFollow_single_dir pr.fs D hgc hlen hD hch
          simp only [exec, hdfd, hlf]
          have hpost := ih [] (D ++ [cc]) { pr with dfd := some (D ++ [cc]) } (by simp)
            (fun x hx => hg x (by simp at hx ⊢; right; exact hx)) rfl (Or.inl rfl)
          refine loopPost_trans (pr1 := { pr with dfd := some (D ++ [cc]) }) ?_ ?_
            (List.prefix_append D [cc]) hpost ?_
          · intro q' hS
            exact sem_setDfd hS _ (fun d hd => by
              simp at hd; subst hd
              exact List.IsPrefix.trans (hS.inv.dfd D hdfd) (List.prefix_append _ _))
          · intro P t _ h1 h2; exact ⟨t, h1, h2⟩
          · intro hr
            obtain ⟨t', ht', hd'⟩ := hpost.dirs (D ++ [cc]) (.dir m' mt' es') (List.prefix_refl _)
              (by rw [get_snoc, hD]; exact hch) rfl
            refine noLinkAt_target ln _ fun tD2 htD2 => ?_
            have hc2 : tD2.child cc = some t' := by
              rw [get_snoc, htD2] at ht'; exact ht'
            rw [noLinkT_cons _ hc2, if_pos hd']
            exact hpost.sound hr t' ht'
      | file i =>
        simp only [statOfTree]
        cases hf : pr.fs.files i with
        | none =>
          exact loopPost_refl c D _ pr _ ⟨D, hdfd⟩ (fun h => by simp at h)
        | some nd =>
          have hun := doUnlink_single pr D hgc hlen hD rfl hch
          have hkeepDel : ∀ q', Sem c q' pr → Sem c q' { pr with fs := delAt pr.fs D cc } := by
            intro q' hS
            obtain ⟨r, hr⟩ := hS.inv.dfd D hdfd
            subst hr
            exact sem_delAt hS r cc
          cases nd with
          | lnk tg =>
            cases rest with
            | nil =>
              cases ln with
              | true =>
                simp only [List.isEmpty_nil, Bool.and_self, if_true, run_pure]
                exact loopPost_refl c D _ pr _ ⟨D, hdfd⟩ fun _ _ _ => trivial
              | false =>
                simp only [List.isEmpty_nil, Bool.and_false, Bool.false_eq_true, if_false, if_true,
                  run_bind, run_sys]
                simp only [exec, hdfd, hun, run_pure]
                simp only [← hdfd]
                exact ⟨hkeepDel, ⟨D, hdfd⟩, fun P t hP h1 h2 => dirs_delAt pr.fs D cc P t hP h1 h2,
                  fun _ => noLinkAt_target false [] fun _ ht => noLinkT_cons_none _ (child_delAt ht)⟩
            | cons c2 rest' =>
              simp only [List.isEmpty_cons, Bool.false_and, Bool.false_eq_true, if_false]
              cases hu : fl.unlink with
              | false =>
                simp only [hsec, Bool.not_true, Bool.false_eq_true, if_false, run_pure]
                exact loopPost_refl c D _ pr _ ⟨D, hdfd⟩ (fun h => by simp at h)
              | true =>
                simp only [if_true, run_bind, run_sys]
                simp only [exec, hdfd, hun]
                simp only [← hdfd]
                have hpost := ih [cc] D { pr with fs := delAt pr.fs D cc } (by simp)
                  (fun x hx => hg x (by simpa using hx)) hdfd
                  (Or.inr ⟨cc, [], rfl, fun _ ht => .inl (child_delAt ht)⟩)
                exact loopPost_trans hkeepDel
                  (fun P t hP h1 h2 => dirs_delAt pr.fs D cc P t hP h1 h2)
                  (List.prefix_refl D) hpost hpost.sound
          | reg _ _ _ | fifo _ _ =>
            have hnl : ∃ t, (Tree.dir m mt es).child cc = some t ∧ t.isDir = false ∧ isLnk pr.fs t = false :=
              ⟨_, hch, rfl, by simp [isLnk, hf]⟩
            cases rest with
            | nil =>
              simp only [List.isEmpty_nil, if_true, run_pure]
              exact loopPost_refl c D _ pr _ ⟨D, hdfd⟩
                fun _ => noLinkAt_target ln [] (noLinkAt_of_get hD (noLinkT_blocked (.inr hnl) _))
            | cons c2 rest' =>
              simp only [List.isEmpty_cons, Bool.false_eq_true, if_false]
              exact ih [cc] D pr (by simp) (fun x hx => hg x (by simpa using hx)) hdfd
                (Or.inr ⟨cc, [], rfl, fun _ ht => Option.some.inj (hD.symm.trans ht) ▸ .inr hnl⟩)
    · -- head is behind: the `fstatat` fails, nothing is touched
      obtain ⟨e, he⟩ := lookup_hd_err pr D h hd' cc (fun x hx => hg x (by simp at hx ⊢; rcases hx with hx | hx | hx <;> simp [hx])) hinv
      simp only [he, statR]
      have hs : NoLinkAt pr.fs D (loopTarget ln (h :: hd' ++ cc :: rest)) :=
        noLinkAt_target ln _ fun tD hD => noLinkT_blocked (hinv tD hD) _
      cases e <;> exact loopPost_refl c D _ pr _ ⟨D, hdfd⟩ (fun _ => hs)

theorem goodNames_of_good {q : List Nat} (h : Good q) : ∀ x ∈ compsOf q, GoodName x := by
  intro x hx
  rw [compsOf_good h] at hx
  exact ⟨(h x hx).1, split_noslash q x hx, (h x hx).2.1, (h x hx).2.2⟩

/-- `check_symlinks_fsobj` on a cleaned path other than ".". -/
theorem checkSymlinks_spec (c : Ctx) (fl : XFlags) (hsec : fl.secureSymlinks = true) (ln : Bool)
    (q : List Nat) (hq : Good q) (pr : Proc) :
    (∀ q', Sem c q' pr → Sem c q' ((checkSymlinks fl ln q).run pr).2) ∧
    (((checkSymlinks fl ln q).run pr).1 = .ok →
      NoLinkAt ((checkSymlinks fl ln q).run pr).2.fs pr.cwd (loopTarget ln (compsOf q))) := by
  unfold checkSymlinks
  simp only [hq.ne_nil, if_false, isAbs_good hq, Bool.false_eq_true, run_bind, run_sys, exec, run_pure]
  have hne : compsOf q ≠ [] := (rel_good hq).ne
  have hpost := checkLoop_spec c fl hsec ln (compsOf q) [] pr.cwd { pr with dfd := some pr.cwd } hne
    (by simpa using goodNames_of_good hq) rfl (Or.inl rfl)
  simp only [List.nil_append] at hpost
  refine ⟨?_, ?_⟩
  · intro q' hS
    have h1 : Sem c q' { pr with dfd := some pr.cwd } :=
      sem_setDfd hS _ (fun d hd => by simp at hd; subst hd; rw [hS.inv.cwd]; exact List.prefix_refl _)
    exact sem_setDfd (hpost.keep q' h1) none (fun _ h => by simp at h)
  · intro hr
    exact hpost.sound hr

theorem lookup_dot_isDir (fs : FS) (D : List Name) {pos : List Name} {t : Tree}
    (h : lookupNoFollow fs D [DOT] = .ok (pos, t)) : t.isDir = true := by
  unfold lookupNoFollow at h
  rw [locate_of_lt (by decide), locate0_dot] at h
  cases hg : get fs.root D with
  | none => simp [hg] at h
  | some tD =>
    cases tD with
    | file i => simp [hg] at h
    | dir m mt es => simp only [hg, Except.ok.injEq, Prod.mk.injEq] at h; rw [← h.2]; rfl

/-- `check_symlinks_fsobj(".")` only looks. -/
theorem checkSymlinks_dot (c : Ctx) (fl : XFlags) (ln : Bool) (pr : Proc) :
    ∀ q', Sem c q' pr → Sem c q' ((checkSymlinks fl ln [DOT]).run pr).2 := by
  intro q' hS
  have e : compsOf [DOT] = [DOTN] := by decide
  unfold checkSymlinks
  simp only [show ([DOT] : List Nat) ≠ [] by decide, if_false, show isAbs [DOT] = false by decide,
    Bool.false_eq_true, run_bind, run_sys, exec, run_pure, e]
  rw [checkLoop]
  simp only [run_bind, run_sys, exec, List.nil_append, joinSlash]
  have hfin : ∀ (r : St) (p2 : Proc), p2 = { pr with dfd := some pr.cwd } →
      Sem c q' { ((pure r : Prog St).run p2).2 with dfd := none } := by
    intro r p2 hp
    subst hp
    exact sem_setDfd hS none (fun _ h => by simp at h)
  cases hl : lookupNoFollow pr.fs pr.cwd DOTN with
  | error e =>
    simp only [statR]
    cases e <;> exact hfin _ _ rfl
  | ok pt =>
    obtain ⟨pos, t⟩ := pt
    have hd := lookup_dot_isDir pr.fs pr.cwd hl
    cases t with
    | file i => simp [Tree.isDir] at hd
    | dir m mt es =>
      simp only [statR, statOfTree, List.isEmpty_nil, Bool.not_true, Bool.false_eq_true, if_false]
      exact hfin _ _ rfl

end LA.Xtr
