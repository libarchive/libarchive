/-
The control flow of `uudecode_filter_read` on a stream made of well-formed
lines: whatever the read-ahead windows are, the filter hands out exactly the
bytes the lines decode to.  The stream is described line by line (`Item`); the
codec-specific facts live in `LA/Lemmas/UuCodec.lean`.
-/
import LA.Lemmas.UuCodec
namespace LA.UuRead
open LA.Gen.UuTables

/-! ### `get_line` on printable text -/

theorem getLine_prefix : ∀ (body : List Nat) (a : Nat) (rest : List Nat), Printable body → a ≤ body.length →
    getLine a (body ++ rest) = (some a, 0)
  | _, 0, _, _, _ => by simp [getLine]
  | [], a + 1, _, _, h => by simp at h
  | c :: r, a + 1, rest, hp, h => by
    have hc : cls c = 1 := cls_printable (hp c (by simp))
    have ih := getLine_prefix r a rest (fun x hx => hp x (by simp [hx])) (by simpa using h)
    simp [getLine, hc, ih]

theorem getLine_line : ∀ (body : List Nat) (a : Nat) (tail : List Nat), Printable body → body.length < a →
    getLine a (body ++ 10 :: tail) = (some (body.length + 1), 1)
  | [], a + 1, tail, _, _ => by simp [getLine, cls]
  | [], 0, _, _, h => by simp at h
  | c :: rest, 0, _, _, h => by simp at h
  | c :: rest, a + 1, tail, hp, h => by
    have hc : cls c = 1 := cls_printable (hp c (by simp))
    have ih := getLine_line rest a tail (fun x hx => hp x (by simp [hx])) (by simpa using h)
    simp [getLine, hc, ih]

/-! ### streams described line by line -/

/-- One line of the stream and what the filter is expected to do with it. -/
structure Item where
  body : List Nat          -- without the terminating '\n'
  ph : Phase               -- state in which the line is met
  ph' : Phase              -- state afterwards
  out : List Nat           -- bytes it decodes to
  mdf : Meta → Meta        -- effect on `mode` / `name`

def Item.line (it : Item) : List Nat := it.body ++ [10]
def Item.len (it : Item) : Nat := it.body.length + 1

def text (items : List Item) : List Nat := (items.map Item.line).flatten
def outs (items : List Item) : List Nat := (items.map (·.out)).flatten

@[simp] theorem text_nil : text [] = [] := rfl
@[simp] theorem text_cons (it : Item) (r : List Item) : text (it :: r) = it.line ++ text r := by simp [text]
@[simp] theorem outs_nil : outs [] = [] := rfl
@[simp] theorem outs_cons (it : Item) (r : List Item) : outs (it :: r) = it.out ++ outs r := by simp [outs]
theorem text_append (a b : List Item) : text (a ++ b) = text a ++ text b := by simp [text]
theorem outs_append (a b : List Item) : outs (a ++ b) = outs a ++ outs b := by simp [outs]
@[simp] theorem Item.line_length (it : Item) : it.line.length = it.len := by simp [Item.line, Item.len]
theorem Item.len_pos (it : Item) : 0 < it.len := Nat.succ_pos _

theorem text_snoc (done : List Item) (it : Item) : (text (done ++ [it])).length = (text done).length + it.len := by
  rw [text_append, text_cons, text_nil, List.append_nil, List.length_append, Item.line_length]

theorem outs_snoc (done : List Item) (it : Item) : outs (done ++ [it]) = outs done ++ it.out := by
  rw [outs_append, outs_cons, outs_nil, List.append_nil]

def needsRoom : Phase → Bool
  | .readUU => true
  | .readB64 => true
  | _ => false

structure ItemOk (it : Item) : Prop where
  printable : Printable it.body
  small : it.len * 2 ≤ outBuffSize ∨ needsRoom it.ph = false
  short : it.len ≤ maxLineLength
  outLe : it.out.length ≤ it.len * 2
  outNil : needsRoom it.ph = false → it.out = []
  notIgnore : it.ph ≠ .ignore ∧ it.ph' ≠ .ignore
  step : ∀ total md, total ≤ outBuffSize → (needsRoom it.ph = true → total + it.len * 2 ≤ outBuffSize) →
    lineStep it.ph total it.len it.line 1 md = .next it.ph' it.out (it.mdf md)
  full : ∀ total md, needsRoom it.ph = true → total + it.len * 2 > outBuffSize →
    lineStep it.ph total it.len it.line 1 md = .full

def Chain : Phase → List Item → Prop
  | _, [] => True
  | ph, it :: rest => it.ph = ph ∧ Chain it.ph' rest

/-! ### `lineLoop` at the start of a printable line -/

theorem lineLoop_zero (ravail tot0 : Nat) (l : List Nat) (used total : Nat) (ph : Phase) (md : Meta) :
    lineLoop ravail tot0 0 l used total ph md = .fin used [] ph [] md := by
  unfold lineLoop; simp

theorem lineLoop_nil (ravail tot0 a used total : Nat) (ph : Phase) (md : Meta) :
    lineLoop ravail tot0 a [] used total ph md = .fin used [] ph [] md := by
  unfold lineLoop; cases a <;> rfl

theorem lineLoop_step (ravail tot0 avail : Nat) (rest : List Nat) (used total : Nat) (ph : Phase) (md : Meta)
    (len nl : Nat) (ha : avail ≠ 0) (hr : rest ≠ []) (hg : getLine avail rest = (some len, nl)) :
    lineLoop ravail tot0 avail rest used total ph md =
      if nl = 0 ∧ (ph ≠ .uuEnd ∨ ravail > 0) then
        if total = 0 ∧ ravail = 0 then .fatal
        else if total = 0 then .more (rest.take len) ph md
        else .fin (used + len) (rest.take len) ph [] md
      else
        match lineStep ph total len (rest.take len) nl md with
        | .next ph' o md' =>
          LoopR.cons o (lineLoop ravail tot0 (avail - len) (rest.drop len) (used + len) (total + o.length) ph' md')
        | .full => .fin used [] ph [] md
        | .fatal => .fatal
        | .oob => .oob := by
  match avail, rest, ha, hr, hg with
  | a + 1, c :: tl, _, _, hg =>
    conv => lhs; unfold lineLoop
    split
    · rename_i heq; rw [hg] at heq; cases heq
    · rename_i len' nl' heq; rw [hg] at heq; cases heq; rfl

/-- The window ends inside a line: what is there of the line is kept for the next call. -/
theorem lineLoop_partial (ravail tot0 a : Nat) (l : List Nat) (used total : Nat) (ph : Phase) (md : Meta)
    (hp : Printable l) (hl : l.length = a) (ha : 0 < a) (hr : 0 < ravail) :
    lineLoop ravail tot0 a l used total ph md =
      if total = 0 then .more l ph md else .fin (used + a) l ph [] md := by
  subst hl
  have hg := getLine_prefix l l.length [] hp (Nat.le_refl _)
  rw [List.append_nil] at hg
  rw [lineLoop_step ravail tot0 _ l used total ph md _ 0 (by omega) (List.ne_nil_of_length_pos ha) hg,
    if_pos ⟨rfl, Or.inr hr⟩, if_neg (by omega), List.take_length]

/-- A complete line is handed to the `switch`. -/
theorem lineLoop_line (ravail tot0 a : Nat) (it : Item) (tail : List Nat) (used total : Nat) (ph : Phase) (md : Meta)
    (hp : Printable it.body) (ha : it.len ≤ a) :
    lineLoop ravail tot0 a (it.line ++ tail) used total ph md =
      match lineStep ph total it.len it.line 1 md with
      | .next ph' o md' => LoopR.cons o (lineLoop ravail tot0 (a - it.len) tail (used + it.len) (total + o.length) ph' md')
      | .full => .fin used [] ph [] md
      | .fatal => .fatal
      | .oob => .oob := by
  have hg : getLine a (it.line ++ tail) = (some it.len, 1) := by
    rw [Item.line, List.append_assoc]; exact getLine_line it.body a tail hp ha
  rw [lineLoop_step ravail tot0 a _ used total ph md _ 1 (by have := it.len_pos; omega) (by simp [Item.line]) hg,
    if_neg (by simp), List.take_left' it.line_length, List.drop_left' it.line_length]

theorem text_take (it : Item) (rest : List Item) (a : Nat) (h : it.len ≤ a) :
    (text (it :: rest)).take a = it.line ++ (text rest).take (a - it.len) := by
  rw [text_cons, List.take_append, List.take_of_length_le (by rw [Item.line_length]; exact h), Item.line_length]

/-! ### the read window -/

theorem window_take (orc rem : List Nat) : window orc rem = rem.take (window orc rem).length := by
  unfold window; split
  · simp
  · rw [List.length_take, Nat.min_def]; split
    · rfl
    · rw [List.take_of_length_le (by omega), List.take_of_length_le (by omega)]

theorem window_pos (orc rem : List Nat) (h : rem ≠ []) : 0 < (window orc rem).length := by
  obtain ⟨a, r, rfl⟩ := List.exists_cons_of_ne_nil h
  unfold window; split <;> simp

/-! ### the consumer's loop -/

theorem cons_cons (o1 o2 : List Nat) (r : LoopR) : LoopR.cons o1 (LoopR.cons o2 r) = LoopR.cons (o1 ++ o2) r := by
  cases r <;> simp [LoopR.cons]

theorem loopR_cons_nil (r : LoopR) : LoopR.cons [] r = r := by cases r <;> simp [LoopR.cons]

theorem loopR_cons_fin (o : List Nat) (u : Nat) (c : List Nat) (ph : Phase) (out : List Nat) (md : Meta) :
    LoopR.cons o (.fin u c ph out md) = .fin u c ph (o ++ out) md := rfl
theorem loopR_cons_more (o : List Nat) (c : List Nat) (ph : Phase) (md : Meta) :
    LoopR.cons o (.more c ph md) = .more c ph md := rfl

theorem final_cons_eof (a b : List Nat) : Final.cons a (.eof b) = .eof (a ++ b) := rfl

/-- What `decodeLoop` does with the outcome of the line loop of one call that began
with `c0` bytes carried over and a window of `W` bytes. -/
def cont (orc : List Nat) (tot0 : Nat) (rem : List Nat) (W c0 : Nat) : LoopR → Final
  | .fatal => .fatal []
  | .oob => .oob
  | .more carry ph md =>
    if W = 0 then .fatal [] else decodeLoop orc.tail ⟨ph, carry, tot0, md⟩ (rem.drop W)
  | .fin used carry ph out md =>
    if out = [] then
      if W = 0 ∧ needsRoom ph = true then .fatal [] else .eof []   -- truncated: missing end marker
    else if used ≤ c0 ∨ rem = [] then .stall out
    else Final.cons out (decodeLoop orc.tail ⟨ph, carry, tot0 + out.length, md⟩ (rem.drop (used - c0)))

theorem needsRoom_iff (ph : Phase) : (ph = .readUU ∨ ph = .readB64) ↔ needsRoom ph = true := by
  cases ph <;> simp [needsRoom]

theorem decodeLoop_eq (orc : List Nat) (st : RState) (rem : List Nat)
    (hph : st.phase ≠ .ignore) (hc : st.carry.length ≤ maxLineLength) :
    decodeLoop orc st rem =
      cont orc st.total rem (window orc rem).length st.carry.length
        (lineLoop (window orc rem).length st.total (st.carry ++ window orc rem).length
          (st.carry ++ window orc rem) 0 0 st.phase st.md) := by
  conv => lhs; unfold decodeLoop
  have h2 : ¬ (st.carry ≠ [] ∧ st.carry.length > maxLineLength) := by omega
  simp only [filterRead, hph, h2, if_false]
  generalize lineLoop (window orc rem).length st.total (st.carry ++ window orc rem).length
    (st.carry ++ window orc rem) 0 0 st.phase st.md = r
  cases r with
  | fatal => rfl
  | oob => rfl
  | more carry ph md => simp only [cont]; split <;> rfl
  | fin used carry ph out md =>
    -- `used -= avail_in - ravail` takes off the bytes that were carried over
    have hi : (used : Int) - (((st.carry ++ window orc rem).length : Nat) - ((window orc rem).length : Nat)) =
        (used : Int) - (st.carry.length : Nat) := by rw [List.length_append]; omega
    simp only [cont, needsRoom_iff, hi]
    by_cases ho : out = []
    · by_cases hw : (window orc rem).length = 0 ∧ needsRoom ph = true
      · simp only [ho, hw, and_self, if_true]
      · simp only [ho, hw, and_false, if_false, if_true]
    · by_cases hs : used ≤ st.carry.length ∨ rem = []
      · have hs' : (used : Int) - (st.carry.length : Nat) ≤ 0 ∨ rem = [] := hs.imp (by omega) id
        simp only [ho, false_and, if_false, hs, hs', dite_true, if_true]
      · have hs' : ¬ ((used : Int) - (st.carry.length : Nat) ≤ 0 ∨ rem = []) := fun h => hs (h.imp (by omega) id)
        have hnat : ((used : Int) - (st.carry.length : Nat)).toNat = used - st.carry.length := by omega
        simp only [ho, false_and, if_false, hs, hs', dite_false, hnat]

/-! ### how the consumer's loop ends -/

def lastPhase : Phase → List Item → Phase
  | ph, [] => ph
  | _, it :: r => lastPhase it.ph' r

theorem lastPhase_append (ph : Phase) (a b : List Item) :
    lastPhase ph (a ++ b) = lastPhase (lastPhase ph a) b := by
  induction a generalizing ph with
  | nil => rfl
  | cons x xs ih => simp [lastPhase, ih]

/-- How the consumer's loop ends when the upstream is exhausted in state `ph`:
inside the encoded body that is an error ("missing end marker"), otherwise the
end of the data. -/
def endR (ph : Phase) (o : List Nat) : Final := if needsRoom ph = true then .fatal o else .eof o

theorem final_cons_endR (a b : List Nat) (ph : Phase) : Final.cons a (endR ph b) = endR ph (a ++ b) := by
  unfold endR; split <;> rfl

/-- In a stream that ends inside the encoded body no line after the data decodes to
nothing (there is no trailer): whenever a call returns without output, the
upstream is exhausted. -/
def NoZeroSuffix (L : Phase) (items0 : List Item) : Prop :=
  needsRoom L = true → ∀ done items, items0 = done ++ items → items ≠ [] → outs items ≠ []

theorem noZero_suffix (L : Phase) (done items : List Item) (h : NoZeroSuffix L (done ++ items)) :
    NoZeroSuffix L items := by
  intro hL d2 i2 hs hne
  exact h hL (done ++ d2) i2 (by rw [hs]; simp) hne

/-! ### data lines first, then lines that decode to nothing -/

def Shape (items : List Item) : Prop :=
  ∃ data tail, items = data ++ tail ∧ (∀ it ∈ data, it.out ≠ []) ∧ (∀ it ∈ tail, it.out = [])

theorem outs_eq_nil (l : List Item) : outs l = [] ↔ ∀ it ∈ l, it.out = [] := by
  induction l with
  | nil => simp
  | cons a r ih => simp [ih]

theorem Shape.cons {it : Item} {rest : List Item} (h : Shape (it :: rest)) :
    Shape rest ∧ (it.out = [] → outs rest = []) := by
  obtain ⟨data, tail, h1, h2, h3⟩ := h
  cases data with
  | nil =>
    have h3' : ∀ x ∈ rest, x.out = [] := fun x hx => h3 x (by rw [← List.nil_append tail, ← h1]; simp [hx])
    exact ⟨⟨[], rest, rfl, nofun, h3'⟩, fun _ => (outs_eq_nil _).mpr h3'⟩
  | cons x xs =>
    simp only [List.cons_append, List.cons.injEq] at h1
    exact ⟨⟨xs, tail, h1.2, fun x hx => h2 x (by simp [hx]), h3⟩, fun h0 => absurd (h1.1 ▸ h0) (h2 x (by simp))⟩

theorem shape_nil : Shape [] := ⟨[], [], rfl, by simp, by simp⟩

/-! ### what a call carries over -/

def CarryOk (carry : List Nat) : List Item → Prop
  | [] => carry = []
  | it :: _ => carry.length < it.len

theorem carry_lt_done {carry0 : List Nat} {done items : List Item} (h : CarryOk carry0 (done ++ items))
    (hd : done ≠ []) : carry0.length < (text done).length := by
  match done, hd with
  | d :: ds, _ =>
    simp only [List.cons_append, CarryOk] at h
    simp only [text_cons, List.length_append, Item.line_length]; omega

theorem exhausted {carry : List Nat} {items : List Item} (hT : carry ++ [] = text items) (hc : CarryOk carry items) :
    carry = [] ∧ items = [] := by
  have hlen := congrArg List.length hT
  match items, hc with
  | [], hc => exact ⟨hc, rfl⟩
  | it :: r, hc =>
    simp only [CarryOk] at hc
    simp only [text_cons, List.length_append, Item.line_length, List.length_nil] at hlen
    omega

theorem carry_le_max (carry : List Nat) (items : List Item) (hc : CarryOk carry items)
    (hok : ∀ it ∈ items, ItemOk it) : carry.length ≤ maxLineLength := by
  cases items with
  | nil => simp [CarryOk] at hc; simp [hc]
  | cons it r => simp only [CarryOk] at hc; have := (hok it (by simp)).short; omega

structure Pre (st : RState) (rem : List Nat) (items : List Item) : Prop where
  chain : Chain st.phase items
  ok : ∀ it ∈ items, ItemOk it
  txt : st.carry ++ rem = text items
  carry : CarryOk st.carry items
  notIgn : st.phase ≠ .ignore

/-- One call of the consumer's loop from a line boundary: the line loop runs on the
visible prefix of the text that is left. -/
theorem decodeLoop_pre {orc : List Nat} {st : RState} {rem : List Nat} {items : List Item} (hpre : Pre st rem items) :
    decodeLoop orc st rem =
      cont orc st.total rem (window orc rem).length st.carry.length
        (lineLoop (window orc rem).length st.total (st.carry.length + (window orc rem).length)
          ((text items).take (st.carry.length + (window orc rem).length)) 0 0 st.phase st.md) := by
  rw [decodeLoop_eq orc st rem hpre.notIgn (carry_le_max _ _ hpre.carry hpre.ok), List.length_append, ← hpre.txt,
    List.take_length_add_append, ← window_take]

/-! ### one call of `uudecode_filter_read` -/

/-- Where a call of `uudecode_filter_read` stands after the lines `done` of `items0`:
the lines `items` are left, the first of them is met in state `ph`. -/
structure Mid (items0 : List Item) (L : Phase) (done items : List Item) (ph : Phase) : Prop where
  split : items0 = done ++ items
  chain : Chain ph items
  notIgn : ph ≠ .ignore
  last : lastPhase ph items = L
  shape : Shape items

theorem Mid.step {items0 : List Item} {L : Phase} {done rest : List Item} {it : Item} {ph : Phase}
    (h : Mid items0 L done (it :: rest) ph) (hit : ItemOk it) : Mid items0 L (done ++ [it]) rest it.ph' :=
  ⟨by rw [h.split, List.append_assoc]; rfl, h.chain.2, hit.notIgnore.2, h.last, h.shape.cons.1⟩

/-- One call of `uudecode_filter_read`: `W` new bytes follow the `carry0` carried over, `rem` is
still to come from upstream, and the calls after this one deliver what they should (`later`). -/
structure Call (orc : List Nat) (W : Nat) (carry0 rem : List Nat) (items0 : List Item) (L : Phase) : Prop where
  txt : carry0 ++ rem = text items0
  carry : CarryOk carry0 items0
  ok : ∀ it ∈ items0, ItemOk it
  noZero : NoZeroSuffix L items0
  wle : W ≤ rem.length
  wpos : rem ≠ [] → 0 < W
  later : ∀ (st' : RState) (rem' : List Nat) (items' : List Item), rem'.length < rem.length →
    Pre st' rem' items' → Shape items' → NoZeroSuffix (lastPhase st'.phase items') items' →
    decodeLoop orc.tail st' rem' = endR (lastPhase st'.phase items') (outs items')

section
variable {orc : List Nat} {W : Nat} {carry0 rem : List Nat} {items0 : List Item} {L : Phase}
  (c : Call orc W carry0 rem items0 L)
include c

/-- The next call starts `k` bytes into the line after `done`, with those bytes carried over. -/
theorem Call.next {done items : List Item} {ph : Phase} (md : Meta) (k n tot' : Nat) (hm : Mid items0 L done items ph)
    (h0 : 0 < n) (h1 : carry0.length + n = (text done).length + k) (h2 : n ≤ W)
    (hck : CarryOk ((text items).take k) items) :
    decodeLoop orc.tail ⟨ph, (text items).take k, tot', md⟩ (rem.drop n) = endR L (outs items) := by
  have hwl := c.wle
  obtain ⟨hs, hch, hph, rfl, hsh⟩ := hm
  refine c.later _ _ items (by rw [List.length_drop]; omega)
    ⟨hch, fun x hx => c.ok x (by rw [hs]; simp [hx]), ?_, hck, hph⟩ hsh (noZero_suffix _ done items (hs ▸ c.noZero))
  have : rem = (text done ++ text items).drop carry0.length := by
    rw [← text_append, ← hs, ← c.txt, List.drop_left]
  show (text items).take k ++ rem.drop n = text items
  rw [this, List.drop_drop, h1, List.drop_length_add_append, List.take_append_drop]

/-- A call that returns with output after `done` and `k` bytes of the next line. -/
theorem Call.fin (tot0 : Nat) {done items : List Item} {ph : Phase} (md : Meta) (k : Nat)
    (hm : Mid items0 L done items ph) (hop : outs done ≠ []) (h2 : (text done).length + k ≤ carry0.length + W)
    (hck : CarryOk ((text items).take k) items) :
    cont orc tot0 rem W carry0.length (.fin ((text done).length + k) ((text items).take k) ph (outs done) md) =
      endR L (outs done ++ outs items) := by
  have hwl := c.wle
  have hc0 : carry0.length < (text done).length :=
    carry_lt_done (hm.split ▸ c.carry) (fun h => hop (by rw [h]; rfl))
  have hrem : rem ≠ [] := fun h => by rw [h, List.length_nil] at hwl; omega
  simp only [cont]
  rw [if_neg hop, if_neg (by intro h; rcases h with h | h; omega; exact hrem h),
    c.next md k _ _ hm (by omega) (by omega) (by omega) hck, final_cons_endR]

/-- The heart of the argument: wherever the call stops, the consumer's loop goes on to deliver
exactly what the remaining lines decode to — and then ends as the last state demands (`endR`).
`a` of the `W` new bytes are left after `done`. -/
theorem inner (tot0 : Nat) :
    ∀ (items done : List Item) (ph : Phase) (md : Meta) (a : Nat), Mid items0 L done items ph →
      a + (text done).length = carry0.length + W → (outs done).length ≤ outBuffSize →
      (outs done = [] → 0 < a ∨ outs items = []) →
      cont orc tot0 rem W carry0.length (LoopR.cons (outs done)
        (lineLoop W tot0 a ((text items).take a) (text done).length (outs done).length ph md)) =
        endR L (outs done ++ outs items) := by
  have hwl := c.wle
  have hlen0 : carry0.length + rem.length = (text items0).length := by rw [← c.txt, List.length_append]
  intro items
  induction items with
  | nil =>
    intro done ph md a hm ha ht hJ
    have hsplit := hm.split
    rw [List.append_nil] at hsplit
    rw [text_nil, List.take_nil, lineLoop_nil, loopR_cons_fin, List.append_nil]
    by_cases hop : outs done = []
    · obtain rfl : ph = L := hm.last
      simp only [cont, hop, if_true, endR, outs_nil, List.append_nil]
      by_cases hroom : needsRoom ph = true
      · -- the stream ends inside the body: nothing is left, so the window is empty, and that is an error
        have hd : done = [] := Classical.byContradiction fun hne =>
          c.noZero hroom [] done (by rw [hsplit]; rfl) hne hop
        rw [hsplit, hd] at hlen0
        rw [if_pos ⟨by have := (Nat.add_eq_zero_iff.mp hlen0).2; omega, hroom⟩, if_pos hroom]
      · rw [if_neg (fun h => hroom h.2), if_neg hroom]
    · exact c.fin tot0 md 0 hm hop (by omega) rfl
  | cons it rest ih =>
    intro done ph md a hm ha ht hJ
    have hsplit := hm.split
    have hit : ItemOk it := c.ok it (by rw [hsplit]; simp)
    have hwp : 0 < W := c.wpos fun h => by
      have := (exhausted (h ▸ c.txt) c.carry).2
      rw [hsplit] at this; simp at this
    have hzero : CarryOk ((text (it :: rest)).take 0) (it :: rest) := Nat.succ_pos _
    by_cases ha0 : a = 0
    · -- the window ends exactly at a line boundary
      subst ha0
      rw [lineLoop_zero, loopR_cons_fin, List.append_nil]
      by_cases hop : outs done = []
      · have h := (hJ hop).resolve_left (Nat.lt_irrefl 0)
        have hnr : ¬ needsRoom L = true := fun hr => c.noZero hr done (it :: rest) hsplit (by simp) h
        simp only [cont, hop, if_true, h, endR]
        rw [if_neg (by omega), if_neg hnr]; rfl
      · exact c.fin tot0 md 0 hm hop (by omega) hzero
    · by_cases hlt : a < it.len
      · -- the window ends inside this line
        have htk : (text (it :: rest)).take a = it.body.take a := by
          rw [text_cons, Item.line, List.append_assoc, List.take_append_of_le_length (Nat.le_of_lt_succ hlt)]
        have hla : ((text (it :: rest)).take a).length = a := by
          rw [htk, List.length_take]; exact Nat.min_eq_left (Nat.le_of_lt_succ hlt)
        have hck : CarryOk ((text (it :: rest)).take a) (it :: rest) := by rw [CarryOk, hla]; exact hlt
        rw [lineLoop_partial W tot0 a _ _ _ ph md
          (by rw [htk]; exact fun x hx => hit.printable x (List.mem_of_mem_take hx)) hla (by omega) hwp]
        by_cases ht0 : (outs done).length = 0
        · rw [if_pos ht0, loopR_cons_more, List.eq_nil_of_length_eq_zero ht0]
          simp only [cont]
          rw [if_neg (by omega), c.next md a W tot0 hm hwp (by omega) (Nat.le_refl _) hck]
          rfl
        · rw [if_neg ht0, loopR_cons_fin, List.append_nil]
          exact c.fin tot0 md a hm (fun h => ht0 (by rw [h]; rfl)) (by omega) hck
      · have hge : it.len ≤ a := Nat.le_of_not_gt hlt
        rw [text_take it rest a hge, lineLoop_line W tot0 a it _ _ _ ph md hit.printable hge]
        obtain rfl : it.ph = ph := hm.chain.1
        by_cases hfull : needsRoom it.ph = true ∧ (outs done).length + it.len * 2 > outBuffSize
        · -- no room left in the output buffer: the call returns what it has
          rw [hit.full _ md hfull.1 hfull.2, loopR_cons_fin, List.append_nil]
          have hop : outs done ≠ [] := by
            intro h
            rcases hit.small with h' | h'
            · rw [h] at hfull; simp at hfull; omega
            · rw [hfull.1] at h'; cases h'
          exact c.fin tot0 md 0 hm hop (by omega) hzero
        · -- the line is processed; go on with the next one
          have hroom : needsRoom it.ph = true → (outs done).length + it.len * 2 ≤ outBuffSize :=
            fun hn => Nat.le_of_not_gt fun h2 => hfull ⟨hn, h2⟩
          have ht' : (outs done).length + it.out.length ≤ outBuffSize := by
            by_cases hn : needsRoom it.ph = true
            · have := hit.outLe; have := hroom hn; omega
            · rw [hit.outNil (by simpa using hn)]; exact ht
          have := ih (done ++ [it]) it.ph' (it.mdf md) (a - it.len) (hm.step hit) (by rw [text_snoc]; omega)
            (by rw [outs_snoc, List.length_append]; exact ht')
            (fun h => Or.inr (hm.shape.cons.2 (by rw [outs_snoc] at h; exact (List.append_eq_nil_iff.mp h).2)))
          rw [text_snoc, outs_snoc, List.length_append, List.append_assoc] at this
          rw [hit.step _ md ht hroom, cons_cons]
          exact this

end

/-! ### all the calls -/

/-- **Every sequence of read windows**: from a line boundary (possibly with a
partial line carried over), the consumer gets exactly what the remaining lines
decode to; then the end of data — or, when the lines stop inside the encoded
body, an error. -/
theorem decode_items : ∀ (n : Nat) (orc : List Nat) (st : RState) (rem : List Nat) (items : List Item),
    rem.length = n → Pre st rem items → Shape items → NoZeroSuffix (lastPhase st.phase items) items →
    decodeLoop orc st rem = endR (lastPhase st.phase items) (outs items) := by
  intro n
  induction n using Nat.strongRecOn with
  | _ n ihn =>
    intro orc st rem items hn hpre hshape hnz
    have := inner (orc := orc) ⟨hpre.txt, hpre.carry, hpre.ok, hnz, window_length_le orc rem, window_pos orc rem,
        fun st' rem' items' hlt hp hs hz => ihn rem'.length (by omega) _ st' rem' items' rfl hp hs hz⟩
      st.total items [] st.phase st.md _ ⟨rfl, hpre.chain, hpre.notIgn, rfl, hshape⟩ (Nat.add_zero _) (Nat.zero_le _)
      (fun _ => (Nat.eq_zero_or_pos _).symm.imp_right fun h => by
        -- an empty window: the stream is exhausted
        have hr : rem = [] := Classical.byContradiction fun hr =>
          absurd (window_pos orc rem hr) (by omega)
        rw [(exhausted (hr ▸ hpre.txt) hpre.carry).2]; rfl)
    rw [outs_nil, loopR_cons_nil] at this
    rw [decodeLoop_pre hpre]
    exact this

/-- The first call on a stream that begins with a complete line in the first window
(the `begin` line, which needs no room). -/
theorem decode_first (first : Nat) (orc : List Nat) (hdr : Item) (rest0 : List Item) {W : Nat}
    (hch : Chain .findHead (hdr :: rest0)) (hok : ∀ it ∈ hdr :: rest0, ItemOk it)
    (hW : (window (first :: orc) (text (hdr :: rest0))).length = W) (hge : hdr.len ≤ W) :
    decode first orc (text (hdr :: rest0)) =
      cont (first :: orc) 0 (text (hdr :: rest0)) W 0 (LoopR.cons hdr.out
        (lineLoop W 0 (W - hdr.len) ((text rest0).take (W - hdr.len)) hdr.len hdr.out.length hdr.ph' (hdr.mdf {}))) := by
  have hhdr : ItemOk hdr := hok hdr (by simp)
  have hstep := hhdr.step 0 {} (Nat.zero_le _)
  rw [hch.1] at hstep
  have hpre : Pre ({} : RState) (text (hdr :: rest0)) (hdr :: rest0) := ⟨hch, hok, rfl, Nat.succ_pos _, by simp⟩
  rw [decode, decodeLoop_pre hpre, hW]
  show cont _ 0 _ W 0 (lineLoop W 0 (0 + W) ((text (hdr :: rest0)).take (0 + W)) 0 0 .findHead {}) = _
  rw [Nat.zero_add, text_take hdr rest0 W hge, lineLoop_line W 0 W hdr _ 0 0 .findHead {} hhdr.printable hge,
    hstep (fun h => by cases h)]
  simp only [Nat.zero_add]

/-- The same from the very beginning of a stream whose first line (the `begin`
line) decodes to nothing: the first window must reach beyond that line. -/
theorem decode_with_header (first : Nat) (orc : List Nat) (hdr : Item) (rest0 : List Item)
    (hch : Chain .findHead (hdr :: rest0)) (hok : ∀ it ∈ hdr :: rest0, ItemOk it)
    (hout : hdr.out = []) (hshape : Shape rest0) (hfirst : hdr.len ≤ first)
    (hnz : NoZeroSuffix (lastPhase hdr.ph' rest0) (hdr :: rest0)) :
    decode first orc (text (hdr :: rest0)) = endR (lastPhase hdr.ph' rest0) (outs rest0) := by
  have hA : (window (first :: orc) (text (hdr :: rest0))).length = min (first + 1) (hdr.len + (text rest0).length) := by
    rw [window, List.length_take, text_cons, List.length_append, Item.line_length]
  generalize hW : (window (first :: orc) (text (hdr :: rest0))).length = W at hA
  have hlt : 0 < W - hdr.len ∨ outs rest0 = [] := by
    match rest0 with
    | [] => exact Or.inr rfl
    | x :: xs =>
      rw [text_cons, List.length_append, Item.line_length] at hA
      have : 0 < x.len := Nat.succ_pos _
      left; omega
  have c : Call (first :: orc) W [] (text (hdr :: rest0)) (hdr :: rest0) (lastPhase hdr.ph' rest0) :=
    ⟨rfl, Nat.succ_pos _, hok, hnz, by rw [text_cons, List.length_append, Item.line_length]; omega,
      fun _ => by have := hdr.len_pos; omega,
      fun st' rem' items' _ hp hs hz => decode_items rem'.length _ st' rem' items' rfl hp hs hz⟩
  have := inner c 0 rest0 [hdr] hdr.ph' (hdr.mdf {}) (W - hdr.len) ⟨rfl, hch.2, (hok hdr List.mem_cons_self).notIgnore.2, rfl, hshape⟩
    (by rw [text_cons, text_nil, List.append_nil, Item.line_length, List.length_nil]; omega)
    (by rw [outs_cons, outs_nil, List.append_nil, hout]; exact Nat.zero_le _) (fun _ => hlt)
  rw [decode_first first orc hdr rest0 hch hok hW (by omega)]
  simpa [hout] using this

end LA.UuRead
