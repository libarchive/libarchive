/- Byte-block lemmas: `poke` (memcpy into a block), `slice`, fixed-width C strings. Core Lean only. -/
import LA.Model.Codec
namespace LA.Codec

theorem poke_length (h : List Nat) (off : Nat) (bs : List Nat) (hle : off + bs.length ≤ h.length) :
    (poke h off bs).length = h.length := by
  unfold poke
  simp only [List.length_append, List.length_take, List.length_drop]
  omega

theorem slice_length (h : List Nat) (o n : Nat) (hle : o + n ≤ h.length) : (slice h o n).length = n := by
  unfold slice; simp only [List.length_take, List.length_drop]; omega

theorem slice_append_left (a b : List Nat) (o n : Nat) (h : o + n ≤ a.length) :
    slice (a ++ b) o n = slice a o n := by
  unfold slice
  rw [List.drop_append_of_le_length (by omega), List.take_append_of_le_length (by simp; omega)]

theorem slice_append_right (a b : List Nat) (o n : Nat) (h : a.length ≤ o) :
    slice (a ++ b) o n = slice b (o - a.length) n := by
  unfold slice
  rw [List.drop_append, List.drop_eq_nil_of_le h, List.nil_append]

theorem slice_poke_disjoint (h : List Nat) (off : Nat) (bs : List Nat) (o n : Nat)
    (hle : off + bs.length ≤ h.length) (hd : o + n ≤ off ∨ off + bs.length ≤ o) :
    slice (poke h off bs) o n = slice h o n := by
  unfold poke
  rcases hd with hd | hd
  · -- both blocks begin with `h.take off`
    rw [List.append_assoc, slice_append_left _ _ _ _ (by simp; omega)]
    conv => rhs; rw [← List.take_append_drop off h, slice_append_left _ _ _ _ (by simp; omega)]
  · -- both blocks end with `h.drop (off + bs.length)`, at the same distance from their start
    rw [slice_append_right _ _ _ _ (by simp; omega)]
    conv => rhs; rw [← List.take_append_drop (off + bs.length) h, slice_append_right _ _ _ _ (by simp; omega)]
    simp only [List.length_append, List.length_take]
    rw [Nat.min_eq_left (by omega), Nat.min_eq_left (by omega)]

theorem slice_poke_own (h : List Nat) (off : Nat) (bs : List Nat) (n : Nat)
    (hle : off + bs.length ≤ h.length) (hn : bs.length ≤ n) :
    slice (poke h off bs) off n = bs ++ slice h (off + bs.length) (n - bs.length) := by
  unfold slice poke
  rw [List.append_assoc, List.drop_left' (by simp; omega), List.take_append, List.take_of_length_le hn]

theorem applyWrites_length (h : List Nat) (ws : List (Nat × List Nat))
    (hin : ∀ w ∈ ws, w.1 + w.2.length ≤ h.length) : (applyWrites h ws).length = h.length := by
  induction ws generalizing h with
  | nil => rfl
  | cons w ws ih =>
    obtain ⟨hw, hin⟩ := List.forall_mem_cons.1 hin
    have hl := poke_length _ _ _ hw
    rw [applyWrites, ih _ (by rwa [hl]), hl]

theorem slice_applyWrites_untouched (h : List Nat) (ws : List (Nat × List Nat)) (o n : Nat)
    (hin : ∀ w ∈ ws, w.1 + w.2.length ≤ h.length)
    (hd : ∀ w ∈ ws, o + n ≤ w.1 ∨ w.1 + w.2.length ≤ o) :
    slice (applyWrites h ws) o n = slice h o n := by
  induction ws generalizing h with
  | nil => rfl
  | cons w ws ih =>
    obtain ⟨hw, hin⟩ := List.forall_mem_cons.1 hin
    obtain ⟨hdw, hd⟩ := List.forall_mem_cons.1 hd
    rw [applyWrites, ih _ (by rwa [poke_length _ _ _ hw]) hd, slice_poke_disjoint _ _ _ _ _ hw hdw]

theorem slice_applyWrites_own (h : List Nat) (ws1 ws2 : List (Nat × List Nat)) (off : Nat) (bs : List Nat)
    (n : Nat) (hn : bs.length ≤ n) (hfield : off + n ≤ h.length)
    (hin1 : ∀ w ∈ ws1, w.1 + w.2.length ≤ h.length) (hin2 : ∀ w ∈ ws2, w.1 + w.2.length ≤ h.length)
    (hd1 : ∀ w ∈ ws1, off + n ≤ w.1 ∨ w.1 + w.2.length ≤ off)
    (hd2 : ∀ w ∈ ws2, off + n ≤ w.1 ∨ w.1 + w.2.length ≤ off) :
    slice (applyWrites h (ws1 ++ (off, bs) :: ws2)) off n
      = bs ++ slice h (off + bs.length) (n - bs.length) := by
  induction ws1 generalizing h with
  | nil =>
    have hle : off + bs.length ≤ h.length := by omega
    rw [List.nil_append, applyWrites,
      slice_applyWrites_untouched _ _ _ _ (by rwa [poke_length _ _ _ hle]) hd2]
    exact slice_poke_own _ _ _ _ hle hn
  | cons w ws ih =>
    obtain ⟨hw, hin1⟩ := List.forall_mem_cons.1 hin1
    obtain ⟨hdw, hd1⟩ := List.forall_mem_cons.1 hd1
    have hl := poke_length _ _ _ hw
    rw [List.cons_append, applyWrites,
      ih _ (by rwa [hl]) (by rwa [hl]) (by rwa [hl]) hd1,
      slice_poke_disjoint _ _ _ _ _ hw (by omega)]

/-! ### a table of disjoint fields, each written at most once from its start -/

theorem slice_drop (h : List Nat) (o n l : Nat) : slice h (o + l) (n - l) = (slice h o n).drop l := by
  unfold slice; rw [List.drop_take, List.drop_drop]

theorem slice_drop_self (h : List Nat) (o n : Nat) : (slice h o n).drop n = [] :=
  List.drop_eq_nil_of_le (List.length_take_le ..)

structure FieldW where
  off : Nat
  width : Nat
  bytes : List Nat

def FieldW.disjoint (a b : FieldW) : Prop := a.off + a.width ≤ b.off ∨ b.off + b.width ≤ a.off
instance (a b : FieldW) : Decidable (a.disjoint b) := by unfold FieldW.disjoint; infer_instance

def fieldWrites (fs : List FieldW) : List (Nat × List Nat) := fs.map fun f => (f.off, f.bytes)

structure FieldTable (h : List Nat) (fs : List FieldW) : Prop where
  fit : ∀ f ∈ fs, f.bytes.length ≤ f.width ∧ f.off + f.width ≤ h.length
  disjoint : fs.Pairwise FieldW.disjoint

theorem pairwise_disjoint_of_cuts {fs : List FieldW}
    (h : (fs.map fun f => (f.off, f.width)).Pairwise fun a b => a.1 + a.2 ≤ b.1 ∨ b.1 + b.2 ≤ a.1) :
    fs.Pairwise FieldW.disjoint := by
  rw [List.pairwise_map] at h; exact h

section table
variable {h : List Nat} {fs : List FieldW} (T : FieldTable h fs)
include T

theorem fieldWrites_length : (applyWrites h (fieldWrites fs)).length = h.length := by
  apply applyWrites_length
  intro w hw
  obtain ⟨f, hf, rfl⟩ := List.mem_map.1 hw
  have := T.fit f hf
  dsimp only; omega

theorem field_read (f : FieldW) (hf : f ∈ fs) :
    slice (applyWrites h (fieldWrites fs)) f.off f.width
      = f.bytes ++ (slice h f.off f.width).drop f.bytes.length := by
  obtain ⟨fs1, fs2, rfl⟩ := List.append_of_mem hf
  obtain ⟨-, hd2, hd1⟩ := List.pairwise_append.1 T.disjoint
  have hff := T.fit f hf
  have hfit1 : ∀ g ∈ fs1, _ := fun g hg => T.fit g (List.mem_append_left _ hg)
  have hfit2 : ∀ g ∈ fs2, _ := fun g hg => T.fit g (List.mem_append_right _ (List.mem_cons_of_mem _ hg))
  unfold fieldWrites
  rw [List.map_append, List.map_cons, ← slice_drop]
  apply slice_applyWrites_own _ _ _ _ _ _ hff.1 hff.2
  all_goals
    rw [List.forall_mem_map]
    intro g hg
    dsimp only
  · have := hfit1 g hg; omega
  · have := hfit2 g hg; omega
  · have := hfit1 g hg; have := hd1 g hg f (List.mem_cons_self ..); unfold FieldW.disjoint at this; omega
  · have := hfit2 g hg; have := (List.pairwise_cons.1 hd2).1 g hg; unfold FieldW.disjoint at this; omega

theorem field_untouched (a b : Nat) (hz : ∀ f ∈ fs, b ≤ f.off ∨ f.off + f.width ≤ a) (o n : Nat)
    (ha : a ≤ o) (hb : o + n ≤ b) : slice (applyWrites h (fieldWrites fs)) o n = slice h o n := by
  apply slice_applyWrites_untouched
  all_goals
    intro w hw
    obtain ⟨f, hf, rfl⟩ := List.mem_map.1 hw
    have := T.fit f hf
    dsimp only
  · omega
  · have := hz f hf; omega

end table

def isBytes (s : List Nat) : Prop := ∀ c ∈ s, c < 256

theorem isBytes_poke (h : List Nat) (off : Nat) (bs : List Nat) (hh : isBytes h) (hb : isBytes bs) :
    isBytes (poke h off bs) := by
  intro c hc
  unfold poke at hc
  simp only [List.mem_append] at hc
  rcases hc with (hc | hc) | hc
  · exact hh c (List.mem_of_mem_take hc)
  · exact hb c hc
  · exact hh c (List.mem_of_mem_drop hc)

theorem isBytes_applyWrites (h : List Nat) (ws : List (Nat × List Nat)) (hh : isBytes h)
    (hw : ∀ w ∈ ws, isBytes w.2) : isBytes (applyWrites h ws) := by
  induction ws generalizing h with
  | nil => exact hh
  | cons w ws ih =>
    obtain ⟨hw1, hw⟩ := List.forall_mem_cons.1 hw
    exact ih _ (isBytes_poke _ _ _ hh hw1) hw

theorem sumBytes_eq_sum (h : List Nat) : sumBytes h = h.sum := List.sum_eq_foldl_nat.symm

theorem sumBytes_le (h : List Nat) (hh : isBytes h) : sumBytes h ≤ 255 * h.length := by
  rw [sumBytes_eq_sum]
  induction h with
  | nil => exact Nat.le_refl _
  | cons c l ih =>
    obtain ⟨hc, hl⟩ := List.forall_mem_cons.1 hh
    have := ih hl
    rw [List.sum_cons, List.length_cons]
    omega

theorem split3 (h : List Nat) (a b : Nat) :
    h = slice h 0 a ++ slice h a b ++ slice h (a + b) (h.length - (a + b)) := by
  unfold slice
  rw [List.drop_zero, ← List.drop_drop,
    List.take_of_length_le (l := (h.drop a).drop b) (by simp only [List.length_drop]; omega),
    List.append_assoc, List.take_append_drop, List.take_append_drop]

def noNul (s : List Nat) : Prop := ∀ c ∈ s, c ≠ 0

theorem cstr_append_zero (s : List Nat) (r : List Nat) (hs : noNul s) : cstr (s ++ 0 :: r) = s := by
  unfold cstr
  rw [List.takeWhile_append_of_pos (fun c hc => decide_eq_true (hs c hc)),
    List.takeWhile_cons_of_neg (by decide), List.append_nil]

theorem cstr_full (s : List Nat) (hs : noNul s) : cstr s = s := by
  have := List.takeWhile_append_of_pos (l₂ := []) (fun c hc => decide_eq_true (hs c hc))
  rwa [List.append_nil, List.takeWhile_nil, List.append_nil] at this

/-- A string stored at the start of a zero-filled field reads back as itself, whether or not
it fills the field completely. -/
theorem cstr_field (s : List Nat) (k : Nat) (hs : noNul s) : cstr (s ++ List.replicate k 0) = s := by
  cases k with
  | zero => rw [List.replicate_zero, List.append_nil, cstr_full s hs]
  | succ k => rw [List.replicate_succ]; exact cstr_append_zero s _ hs

end LA.Codec
