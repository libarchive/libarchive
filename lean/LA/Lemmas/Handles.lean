/- Projections of the grouped trace (helper lemmas for `LA.Props.C13`). -/
import LA.Model.Handles
namespace LA.Handles
variable {H Sh σ ρ : Type} [DecidableEq H]

theorem readOnly_of_mem_proj {tr : List (H × Op Sh σ ρ)} (hro : ∀ e ∈ tr, e.2.ReadOnly) {h : H}
    {o : Op Sh σ ρ} (ho : o ∈ proj h tr) : o.ReadOnly := by
  simp only [proj, List.mem_map, List.mem_filter] at ho
  obtain ⟨e, ⟨he, _⟩, rfl⟩ := ho
  exact hro e he

/-- What handle `h` sees of "all of `a`'s calls, then all of `b`'s". -/
theorem proj_oneAfterTheOther (h a b : H) (xs ys : List (Op Sh σ ρ)) :
    proj h (oneAfterTheOther a b xs ys) = (if a = h then xs else []) ++ (if b = h then ys else []) := by
  have key : ∀ (c : H) (zs : List (Op Sh σ ρ)),
      ((zs.map fun o => (c, o)).filter (fun e => e.1 = h)).map (·.2) = if c = h then zs else [] := by
    intro c zs
    by_cases hc : c = h <;> simp [List.filter_map, Function.comp_def, hc]
  simp only [proj, oneAfterTheOther, List.filter_append, List.map_append, key]

end LA.Handles
