/-
Assembling the pieces: the stream written by the uuencode / b64encode filter is
a sequence of well-formed lines (`Item`s), hence `decode_with_header` applies.
-/
import LA.Lemmas.UuFlow
import LA.Lemmas.LineFilter
namespace LA.UuRead
open LA.Gen.UuTables LA.LineFilter

def pieces (lb : Nat) (hlb : 0 < lb) (x : List Nat) : List (List Nat) :=
  if h : lb ≤ x.length then x.take lb :: pieces lb hlb (x.drop lb)
  else if x = [] then [] else [x]
termination_by x.length
decreasing_by simp; omega

theorem pieces_nil (lb : Nat) (hlb : 0 < lb) : pieces lb hlb [] = [] := by
  rw [pieces]; simp; omega

theorem pieces_flatten (lb : Nat) (hlb : 0 < lb) (x : List Nat) : (pieces lb hlb x).flatten = x := by
  fun_induction pieces lb hlb x with
  | case1 x h ih => rw [List.flatten_cons, ih, List.take_append_drop]
  | case2 h => rfl
  | case3 x h hx => simp

theorem pieces_eq_nil (lb : Nat) (hlb : 0 < lb) (x : List Nat) (h : pieces lb hlb x = []) : x = [] := by
  have := pieces_flatten lb hlb x; rw [h] at this; simpa using this.symm

theorem pieces_mem (lb : Nat) (hlb : 0 < lb) (x : List Nat) :
    ∀ p ∈ pieces lb hlb x, 0 < p.length ∧ p.length ≤ lb ∧ (∀ b ∈ p, b ∈ x) := by
  fun_induction pieces lb hlb x with
  | case1 x h ih =>
    intro p hp
    rcases List.mem_cons.mp hp with rfl | hp
    · exact ⟨by rw [List.length_take]; omega, by rw [List.length_take]; omega, fun b => List.mem_of_mem_take⟩
    · exact (ih p hp).imp id (And.imp id fun a3 b hb => List.mem_of_mem_drop (a3 b hb))
  | case2 h => simp
  | case3 x h hx =>
    intro p hp
    obtain rfl := List.mem_singleton.mp hp
    exact ⟨List.length_pos_iff.mpr hx, by omega, fun b hb => hb⟩

theorem encAll_pieces (c : Codec) (x : List Nat) :
    encAll c x = ((pieces c.lbytes c.lpos x).map c.encLine).flatten := by
  fun_induction pieces c.lbytes c.lpos x with
  | case1 x h ih => rw [encAll, dif_pos h, ih]; rfl
  | case2 h => rw [encAll, dif_neg h, if_pos rfl]; rfl
  | case3 x h hx => rw [encAll, dif_neg h, if_neg hx]; simp

/-- The `begin` line; `ph'` is the state it leads to. -/
def hdrItem (c : Codec) (mode : Nat) (name : List Nat) (ph' : Phase) : Item :=
  { body := c.begin_ ++ octal3 mode ++ [32] ++ name, ph := .findHead, ph' := ph', out := [],
    mdf := fun md => (headLine (header c mode name) 1 md).2 }

/-- What is needed of a codec to apply the flow theorem. -/
structure StreamSpec (c : Codec) (mode : Nat) (name : List Nat) where
  dph : Phase                              -- state while reading data lines
  body : List Nat → List Nat               -- an encoded line without its '\n'
  tl : List Item
  encLine_eq : ∀ p, c.encLine p = body p ++ [10]
  hdrOk : ItemOk (hdrItem c mode name dph)
  dataOk : ∀ p, Bytes p → 0 < p.length → p.length ≤ c.lbytes → ItemOk ⟨body p, dph, dph, p, id⟩
  tlText : text tl = c.trailer
  tlChain : Chain dph tl
  tlOk : ∀ it ∈ tl, ItemOk it
  tlOut : ∀ it ∈ tl, it.out = []
  dphData : needsRoom dph = true                      -- between the `begin` line and the terminator
  tlEnd : needsRoom (lastPhase dph tl) = false        -- after the terminator

variable {c : Codec} {mode : Nat} {name : List Nat} (S : StreamSpec c mode name)

def StreamSpec.hdr : Item := hdrItem c mode name S.dph

def StreamSpec.mkData (p : List Nat) : Item := ⟨S.body p, S.dph, S.dph, p, id⟩

theorem StreamSpec.hdrLine : S.hdr.line = header c mode name := rfl

/-! The lines of a stream: the `begin` line, a data line for each of the pieces
`ps`, and lines `tl` after them (the trailer, or nothing when the stream is cut). -/

theorem chain_lines (ps : List (List Nat)) (tl : List Item) (htl : Chain S.dph tl) :
    Chain .findHead (S.hdr :: (ps.map S.mkData ++ tl)) := by
  refine ⟨rfl, ?_⟩
  induction ps with
  | nil => exact htl
  | cons p r ih => exact ⟨rfl, ih⟩

theorem text_lines (ps : List (List Nat)) (tl : List Item) :
    text (S.hdr :: (ps.map S.mkData ++ tl)) = header c mode name ++ (ps.map c.encLine).flatten ++ text tl := by
  rw [text_cons, text_append, S.hdrLine, List.append_assoc]
  congr 2
  induction ps with
  | nil => rfl
  | cons p r ih => rw [List.map_cons, text_cons, ih, List.map_cons, List.flatten_cons, S.encLine_eq]; rfl

theorem outs_data (ps : List (List Nat)) : outs (ps.map S.mkData) = ps.flatten := by
  induction ps with
  | nil => rfl
  | cons p r ih => rw [List.map_cons, outs_cons, ih]; rfl

theorem lastPhase_lines (ps : List (List Nat)) (tl : List Item) :
    lastPhase S.hdr.ph' (ps.map S.mkData ++ tl) = lastPhase S.dph tl := by
  induction ps with
  | nil => rfl
  | cons p r ih => exact ih

theorem lines_ok (x : List Nat) (hb : Bytes x) (ps : List (List Nat)) (hps : ∀ p ∈ ps, p ∈ pieces c.lbytes c.lpos x)
    (tl : List Item) (htl : ∀ it ∈ tl, ItemOk it) : ∀ it ∈ S.hdr :: (ps.map S.mkData ++ tl), ItemOk it := by
  intro it hit
  simp only [List.mem_cons, List.mem_append, List.mem_map] at hit
  rcases hit with rfl | ⟨p, hp, rfl⟩ | hit
  · exact S.hdrOk
  · obtain ⟨a1, a2, a3⟩ := pieces_mem c.lbytes c.lpos x p (hps p hp)
    exact S.dataOk p (fun b hbm => hb b (a3 b hbm)) a1 a2
  · exact htl it hit

theorem data_out (x : List Nat) (ps : List (List Nat)) (hps : ∀ p ∈ ps, p ∈ pieces c.lbytes c.lpos x) :
    ∀ it ∈ ps.map S.mkData, it.out ≠ [] := by
  intro it hit
  obtain ⟨p, hp, rfl⟩ := List.mem_map.mp hit
  exact List.ne_nil_of_length_pos (pieces_mem c.lbytes c.lpos x p (hps p hp)).1

theorem hdr_len : S.hdr.len = (header c mode name).length := by rw [← S.hdrLine, Item.line_length]

theorem encStream_lines (x : List Nat) :
    encStream c mode name x = text (S.hdr :: ((pieces c.lbytes c.lpos x).map S.mkData ++ S.tl)) := by
  rw [text_lines, S.tlText, encStream, encAll_pieces]

include S

/-- **Round trip for every sequence of read windows**, generic in the codec. -/
theorem stream_roundtrip (x : List Nat) (hb : Bytes x) (first : Nat) (orc : List Nat)
    (hfirst : (header c mode name).length ≤ first) :
    decode first orc (encStream c mode name x) = .eof x := by
  rw [encStream_lines S, decode_with_header first orc S.hdr _ (chain_lines S _ _ S.tlChain)
    (lines_ok S x hb _ (fun _ h => h) _ S.tlOk) rfl ⟨_, _, rfl, data_out S x _ (fun _ h => h), S.tlOut⟩
    (by rw [hdr_len S]; exact hfirst) (by intro h; rw [lastPhase_lines, S.tlEnd] at h; simp at h),
    lastPhase_lines, outs_append, outs_data, pieces_flatten, (outs_eq_nil S.tl).mpr S.tlOut, List.append_nil, endR,
    if_neg (by simp [S.tlEnd])]

/-- **A stream cut at a line border before its trailer is reported, not taken for
complete**: with at least one data line left and nothing after the data lines,
the consumer gets the bytes of the lines that are there and then a fatal error
("Truncated uuencoded data: missing end marker"), for every sequence of read
windows. -/
theorem stream_truncated (x : List Nat) (hb : Bytes x) (j : Nat) (hj : 0 < j)
    (hjl : j ≤ (pieces c.lbytes c.lpos x).length)
    (first : Nat) (orc : List Nat) (hfirst : (header c mode name).length ≤ first) :
    decode first orc (header c mode name ++ (((pieces c.lbytes c.lpos x).take j).map c.encLine).flatten) =
      .fatal ((pieces c.lbytes c.lpos x).take j).flatten := by
  generalize hq : (pieces c.lbytes c.lpos x).take j = ps
  have hmem : ∀ p ∈ ps, p ∈ pieces c.lbytes c.lpos x := fun p hp => List.mem_of_mem_take (hq ▸ hp)
  have hne : ps ≠ [] := by
    intro h; have := congrArg List.length hq; rw [h, List.length_take] at this
    simp only [List.length_nil] at this; omega
  have hdata := data_out S x ps hmem
  -- every suffix of the lines holds a data line
  have hnz : NoZeroSuffix (lastPhase S.hdr.ph' (ps.map S.mkData ++ [])) (S.hdr :: (ps.map S.mkData ++ [])) := by
    intro _ done items hs hine h
    rw [List.append_nil] at hs
    have hall := (outs_eq_nil items).mp h
    cases done with
    | nil =>
      obtain ⟨p, r', hp⟩ := List.exists_cons_of_ne_nil hne
      exact hdata (S.mkData p) (by rw [hp]; simp) (hall _ (by rw [← List.nil_append items, ← hs, hp]; simp))
    | cons d ds =>
      obtain ⟨i, r, rfl⟩ := List.exists_cons_of_ne_nil hine
      exact hdata i (by rw [(List.cons.inj hs).2]; simp) (hall i (by simp))
  rw [show header c mode name ++ (ps.map c.encLine).flatten = text (S.hdr :: (ps.map S.mkData ++ [])) by
      rw [text_lines, text_nil, List.append_nil],
    decode_with_header first orc S.hdr _ (chain_lines S ps [] trivial) (lines_ok S x hb ps hmem [] (by simp))
    rfl ⟨_, [], rfl, hdata, by simp⟩ (by rw [hdr_len S]; exact hfirst) hnz,
    lastPhase_lines, List.append_nil, outs_data, lastPhase, endR, if_pos S.dphData]

/-- The hazard the hypothesis `hfirst` of `stream_roundtrip` excludes: if the very
first window ends exactly after the `begin` line, `uudecode_filter_read` has
consumed that line, produced nothing, and returns 0 — which its caller takes
for the end of the data.  (Not reachable through the reader: the bidder has
buffered more than the `begin` line before the filter is first called.) -/
theorem header_only_window (x : List Nat) (hb : Bytes x) (first : Nat) (orc : List Nat)
    (hfirst : first + 1 = (header c mode name).length) :
    decode first orc (encStream c mode name x) = .eof [] := by
  have hw : (window (first :: orc) (encStream c mode name x)).length = S.hdr.len := by
    rw [window, List.length_take, encStream_lines S, text_cons, List.length_append, Item.line_length, hdr_len S]; omega
  rw [encStream_lines S] at hw ⊢
  rw [decode_first first orc S.hdr _ (chain_lines S _ _ S.tlChain) (lines_ok S x hb _ (fun _ h => h) _ S.tlOk) hw
    (Nat.le_refl _), Nat.sub_self, lineLoop_zero, show S.hdr.out = [] from rfl, loopR_cons_nil]
  simp only [cont, if_true]
  rw [if_neg (fun h => Nat.ne_of_gt S.hdr.len_pos h.1)]

end LA.UuRead
