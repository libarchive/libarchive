/- Helper lemmas for `LA.ZipCrypt` (traditional PKWARE encryption). -/
import LA.Model.ZipCrypt
namespace LA.ZipCrypt

theorem xor_cancel (a b : UInt8) : a ^^^ b ^^^ b = a := by
  rw [UInt8.xor_assoc, UInt8.xor_self, UInt8.xor_zero]

variable (zcrc : UInt32 → UInt8 → UInt32) (k : Keys)

theorem encLoop_length (m : List UInt8) :
    (encLoop zcrc k m).2.length = m.length := by
  induction m generalizing k with
  | nil => rfl
  | cons t r ih => simp [encLoop, ih]

theorem decLoop_length (m : List UInt8) :
    (decLoop zcrc k m).2.length = m.length := by
  induction m generalizing k with
  | nil => rfl
  | cons t r ih => simp [decLoop, ih]

/-- Decrypting what was encrypted from the same key state gives the plain text
back and leaves both sides in the same key state. -/
theorem decLoop_encLoop (m : List UInt8) :
    decLoop zcrc k (encLoop zcrc k m).2 = ((encLoop zcrc k m).1, m) := by
  induction m generalizing k with
  | nil => rfl
  | cons t r ih =>
    simp only [encLoop, decLoop, xor_cancel, ih]

theorem encLoop_append (a b : List UInt8) :
    encLoop zcrc k (a ++ b) =
      ((encLoop zcrc (encLoop zcrc k a).1 b).1, (encLoop zcrc k a).2 ++ (encLoop zcrc (encLoop zcrc k a).1 b).2) := by
  induction a generalizing k with
  | nil => simp [encLoop]
  | cons t r ih => simp only [List.cons_append, encLoop, ih]

theorem decLoop_append (a b : List UInt8) :
    decLoop zcrc k (a ++ b) =
      ((decLoop zcrc (decLoop zcrc k a).1 b).1, (decLoop zcrc k a).2 ++ (decLoop zcrc (decLoop zcrc k a).1 b).2) := by
  induction a generalizing k with
  | nil => simp [decLoop]
  | cons t r ih => simp only [List.cons_append, decLoop, ih]

theorem runEnc_flatten (cs : List (List UInt8)) :
    encLoop zcrc k cs.flatten = ((runEnc zcrc k cs).1, (runEnc zcrc k cs).2.flatten) := by
  induction cs generalizing k with
  | nil => rfl
  | cons ch r ih =>
    simp only [runEnc, encryptUpdate, Nat.min_self, List.take_length, List.flatten_cons, encLoop_append, ih]

theorem runDec_flatten (cs : List (List UInt8)) :
    decLoop zcrc k cs.flatten = ((runDec zcrc k cs).1, (runDec zcrc k cs).2.flatten) := by
  induction cs generalizing k with
  | nil => rfl
  | cons ch r ih =>
    simp only [runDec, decryptUpdate, Nat.min_self, List.take_length, List.flatten_cons, decLoop_append, ih]

theorem pad11_length (rnd11 : List UInt8) :
    (rnd11.take 11 ++ List.replicate (11 - rnd11.length) 0).length = 11 := by
  rw [List.length_append, List.length_take, List.length_replicate, Nat.add_comm, Nat.sub_add_min_cancel]

theorem writeHeader_length (pw rnd11 : List UInt8) (chk : UInt8) :
    (writeHeader zcrc pw rnd11 chk).2.length = 12 := by
  rw [writeHeader, encLoop_length, List.length_append, pad11_length]; rfl

/-- The reader's `trad_enc_init` on the header the writer emitted for the same passphrase:
it ends in the writer's key state and hands back the writer's check byte. -/
theorem initR_writeHeader (pw rnd11 : List UInt8) (chk : UInt8) :
    initR zcrc pw (writeHeader zcrc pw rnd11 chk).2 12 = .ok (writeHeader zcrc pw rnd11 chk).1 chk := by
  have hl := writeHeader_length zcrc pw rnd11 chk
  rw [initR, if_neg (Nat.lt_irrefl 12), hl, if_neg (Nat.lt_irrefl 12), List.take_of_length_le (Nat.le_of_eq hl),
    writeHeader, decLoop_encLoop]
  simp only
  rw [List.getElem?_append_right (Nat.le_of_eq (pad11_length rnd11)), pad11_length]
  rfl

end LA.ZipCrypt
