/-
Every modelled operation of C14 is *local* with respect to the groups of fields: it leaves
the view of a group it does not touch unchanged, and acts on the view of a group it touches
as a function of that view alone.

The frame half is proved in two steps: the flag word changes only in bits the group
does not read (`view_withFlags`), and no other field the group reads is assigned
(by unfolding, group by group).
-/
import LA.Lemmas.Entry
namespace LA.Entry
open LA.Gen.EntryBits

structure Local (t : Group → Bool) (X : Entry → Entry) : Prop where
  frame : ∀ G e, t G = false → view G (X e) = view G e
  congr : ∀ G e1 e2, t G = true → view G e1 = view G e2 → view G (X e1) = view G (X e2)

namespace Local
variable {t t' : Group → Bool} {X Y : Entry → Entry}

theorem view_congr (hX : Local t X) (G : Group) (e1 e2 : Entry) (h : view G e1 = view G e2) :
    view G (X e1) = view G (X e2) := by
  cases ht : t G
  · rw [hX.frame G e1 ht, hX.frame G e2 ht, h]
  · exact hX.congr G e1 e2 ht h

theorem id (t : Group → Bool) : Local t id := ⟨fun _ _ _ => rfl, fun _ _ _ _ h => h⟩

theorem comp (hX : Local t X) (hY : Local t' Y) : Local (fun G => t G || t' G) (fun e => Y (X e)) where
  frame G e h := by
    rw [Bool.or_eq_false_iff] at h
    rw [hY.frame G _ h.2, hX.frame G e h.1]
  congr G e1 e2 _ h := hY.view_congr G _ _ (hX.view_congr G e1 e2 h)

theorem mono (hX : Local t X) (h : ∀ G, t G = true → t' G = true) : Local t' X where
  frame G e ht := hX.frame G e (by cases hh : t G; rfl; rw [h G hh] at ht; cases ht)
  congr G e1 e2 _ hv := hX.view_congr G e1 e2 hv

end Local

/-- the groups that consist of an is-set flag of their own and the fields it guards -/
def truthGroups : List Group :=
  [.time .atime, .time .birthtime, .time .ctime, .time .mtime, .size, .dev, .ino, .uid, .gid, .filetype, .perm]

def allGroups : List Group :=
  [.time .atime, .time .birthtime, .time .ctime, .time .mtime, .size, .sparse, .dev, .rdev, .ino, .nlink, .uid, .gid,
   .filetype, .perm, .modeWord, .str .pathname, .str .uname, .str .gname, .str .sourcepath, .link, .strmode, .fflags,
   .symlinkType, .encryption, .xattr, .mac, .digest, .statAll]

theorem mem_allGroups (G : Group) : G ∈ allGroups := by
  cases G <;> first | decide | (rename_i f; cases f <;> decide)

theorem of_allGroups {p : Group → Bool} (h : allGroups.all p = true) (G : Group) : p G = true :=
  List.all_eq_true.mp h G (mem_allGroups G)

/-- No other group reads the flag of such a group. -/
theorem mask_disj {o G : Group} (ho : o ∈ truthGroups) (h : G ≠ o) : o.mask &&& G.mask = 0 := by
  have tbl : (truthGroups.all fun o => allGroups.all fun G => G == o || o.mask &&& G.mask == 0) = true := by decide
  simpa [h] using of_allGroups (List.all_eq_true.mp tbl o ho) G
theorem time_truth (f : TimeField) : Group.time f ∈ truthGroups := by cases f <;> decide
theorem mask_fRDEV {G : Group} (h : G ≠ .rdev) (h' : G ≠ .statAll) : fRDEV &&& G.mask = 0 := by
  simpa [h, h'] using of_allGroups (p := fun G => G == .rdev || G == .statAll || fRDEV &&& G.mask == 0) (by decide) G
theorem mask_link {G : Group} (h : G ≠ .link) (h' : G ≠ .strmode) :
    fHARDLINK &&& G.mask = 0 ∧ fSYMLINK &&& G.mask = 0 := by
  simpa [h, h'] using of_allGroups
    (p := fun G => G == .link || G == .strmode || (fHARDLINK &&& G.mask == 0 && fSYMLINK &&& G.mask == 0)) (by decide) G

theorem TimeField.flag_ne (f : TimeField) : f.flag ≠ 0 := by cases f <;> decide
theorem TimeField.flag_rdev (f : TimeField) : f.flag &&& fRDEV = 0 := by cases f <;> decide

/- Congruence on the groups an operation touches: `ht` names them; for each, the hypothesis is
split into the equations between the fields the group reads, the operation is unfolded and the
equations are used. -/
set_option hygiene false in
macro "touched_congr" defs:Lean.Parser.Tactic.simpLemma,* : tactic => `(tactic| (
  simp only [touches, Bool.or_eq_true, beq_iff_eq] at ht
  rcases ht with (((rfl | rfl) | rfl) | rfl) | rfl
  all_goals simp only [view, View.mk.injEq, List.cons.injEq, and_true, true_and, Entry.has] at h
  all_goals simp only [view, Entry.has, h, $defs,*]))

/-- Frame step for the flag word: `m` is or-ed into the flags, and `G` reads none of those bits. -/
theorem view_or_flags {G : Group} {e e' : Entry} {m : Flags} (hs : e'.ae_set = e.ae_set ||| m) (hm : m &&& G.mask = 0) :
    view G e' = view G (e'.withFlags e.ae_set) :=
  view_withFlags G e' e.ae_set (hs ▸ bv_or_and_disj _ _ _ hm)

theorem setTimeCore_flags (f : TimeField) (e : Entry) (t : Int) (ns : Nat) :
    (setTimeCore f e t ns).ae_set = e.ae_set ||| f.flag := by cases f <;> rfl

theorem setTimeCore_local (f : TimeField) (t : Int) (ns : Nat) :
    Local (touches (.unsetTime f)) (setTimeCore f · t ns) where
  frame G e ht := by
    rw [view_or_flags (e' := setTimeCore f e t ns) (setTimeCore_flags f e t ns)
      (mask_disj (time_truth f) (by rintro rfl; cases f <;> cases ht))]
    cases f <;> cases G <;> first | rfl | cases ht | (rename_i f'; cases f' <;> first | rfl | cases ht)
  congr G e1 e2 ht h := by
    cases f <;> touched_congr setTimeCore, Entry.withTime, timeSec, timeNsec,
      hasF_or_self _ _ (TimeField.flag_ne _), hasF_or_disj _ _ _ (TimeField.flag_rdev _)

theorem setSize_local (s : Int) : Local (touches (.setSize s)) (setSize · s) where
  frame G e ht := by
    rw [view_or_flags (e' := setSize e s) rfl (mask_disj (o := .size) (by decide) (by rintro rfl; cases ht))]
    cases G <;> first | rfl | cases ht
  congr G e1 e2 ht h := by
    touched_congr setSize, hasF_or_self _ fSIZE (by decide), hasF_or_disj _ fSIZE fRDEV (by decide)

theorem view_lower {o : Group} (ho : o ∈ truthGroups) (e1 e2 : Entry) (h : view o e1 = view o e2) :
    view o (e1.withFlags (e1.ae_set &&& ~~~o.mask)) = view o (e2.withFlags (e2.ae_set &&& ~~~o.mask)) := by
  simp only [truthGroups, List.mem_cons, List.not_mem_nil, or_false] at ho
  rcases ho with rfl | rfl | rfl | rfl | rfl | rfl | rfl | rfl | rfl | rfl | rfl
  all_goals simp only [view, View.mk.injEq, List.cons.injEq, and_true, true_and, Entry.has, timeSec, timeNsec] at h
  all_goals simp only [view, Entry.has, Entry.withFlags, Group.mask, hasF_andnot_self, timeSec, timeNsec, h]

/-- An unsetter: a setter of the group `o`, then `ae_set &= ~FLAG`. -/
theorem Local.lower {t : Group → Bool} {X : Entry → Entry} (hX : Local t X) {o : Group} (ho : o ∈ truthGroups)
    (hto : t o = true) : Local t fun e => (X e).withFlags ((X e).ae_set &&& ~~~o.mask) where
  frame G e ht := by
    have hm := mask_disj ho (G := G) (by rintro rfl; rw [hto] at ht; cases ht)
    exact (view_withFlags G (X e) _ (bv_andnot_and_disj _ _ _ hm).symm).symm.trans (hX.frame G e ht)
  congr G e1 e2 ht h := by
    by_cases hG : G = o
    · subst hG; exact view_lower ho _ _ (hX.congr G e1 e2 ht h)
    · have hm := mask_disj ho hG
      rw [← view_withFlags G (X e1) _ (bv_andnot_and_disj _ _ _ hm).symm,
        ← view_withFlags G (X e2) _ (bv_andnot_and_disj _ _ _ hm).symm]
      exact hX.congr G e1 e2 ht h

theorem unsetTimeCore_local (f : TimeField) : Local (touches (.unsetTime f)) (unsetTimeCore f) := by
  -- stated first: left to unification, this unfolding is very slow to find
  have : unsetTimeCore f =
      fun e => (setTimeCore f e 0 0).withFlags ((setTimeCore f e 0 0).ae_set &&& ~~~(Group.time f).mask) := rfl
  rw [this]; exact (setTimeCore_local f 0 0).lower (time_truth f) (by cases f <;> rfl)

theorem unsetSize_local : Local (touches .unsetSize) unsetSize := (setSize_local 0).lower (o := .size) (by decide) rfl

theorem setDev_local (d : Nat) : Local (touches (.setDev d)) (setDev · d) where
  frame G e ht := by
    rw [view_or_flags (e' := setDev e d) rfl (mask_disj (o := .dev) (by decide) (by rintro rfl; cases ht))]
    cases G <;> first | rfl | cases ht
  congr G e1 e2 ht h := by
    touched_congr setDev, hasF_or_self _ fDEV (by decide), hasF_or_disj _ fDEV fRDEV (by decide)

theorem setDevmajor_local (d : Nat) : Local (touches (.setDevmajor d)) (setDevmajor · d) where
  frame G e ht := by
    rw [view_or_flags (e' := setDevmajor e d) rfl (mask_disj (o := .dev) (by decide) (by rintro rfl; cases ht))]
    cases G <;> first | rfl | cases ht
  congr G e1 e2 ht h := by
    touched_congr setDevmajor, hasF_or_self _ fDEV (by decide), hasF_or_disj _ fDEV fRDEV (by decide)

theorem setDevminor_local (d : Nat) : Local (touches (.setDevminor d)) (setDevminor · d) where
  frame G e ht := by
    rw [view_or_flags (e' := setDevminor e d) rfl (mask_disj (o := .dev) (by decide) (by rintro rfl; cases ht))]
    cases G <;> first | rfl | cases ht
  congr G e1 e2 ht h := by
    touched_congr setDevminor, hasF_or_self _ fDEV (by decide), hasF_or_disj _ fDEV fRDEV (by decide)

theorem setRdev_local (d : Nat) : Local (touches (.setRdev d)) (setRdev · d) where
  frame G e ht := by
    rw [view_or_flags (e' := setRdev e d) rfl (mask_fRDEV (by rintro rfl; cases ht) (by rintro rfl; cases ht))]
    cases G <;> first | rfl | cases ht
  congr G e1 e2 ht h := by
    touched_congr setRdev, hasF_or_self _ fRDEV (by decide)

theorem setRdevmajor_local (d : Nat) : Local (touches (.setRdevmajor d)) (setRdevmajor · d) where
  frame G e ht := by
    rw [view_or_flags (e' := setRdevmajor e d) rfl (mask_fRDEV (by rintro rfl; cases ht) (by rintro rfl; cases ht))]
    cases G <;> first | rfl | cases ht
  congr G e1 e2 ht h := by
    touched_congr setRdevmajor, hasF_or_self _ fRDEV (by decide)

theorem setRdevminor_local (d : Nat) : Local (touches (.setRdevminor d)) (setRdevminor · d) where
  frame G e ht := by
    rw [view_or_flags (e' := setRdevminor e d) rfl (mask_fRDEV (by rintro rfl; cases ht) (by rintro rfl; cases ht))]
    cases G <;> first | rfl | cases ht
  congr G e1 e2 ht h := by
    touched_congr setRdevminor, hasF_or_self _ fRDEV (by decide)

theorem setIno_local (i : Int) : Local (touches (.setIno i)) (setIno · i) where
  frame G e ht := by
    rw [view_or_flags (e' := setIno e i) rfl (mask_disj (o := .ino) (by decide) (by rintro rfl; cases ht))]
    cases G <;> first | rfl | cases ht
  congr G e1 e2 ht h := by
    touched_congr setIno, hasF_or_self _ fINO (by decide), hasF_or_disj _ fINO fRDEV (by decide)

theorem setNlink_local (n : Nat) : Local (touches (.setNlink n)) (setNlink · n) where
  frame G e ht := by cases G <;> first | rfl | cases ht
  congr G e1 e2 ht h := by
    touched_congr setNlink

theorem setUid_local (u : Int) : Local (touches (.setUid u)) (setUid · u) where
  frame G e ht := by
    rw [view_or_flags (e' := setUid e u) rfl (mask_disj (o := .uid) (by decide) (by rintro rfl; cases ht))]
    cases G <;> first | rfl | cases ht
  congr G e1 e2 ht h := by
    touched_congr setUid, hasF_or_self _ fUID (by decide), hasF_or_disj _ fUID fRDEV (by decide)

theorem setGid_local (g : Int) : Local (touches (.setGid g)) (setGid · g) where
  frame G e ht := by
    rw [view_or_flags (e' := setGid e g) rfl (mask_disj (o := .gid) (by decide) (by rintro rfl; cases ht))]
    cases G <;> first | rfl | cases ht
  congr G e1 e2 ht h := by
    touched_congr setGid, hasF_or_self _ fGID (by decide), hasF_or_disj _ fGID fRDEV (by decide)

theorem mask_mode {G : Group} (h : G ≠ .filetype) (h' : G ≠ .perm) : (fPERM ||| fFILETYPE) &&& G.mask = 0 := by
  simpa [h, h'] using of_allGroups
    (p := fun G => G == .filetype || G == .perm || (fPERM ||| fFILETYPE) &&& G.mask == 0) (by decide) G
theorem hasF_mode_filetype (s : Flags) : hasF (s ||| (fPERM ||| fFILETYPE)) fFILETYPE = true := by
  rw [hasF_or_assoc]; exact hasF_or_self _ _ (by decide)
theorem hasF_mode_perm (s : Flags) : hasF (s ||| (fPERM ||| fFILETYPE)) fPERM = true := by
  rw [hasF_or_assoc, hasF_or_disj _ _ _ (by decide)]; exact hasF_or_self _ _ (by decide)

theorem setMode_local (m : BitVec 32) : Local (touches (.setMode m)) (setMode · m) where
  frame G e ht := by
    rw [view_or_flags (e' := setMode e m) rfl (mask_mode (by rintro rfl; cases ht) (by rintro rfl; cases ht))]
    cases G <;> first | rfl | cases ht
  congr G e1 e2 ht h := by
    touched_congr setMode, hasF_mode_filetype, hasF_mode_perm, hasF_or_disj _ (fPERM ||| fFILETYPE) fHARDLINK (by decide),
      hasF_or_disj _ (fPERM ||| fFILETYPE) fSYMLINK (by decide), hasF_or_disj _ (fPERM ||| fFILETYPE) fRDEV (by decide)

theorem setPerm_local (p : BitVec 32) : Local (touches (.setPerm p)) (setPerm · p) where
  frame G e ht := by
    rw [view_or_flags (e' := setPerm e p) rfl (mask_disj (o := .perm) (by decide) (by rintro rfl; cases ht))]
    cases G <;> first | rfl | cases ht | skip
    case filetype => exact congrArg (fun m => ({ bits := [e.has fFILETYPE], bvs := [m] } : View)) (bv_perm_ft _ _ _)
  congr G e1 e2 ht h := by
    touched_congr setPerm, bv_perm_perm, hasF_or_self _ fPERM (by decide), hasF_or_disj _ fPERM fHARDLINK (by decide),
      hasF_or_disj _ fPERM fSYMLINK (by decide), hasF_or_disj _ fPERM fRDEV (by decide)

theorem setFiletype_local (t : BitVec 32) : Local (touches (.setFiletype t)) (setFiletype · t) where
  frame G e ht := by
    rw [view_or_flags (e' := setFiletype e t) rfl (mask_disj (o := .filetype) (by decide) (by rintro rfl; cases ht))]
    cases G <;> first | rfl | cases ht | skip
    case perm => exact congrArg (fun m => ({ bits := [e.has fPERM], bvs := [m] } : View)) (bv_ft_perm _ _ _)
  congr G e1 e2 ht h := by
    touched_congr setFiletype, bv_ft_ft, hasF_or_self _ fFILETYPE (by decide), hasF_or_disj _ fFILETYPE fHARDLINK (by decide),
      hasF_or_disj _ fFILETYPE fSYMLINK (by decide), hasF_or_disj _ fFILETYPE fRDEV (by decide)

theorem setStr_local (f : StrField) (v : Option Bytes) : Local (touches (.setStr f v)) (setStr f · v) where
  frame G e ht := by
    cases f <;> cases G <;> first | rfl | cases ht | (rename_i f'; cases f' <;> first | rfl | cases ht)
  congr G e1 e2 ht h := by cases f <;> touched_congr setStr, Entry.str

theorem setFflags_local (s c : Nat) : Local (touches (.setFflags s c)) (setFflags · s c) where
  frame G e ht := by cases G <;> first | rfl | cases ht
  congr G e1 e2 ht h := by
    touched_congr setFflags

theorem copyFflagsText_local (s : Bytes) : Local (touches (.copyFflagsText s)) (copyFflagsText · s) where
  frame G e ht := by cases G <;> first | rfl | cases ht
  congr G e1 e2 ht h := by
    touched_congr copyFflagsText

theorem fflagsText_local : Local (touches (.fflagsText)) (fflagsText · |>.1) where
  frame G e ht := by cases G <;> first | rfl | cases ht
  congr G e1 e2 ht h := by
    touched_congr fflagsText, fflagsTextV

theorem setSymlinkType_local (t : Int) : Local (touches (.setSymlinkType t)) (setSymlinkType · t) where
  frame G e ht := by cases G <;> first | rfl | cases ht
  congr G e1 e2 ht h := by
    touched_congr setSymlinkType

theorem setIsDataEncrypted_local (b : Bool) : Local (touches (.setIsDataEncrypted b)) (setIsDataEncrypted · b) where
  frame G e ht := by cases b <;> cases G <;> first | rfl | cases ht
  congr G e1 e2 ht h := by
    cases b <;> touched_congr setIsDataEncrypted, cond_true, cond_false

theorem setIsMetadataEncrypted_local (b : Bool) : Local (touches (.setIsMetadataEncrypted b)) (setIsMetadataEncrypted · b) where
  frame G e ht := by cases b <;> cases G <;> first | rfl | cases ht
  congr G e1 e2 ht h := by
    cases b <;> touched_congr setIsMetadataEncrypted, cond_true, cond_false

theorem sparseAdd_local (o l : Int) : Local (touches (.sparseAdd o l)) (sparseAdd · o l) where
  frame G e ht := by cases G <;> first | rfl | cases ht
  congr G e1 e2 ht h := by
    touched_congr sparseAdd, size

theorem sparseClear_local : Local (touches (.sparseClear)) sparseClear where
  frame G e ht := by cases G <;> first | rfl | cases ht
  congr G e1 e2 ht h := by
    touched_congr sparseClear

theorem sparseNext_local : Local (touches (.sparseNext)) (sparseNext · |>.1) where
  frame G e ht := by cases G <;> first | rfl | cases ht
  congr G e1 e2 ht h := by
    touched_congr sparseNext

theorem xattrAdd_local (n v : Bytes) : Local (touches (.xattrAdd n v)) (xattrAdd · n v) where
  frame G e ht := by cases G <;> first | rfl | cases ht
  congr G e1 e2 ht h := by
    touched_congr xattrAdd

theorem xattrClear_local : Local (touches (.xattrClear)) xattrClear where
  frame G e ht := by cases G <;> first | rfl | cases ht
  congr G e1 e2 ht h := by
    touched_congr xattrClear

theorem xattrReset_local : Local (touches (.xattrReset)) (xattrReset · |>.1) where
  frame G e ht := by cases G <;> first | rfl | cases ht
  congr G e1 e2 ht h := by
    touched_congr xattrReset

theorem xattrNext_local : Local (touches (.xattrNext)) (xattrNext · |>.1) where
  frame G e ht := by cases G <;> first | rfl | cases ht
  congr G e1 e2 ht h := by
    touched_congr xattrNext

theorem copyMacMetadata_local (v : Option Bytes) : Local (touches (.copyMacMetadata v)) (copyMacMetadata · v) where
  frame G e ht := by cases G <;> first | rfl | cases ht
  congr G e1 e2 ht h := by
    touched_congr copyMacMetadata

theorem setDigest_local (t : Int) (d : Bytes) : Local (touches (.setDigest t d)) (setDigest · t d |>.1) where
  frame G e ht := by cases G <;> first | rfl | cases ht
  congr G e1 e2 ht h := by
    touched_congr setDigest

theorem sparseCount_local : Local (touches .sparseCount) (sparseCount · |>.1) where
  frame G e ht := by
    rw [sparseCount_fst, view_cond]
    cases sparseWhole (size e) e.sparse
    · rfl
    · exact sparseClear_local.frame G e ht
  congr G e1 e2 ht h := by
    simp only [sparseCount_fst, view_cond]
    touched_congr size, sparseClear

theorem sparseReset_local : Local (touches .sparseReset) (sparseReset · |>.1) where
  frame G e ht := by
    refine (sparseCount_local.frame G _ ht).trans ?_
    cases G <;> first | rfl | cases ht
  congr G e1 e2 ht h := by
    refine sparseCount_local.congr G _ _ ht ?_
    touched_congr sparseReset

theorem stat_local : Local (touches .stat) (stat · |>.1) where
  frame G e ht := by cases G <;> first | rfl | cases ht
  congr G e1 e2 ht h := by
    touched_congr stat, statOf, timeSec, timeNsec, dev, gid, uid, ino, nlink, rdev, rdevIsSet, size, mode
    rfl

theorem clear_local : Local (touches .clear) clear where
  frame G e ht := by cases ht
  congr G e1 e2 ht h := rfl

/-- `e'` differs from `e` at most in the two link flags and the link target. -/
def LinkOnly (e' e : Entry) : Prop :=
  (∀ k, fHARDLINK &&& k = 0 → fSYMLINK &&& k = 0 → e'.ae_set &&& k = e.ae_set &&& k) ∧
  { e' with ae_set := e.ae_set, ae_linkname := e.ae_linkname } = e

theorem LinkOnly.frame {G : Group} {e e' : Entry} (h : LinkOnly e' e) (hG : G ≠ .link) (hG' : G ≠ .strmode) :
    view G e' = view G e := by
  obtain ⟨h1, h2⟩ := mask_link hG hG'
  rw [view_withFlags G e' e.ae_set (h.1 _ h1 h2)]
  conv => rhs; rw [← h.2]
  cases G <;> first | rfl | exact absurd rfl hG | exact absurd rfl hG'

theorem setHardlink_linkOnly (e : Entry) (v : Option Bytes) : LinkOnly (setHardlink e v) e := by
  cases v
  · unfold setHardlink
    dsimp only
    generalize Entry.has _ fSYMLINK = c
    cases c
    · exact ⟨fun k h1 h2 => (bv_andnot_and_disj _ _ _ h2).trans (bv_andnot_and_disj _ _ _ h1), rfl⟩
    · exact ⟨fun k h1 _ => bv_andnot_and_disj _ _ _ h1, rfl⟩
  · exact ⟨fun k h1 h2 => (bv_andnot_and_disj _ _ _ h2).trans (bv_or_and_disj _ _ _ h1), rfl⟩

theorem copyHardlink_linkOnly (e : Entry) (v : Option Bytes) : LinkOnly (copyHardlink e v) e := by
  unfold copyHardlink
  generalize Entry.has _ fSYMLINK = c
  cases v <;> cases c
  · exact ⟨fun k h1 h2 => (bv_andnot_and_disj _ _ _ h1).trans (bv_andnot_and_disj _ _ _ h2), rfl⟩
  · exact ⟨fun _ _ _ => rfl, rfl⟩
  all_goals exact ⟨fun k h1 h2 => (bv_or_and_disj _ _ _ h1).trans (bv_andnot_and_disj _ _ _ h2), rfl⟩

theorem setSymlink_linkOnly (e : Entry) (v : Option Bytes) : LinkOnly (setSymlink e v) e := by
  unfold setSymlink
  generalize Entry.has _ fHARDLINK = c
  cases v <;> cases c
  · exact ⟨fun k h1 h2 => (bv_andnot_and_disj _ _ _ h2).trans (bv_andnot_and_disj _ _ _ h1), rfl⟩
  · exact ⟨fun _ _ _ => rfl, rfl⟩
  all_goals exact ⟨fun k h1 h2 => (bv_or_and_disj _ _ _ h2).trans (bv_andnot_and_disj _ _ _ h1), rfl⟩

theorem setLink_linkOnly (e : Entry) (v : Option Bytes) : LinkOnly (setLink e v) e := by
  unfold setLink
  dsimp only
  generalize Entry.has _ fSYMLINK = c
  cases c
  · exact ⟨fun k h1 _ => bv_or_and_disj _ _ _ h1, rfl⟩
  · exact ⟨fun _ _ _ => rfl, rfl⟩

theorem setLinkToHardlink_linkOnly (e : Entry) : LinkOnly (setLinkToHardlink e) e := by
  unfold setLinkToHardlink
  generalize Entry.has _ fSYMLINK = c
  cases c
  · exact ⟨fun k h1 _ => bv_or_and_disj _ _ _ h1, rfl⟩
  · exact ⟨fun k h1 h2 => (bv_or_and_disj _ _ _ h1).trans (bv_andnot_and_disj _ _ _ h2), rfl⟩

theorem setLinkToSymlink_linkOnly (e : Entry) : LinkOnly (setLinkToSymlink e) e := by
  unfold setLinkToSymlink
  generalize Entry.has _ fHARDLINK = c
  cases c
  · exact ⟨fun k _ h2 => bv_or_and_disj _ _ _ h2, rfl⟩
  · exact ⟨fun k h1 h2 => (bv_or_and_disj _ _ _ h2).trans (bv_andnot_and_disj _ _ _ h1), rfl⟩

/-- What the link setters act on: the two flags and the one target string they share. -/
structure Link where
  hard : Bool
  sym : Bool
  target : Option Bytes

def Entry.link (e : Entry) : Link := ⟨e.has fHARDLINK, e.has fSYMLINK, e.ae_linkname⟩

theorem hardlink_eq (e : Entry) : hardlink e = bif e.link.hard then e.link.target else none := by
  unfold hardlink Entry.link; cases e.has fHARDLINK <;> rfl
theorem symlink_eq (e : Entry) : symlink e = bif e.link.sym then e.link.target else none := by
  unfold symlink Entry.link; cases e.has fSYMLINK <;> rfl
theorem hardlinkIsSet_eq (e : Entry) : hardlinkIsSet e = e.link.hard := rfl

/- The specs below: split on the flag the setter tests; what remains are tests of a flag word the setter
has just or-ed a flag into or masked one out of. -/

theorem setHardlink_link (e : Entry) (v : Option Bytes) : (setHardlink e v).link =
    match v with
    | some s => ⟨true, false, some s⟩
    | none => ⟨false, e.link.sym, bif e.link.sym then e.link.target else none⟩ := by
  cases v <;> cases h : hasF e.ae_set fSYMLINK <;>
    simp (disch := decide) only [setHardlink, Entry.link, Entry.has, h, hasF_or_self, hasF_andnot_self, hasF_andnot_disj,
      cond_true, cond_false]

theorem copyHardlink_link (e : Entry) (v : Option Bytes) : (copyHardlink e v).link =
    match v with
    | some s => ⟨true, false, some s⟩
    | none => ⟨e.link.hard && e.link.sym, e.link.sym, bif e.link.sym then e.link.target else none⟩ := by
  cases v <;> cases h : hasF e.ae_set fSYMLINK <;>
    simp (disch := decide) only [copyHardlink, Entry.link, Entry.has, h, hasF_or_self, hasF_or_disj, hasF_andnot_self,
      hasF_andnot_disj, Option.isNone_none, Option.isNone_some, Option.isSome_none, Option.isSome_some,
      Bool.and_true, Bool.and_false, cond_true, cond_false]

theorem setSymlink_link (e : Entry) (v : Option Bytes) : (setSymlink e v).link =
    match v with
    | some s => ⟨false, true, some s⟩
    | none => ⟨e.link.hard, e.link.hard && e.link.sym, bif e.link.hard then e.link.target else none⟩ := by
  cases v <;> cases h : hasF e.ae_set fHARDLINK <;>
    simp (disch := decide) only [setSymlink, Entry.link, Entry.has, h, hasF_or_self, hasF_or_disj, hasF_andnot_self,
      hasF_andnot_disj, Option.isNone_none, Option.isNone_some,
      Bool.and_true, Bool.and_false, Bool.true_and, Bool.false_and, cond_true, cond_false]

theorem setLink_link (e : Entry) (v : Option Bytes) :
    (setLink e v).link = ⟨e.link.hard || !e.link.sym, e.link.sym, v⟩ := by
  cases h : hasF e.ae_set fSYMLINK <;>
    simp (disch := decide) only [setLink, Entry.link, Entry.has, h, hasF_or_self, hasF_or_disj, Bool.not_true,
      Bool.not_false, Bool.or_true, Bool.or_false, cond_true, cond_false]

theorem setLinkToHardlink_link (e : Entry) : (setLinkToHardlink e).link = ⟨true, false, e.link.target⟩ := by
  cases h : hasF e.ae_set fSYMLINK <;>
    simp (disch := decide) only [setLinkToHardlink, Entry.link, Entry.has, h, hasF_or_self, hasF_or_disj, hasF_andnot_self,
      cond_true, cond_false]

theorem setLinkToSymlink_link (e : Entry) : (setLinkToSymlink e).link = ⟨false, true, e.link.target⟩ := by
  cases h : hasF e.ae_set fHARDLINK <;>
    simp (disch := decide) only [setLinkToSymlink, Entry.link, Entry.has, h, hasF_or_self, hasF_or_disj, hasF_andnot_self,
      cond_true, cond_false]

theorem Local.of_link {X : Entry → Entry} (hf : ∀ e, LinkOnly (X e) e)
    (hl : ∀ e1 e2, e1.link = e2.link → (X e1).link = (X e2).link) :
    Local (fun G => G == .link || G == .strmode) X where
  frame G e ht := (hf e).frame (by rintro rfl; cases ht) (by rintro rfl; cases ht)
  congr G e1 e2 ht h := by
    have hm : ∀ e, (X e).mode = e.mode := fun e =>
      show Entry.mode { X e with ae_set := e.ae_set, ae_linkname := e.ae_linkname } = _ from congrArg Entry.mode (hf e).2
    simp only [Bool.or_eq_true, beq_iff_eq] at ht
    rcases ht with rfl | rfl
    all_goals simp only [view, View.mk.injEq, List.cons.injEq, and_true, true_and] at h
    all_goals have := hl e1 e2 (by simp only [Entry.link, h])
    all_goals simp only [Entry.link, Link.mk.injEq] at this
    all_goals simp only [view, this, hm, h]

theorem setHardlink_local (v : Option Bytes) : Local (touches (.setHardlink v)) (setHardlink · v) :=
  .of_link (setHardlink_linkOnly · v) fun e1 e2 h => by rw [setHardlink_link, setHardlink_link, h]
theorem copyHardlink_local (v : Option Bytes) : Local (touches (.copyHardlink v)) (copyHardlink · v) :=
  .of_link (copyHardlink_linkOnly · v) fun e1 e2 h => by rw [copyHardlink_link, copyHardlink_link, h]
theorem setSymlink_local (v : Option Bytes) : Local (touches (.setSymlink v)) (setSymlink · v) :=
  .of_link (setSymlink_linkOnly · v) fun e1 e2 h => by rw [setSymlink_link, setSymlink_link, h]
theorem setLink_local (v : Option Bytes) : Local (touches (.setLink v)) (setLink · v) :=
  .of_link (setLink_linkOnly · v) fun e1 e2 h => by rw [setLink_link, setLink_link, h]
theorem setLinkToHardlink_local : Local (touches .setLinkToHardlink) setLinkToHardlink :=
  .of_link setLinkToHardlink_linkOnly fun e1 e2 h => by rw [setLinkToHardlink_link, setLinkToHardlink_link, h]
theorem setLinkToSymlink_local : Local (touches .setLinkToSymlink) setLinkToSymlink :=
  .of_link setLinkToSymlink_linkOnly fun e1 e2 h => by rw [setLinkToSymlink_link, setLinkToSymlink_link, h]

end LA.Entry
