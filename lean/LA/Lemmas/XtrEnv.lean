/-
Helper lemmas for C04: the process environment.  No call changes the
umask; the working directory is moved only by `chdir` inside
`edit_deep_directories` and is put back by `fchdir(restore_pwd)` before
`archive_write_header` returns — for pathnames of any length.
-/
import LA.Lemmas.XtrConfine
namespace LA.Xtr
open LA.FS LA.PathClean

/-- Calls that neither move the process nor touch `restore_pwd`. -/
def Plain : Sys → Prop
  | .chdir _ | .rOpenCwd | .rFchdir | .rClose => False
  | _ => True

theorem ownCall_plain {name : List Nat} {s : Sys} (h : OwnCall name s) : Plain s := by
  cases s <;> first | trivial | exact h

/-- Working directory, `restore_pwd` and umask of `pr'` are those of `pr`. -/
structure SameEnv (pr pr' : Proc) : Prop where
  cwd : pr'.cwd = pr.cwd
  rfd : pr'.rfd = pr.rfd
  umask : pr'.umask = pr.umask

theorem doUnlink_env (pr : Proc) (b : List Name) (p : List Nat) : SameEnv pr (doUnlink pr b p).2 := by
  unfold doUnlink
  repeat' split
  all_goals exact ⟨rfl, rfl, rfl⟩

theorem exec_plain {s : Sys} (h : Plain s) (pr : Proc) : SameEnv pr (exec s pr).2 := by
  cases s
  case chdir | rOpenCwd | rFchdir | rClose => exact h.elim
  case unlink | unlinkTmp => exact doUnlink_env pr pr.cwd _
  all_goals
    simp only [exec]
    repeat' split
    all_goals first | exact ⟨rfl, rfl, rfl⟩ | exact doUnlink_env pr _ _

theorem exec_umask (s : Sys) (pr : Proc) : (exec s pr).2.umask = pr.umask := by
  by_cases h : Plain s
  · exact (exec_plain h pr).umask
  · -- the four calls that are not plain only set `cwd` or `rfd`
    cases s
    all_goals first
      | exact absurd trivial h
      | simp only [exec]
        repeat' split
        all_goals rfl

theorem run_umask {α} (m : Prog α) (pr : Proc) : (m.run pr).2.umask = pr.umask := by
  induction m generalizing pr with
  | ret a => rfl
  | call s k ih => exact (ih _ _).trans (exec_umask s pr)

theorem plain_keeps (P : List Name → Option (List Name) → Prop) (s : Sys) (pr : Proc) (h : Plain s)
    (hp : P pr.cwd pr.rfd) : P (exec s pr).2.cwd (exec s pr).2.rfd := by
  rw [(exec_plain h pr).cwd, (exec_plain h pr).rfd]; exact hp

theorem triple_plain {α} {m : Prog α} (h : AllCalls Plain m) (P : List Name → Option (List Name) → Prop) :
    Triple (fun pr => P pr.cwd pr.rfd) m (fun _ pr' => P pr'.cwd pr'.rfd) :=
  triple_of_allCalls (plain_keeps P) h

/-! ### the writer's programs are plain, except `edit_deep_directories` -/

theorem plain_checkLoop (fl : XFlags) (ln : Bool) : ∀ (l hd : List Name), AllCalls Plain (checkLoop fl ln hd l) := by
  intro l
  induction l with
  | nil => intro hd; rw [checkLoop]; trivial
  | cons c rest ih =>
    intro hd
    rw [checkLoop]
    refine allCalls_sys_bind trivial (fun r => ?_)
    split
    · trivial
    · trivial
    · refine allCalls_ite (allCalls_sys_bind trivial fun r2 => ?_) trivial
      split <;> first | trivial | exact ih _
    · refine allCalls_ite trivial (allCalls_ite ?_ (allCalls_ite ?_ (allCalls_ite ?_ trivial)))
      · refine allCalls_sys_bind trivial (fun r2 => ?_)
        split <;> trivial
      · refine allCalls_sys_bind trivial (fun r2 => ?_)
        split <;> first | trivial | exact ih _
      · refine allCalls_sys_bind trivial (fun r2 => ?_)
        split
        · trivial
        · trivial
        · refine allCalls_sys_bind trivial (fun r3 => ?_)
          split <;> first | trivial | exact ih _
        · trivial
    · exact allCalls_ite trivial (ih _)

theorem plain_checkSymlinks (fl : XFlags) (ln : Bool) (q : List Nat) : AllCalls Plain (checkSymlinks fl ln q) := by
  unfold checkSymlinks
  refine allCalls_ite trivial (allCalls_sys_bind trivial fun _ => ?_)
  exact allCalls_bind (plain_checkLoop fl ln _ _) (fun _ => allCalls_sys_bind trivial fun _ => trivial)

theorem plain_createDir (fl : XFlags) (um : Nat) (p : List Nat) : AllCalls Plain (createDir fl um p) :=
  (spec_createDir p (fun _ _ => ⟨trivial, trivial, fun _ => trivial⟩) fl um _ p rfl (Or.inl rfl)).calls

theorem plain_createObject (fl : XFlags) (um : Nat) (e : Entry) (name : List Nat) (es : ES) :
    AllCalls Plain (createObject fl um e name es) :=
  (spec_createObject fl um e name es (fun _ => ownCall_plain) (fun _ => trivial)
    (fun _ => ⟨trivial, plain_checkSymlinks fl true⟩)).calls

theorem restoreEntry_plain {J : Proc → Prop} (hJ : ∀ s pr, Plain s → J pr → J (exec s pr).2) (fl : XFlags) (um : Nat)
    (e : Entry) (name : List Nat) (es : ES) : Triple J (restoreEntry fl um e name es) (fun _ => J) :=
  restoreEntry_keeps hJ fl um e name (fun _ => ownCall_plain) (plain_createObject fl um e name)
    (spec_createParentDir name (fun _ _ => ⟨trivial, trivial, fun _ => trivial⟩) fl um).calls es

theorem plain_writeData (w : Writer) (d : List Nat) : AllCalls Plain (writeData w d) := by
  unfold writeData
  split
  · refine allCalls_ite (allCalls_sys_bind trivial fun r => ?_) trivial
    split <;> trivial
  · trivial

theorem plain_finishEntry (w : Writer) : AllCalls Plain (finishEntry w) := by
  unfold finishEntry
  split
  · trivial
  · refine allCalls_bind ?_ (fun r1 => allCalls_bind ?_ (fun r2 => allCalls_bind ?_ (fun _ => trivial)))
    · refine allCalls_ite (allCalls_ite ?_ (allCalls_ite ?_ trivial)) trivial
      · refine allCalls_sys_bind trivial (fun r => ?_)
        split <;> trivial
      · refine allCalls_bind (allCalls_ite (allCalls_sys trivial) (allCalls_sys trivial)) (fun r => ?_)
        split <;> trivial
    · refine allCalls_ite ?_ trivial
      refine allCalls_bind (allCalls_ite (allCalls_sys trivial) (allCalls_sys trivial)) (fun r => ?_)
      split <;> trivial
    · refine allCalls_ite (allCalls_sys_bind trivial fun _ => allCalls_ite ?_ trivial) trivial
      refine allCalls_sys_bind trivial (fun r => ?_)
      split
      · exact allCalls_sys_bind trivial fun _ => trivial
      · trivial

theorem applyFixup_plain {J : Proc → Prop} (hJ : ∀ s pr, Plain s → J pr → J (exec s pr).2) (fl : XFlags) (p : Fixup) :
    Triple J (applyFixup fl p) (fun _ => J) :=
  applyFixup_inv (K := fun _ => J) fl p
    (fun q _ => triple_conseq (fun _ h => h) (triple_of_allCalls hJ (plain_checkSymlinks _ true q)) (fun _ _ h => ⟨h, fun _ => h⟩))
    (fun _ _ h => h) (fun _ s hs => triple_sys_keep (fun pr => hJ s pr (ownCall_plain hs))) (fun _ _ h => h)

theorem close_plain {J : Proc → Prop} (hJ : ∀ s pr, Plain s → J pr → J (exec s pr).2) (w : Writer) :
    Triple J (close w) (fun _ => J) := by
  have hfix : ∀ fl l, Triple J (applyFixups fl l) (fun _ => J) := by
    intro fl l
    induction l with
    | nil => exact triple_skip
    | cons p r ih => unfold applyFixups; exact triple_bind (applyFixup_plain hJ fl p) (fun _ => ih)
  unfold close
  refine triple_bind (triple_of_allCalls hJ (plain_finishEntry w)) (fun r => ?_)
  exact triple_bind (hfix _ _) (fun _ => triple_skip)

/-- The `chdir()`s of `edit_deep_directories` leave `restore_pwd` alone. -/
theorem editLoop_rfd (X : List Name) (fl : XFlags) (um : Nat) :
    ∀ (n : Nat) (name : List Nat), name.length = n →
      Triple (fun pr => pr.rfd = some X) (editLoop fl um name) (fun _ pr' => pr'.rfd = some X) := by
  have hR := plain_keeps (fun _ r => r = some X)
  intro n
  induction n using Nat.strongRecOn with
  | _ n ih =>
    intro name hn
    rw [editLoop]
    split
    · exact triple_skip
    · split
      · exact triple_skip
      · rename_i i hi
        have hpos := slashAtMost_pos name _ i hi
        have hp : pathMax = 4096 := rfl
        refine triple_bind (triple_of_allCalls hR (plain_createDir fl um _)) (fun x => ?_)
        refine triple_bind (Q := fun _ pr' => pr'.rfd = some X) ?_ (fun b => ?_)
        · refine triple_ite (fun _ => triple_bind (triple_sys_keep fun pr hp => ?_) fun _ => triple_skip)
            (fun _ => triple_skip)
          simp only [exec]
          repeat' split
          all_goals exact hp
        · refine triple_ite (fun _ => triple_skip) (fun _ => triple_bind (ih _ ?_ _ rfl) (fun _ => triple_skip))
          simp only [List.length_drop]; omega

/-- The process stands in `X` and holds no `restore_pwd`. -/
def EnvOK (X : List Name) (pr : Proc) : Prop := pr.cwd = X ∧ pr.rfd = none

/-- `archive_write_header`, for a pathname of any length: the working directory is the same
afterwards (and no `restore_pwd` is left open). -/
theorem header_env (X : List Name) (w : Writer) (e : Entry) :
    Triple (EnvOK X) (header w e) (fun _ pr' => EnvOK X pr') := by
  have hJ := plain_keeps (fun c r => c = X ∧ r = none)
  have hR := plain_keeps (fun _ r => r = some X)
  unfold header
  simp only []
  split
  · rename_i name hcl
    refine triple_ite (fun _ => triple_skip) (fun _ => ?_)
    refine triple_bind (triple_sys_keep fun pr => hJ _ pr trivial) (fun u => ?_)
    refine triple_bind (Q := fun _ pr' => EnvOK X pr') ?_ (fun chk => ?_)
    · exact triple_ite (fun _ => triple_of_allCalls hJ (plain_checkSymlinks _ _ _)) (fun _ => triple_skip)
    · refine triple_ite (fun _ => triple_skip) (fun _ => ?_)
      cases hdeep : decide (name.length ≥ pathMax) with
      | false =>
        simp only [Bool.false_eq_true, if_false, prog_pure_bind]
        exact triple_bind (restoreEntry_plain hJ _ _ _ _ _) (fun r => triple_skip)
      | true =>
        simp only [if_true]
        -- restore_pwd = open("."), the chdir()s, restore_entry, fchdir(restore_pwd)
        refine triple_bind (Q := fun _ pr' => pr'.rfd = some X) ?_ (fun x => ?_)
        · refine triple_bind (Q := fun _ pr' => pr'.rfd = some X) ?_ (fun _ => ?_)
          · exact triple_sys fun pr hp => congrArg some hp.1
          · exact editLoop_rfd X _ _ _ _ rfl
        · refine triple_bind (restoreEntry_plain hR _ _ _ _ _) (fun r => ?_)
          refine triple_bind (Q := fun _ pr' => EnvOK X pr') ?_ (fun _ => triple_skip)
          refine triple_bind (Q := fun _ pr' => pr'.cwd = X ∧ pr'.rfd = some X) ?_ (fun r1 => ?_)
          · refine triple_sys fun pr hp => ?_
            simp only [exec, hp]
            exact ⟨trivial, trivial⟩
          · exact triple_bind (Q := fun _ pr' => EnvOK X pr') (triple_sys fun pr hp => ⟨hp.1, rfl⟩) (fun _ => triple_skip)
  · exact triple_skip

theorem envOK_plain {α} {X : List Name} {m : Prog α} (h : AllCalls Plain m) :
    Triple (EnvOK X) m (fun _ pr' => EnvOK X pr') := triple_plain h (fun c r => c = X ∧ r = none)

theorem extractEntry_env (X : List Name) (w : Writer) (e : Entry) :
    Triple (EnvOK X) (extractEntry w e) (fun _ pr' => EnvOK X pr') := by
  unfold extractEntry
  refine triple_bind (header_env X w e) (fun r1 => ?_)
  refine triple_bind (Q := fun _ pr' => EnvOK X pr') ?_ (fun d => ?_)
  · exact triple_ite (fun _ => envOK_plain (plain_writeData _ _)) (fun _ => triple_skip)
  · exact triple_bind (envOK_plain (plain_finishEntry _)) (fun r2 => triple_skip)

theorem extractAll_env (X : List Name) : ∀ (es : List Entry) (w : Writer),
    Triple (EnvOK X) (extractAll w es) (fun _ pr' => EnvOK X pr') := by
  intro es
  induction es with
  | nil => intro w; exact triple_skip
  | cons e es ih =>
    intro w
    unfold extractAll
    refine triple_bind (extractEntry_env X w e) (fun r1 => ?_)
    exact triple_bind (ih _) (fun r2 => triple_skip)

theorem close_env (X : List Name) (w : Writer) : Triple (EnvOK X) (close w) (fun _ pr' => EnvOK X pr') :=
  close_plain (plain_keeps (fun c r => c = X ∧ r = none)) w

/-- A whole extraction, pathnames of any length: the process ends where it started. -/
theorem extractArchive_env (X : List Name) (fl : XFlags) (es : List Entry) :
    Triple (EnvOK X) (extractArchive fl es) (fun _ pr' => EnvOK X pr') := by
  unfold extractArchive
  refine triple_bind (extractAll_env X es _) (fun r => ?_)
  exact triple_bind (close_env X _) (fun r2 => triple_skip)

end LA.Xtr
