/-
`LA.Pm` (model of archive_pathmatch.c): the small loops stay inside the string, the six functions
of the matcher never read outside either string, and the `char` and `wchar_t` copies agree on
7-bit strings.  The last two go by the mutual induction principle of the matcher.
-/
import LA.Lemmas.PmEq
namespace LA.Pm

/-! ### Reads and the small loops stay inside the string
A read or loop that succeeds is (ends) within the string, `X_le`; one that fails started outside it, `X_none`. -/

theorem rd_isSome {s : List Nat} {i : Nat} (h : i ≤ s.length) : ∃ c, rd s i = some c := by
  unfold rd; split
  · exact ⟨_, rfl⟩
  · split
    · exact ⟨_, rfl⟩
    · omega

theorem rd_none_iff {s : List Nat} {i : Nat} : rd s i = none ↔ s.length < i := by
  unfold rd; split
  · simp; omega
  · split <;> simp <;> omega

theorem rd_none_lt {s : List Nat} {i : Nat} (h : rd s i = none) : s.length < i := rd_none_iff.mp h

theorem rd_len (s : List Nat) : rd s s.length = some 0 := by simp [rd]

@[simp] theorem Res.ofBool_true : Res.ofBool true = .yes := rfl
@[simp] theorem Res.ofBool_false : Res.ofBool false = .no := rfl

@[simp] theorem Res.ofBool_ne_oob (b : Bool) : Res.ofBool b ≠ .oob := by
  cases b <;> simp [Res.ofBool]

theorem slashskip_le {s : List Nat} {i j : Nat} (h : slashskip s i = some j) : j ≤ s.length := by
  fun_induction slashskip s i <;> grind [→ rd_le]

theorem slashskip_none {s : List Nat} {i : Nat} (h : slashskip s i = none) : s.length < i := by
  fun_induction slashskip s i <;> grind [rd_none_iff, → rd_lt]

theorem skipStars_le {s : List Nat} {i j : Nat} (h : skipStars s i = some j) : j ≤ s.length := by
  fun_induction skipStars s i <;> grind [→ rd_le]

theorem skipStars_none {s : List Nat} {i : Nat} (h : skipStars s i = none) : s.length < i := by
  fun_induction skipStars s i <;> grind [rd_none_iff, → rd_lt]

theorem skipSlashes_le {s : List Nat} {i j : Nat} (h : skipSlashes s i = some j) : j ≤ s.length := by
  fun_induction skipSlashes s i <;> grind [→ rd_le]

theorem skipSlashes_none {s : List Nat} {i : Nat} (h : skipSlashes s i = none) : s.length < i := by
  fun_induction skipSlashes s i <;> grind [rd_none_iff, → rd_lt]

theorem classEnd_le {s : List Nat} {i j : Nat} (h : classEnd s i = some j) : j ≤ s.length := by
  fun_induction classEnd s i <;> grind [→ rd_le]

theorem classEnd_none {s : List Nat} {i : Nat} (h : classEnd s i = none) : s.length < i := by
  fun_induction classEnd s i <;> grind [rd_none_iff, → rd_lt]

theorem strchrSlash_none {s : List Nat} {i : Nat} (h : strchrSlash s i = none) : s.length < i := by
  fun_induction strchrSlash s i <;> grind [rd_none_iff, → rd_lt]

theorem strchrSlash_le {s : List Nat} {i j : Nat} (h : strchrSlash s i = some (some j)) : j ≤ s.length :=
  rd_le (strchrSlash_at h)

theorem dotSlash_le {s : List Nat} {i j : Nat} (h : dotSlash s i = some j) : j ≤ s.length := by
  unfold dotSlash at h
  grind [→ rd_le, → slashskip_le]

theorem dotSlash_none {s : List Nat} {i : Nat} (h : dotSlash s i = none) : s.length < i := by
  unfold dotSlash at h
  grind [rd_none_iff, → rd_lt, → slashskip_none]

theorem pmListLoop_none {cfg : Cfg} {p : List Nat} {e c i rs : Nat} (h : pmListLoop cfg p e c i rs = none) :
    p.length < e := by
  fun_induction pmListLoop cfg p e c i rs <;> simp_all [rd_none_iff] <;> omega

theorem pmList_none {cfg : Cfg} {p : List Nat} {st e c : Nat} (h : pmList cfg p st e c = none) :
    e < st ∨ p.length < e := by
  unfold pmList at h
  split at h
  · have := rd_none_lt ‹_›; omega
  · split at h
    · exact .inr (pmListLoop_none (Option.map_eq_none_iff.mp h))
    · exact .inr (pmListLoop_none h)

abbrev Safe (f : Cfg → List Nat → List Nat → Flags → Nat → Nat → Res) (cfg : Cfg) (p s : List Nat) :
    Flags → Nat → Nat → Prop :=
  fun fl pi si => pi ≤ p.length → si ≤ s.length → f cfg p s fl pi si ≠ .oob

theorem both_some {a b : Option Nat} (ha : a ≠ none) (hb : b ≠ none)
    (h : ∀ x y, a = some x → b = some y → False) : False := by
  cases a with
  | none => exact ha rfl
  | some x =>
    cases b with
    | none => exact hb rfl
    | some y => exact h x y rfl rfl

/-- The six functions of the matcher never read outside either string (repaired code). -/
theorem safe_all (cfg : Cfg) (hg : cfg.guardClass = true) (p s : List Nat) :
    (∀ fl pi si, Safe matchAt cfg p s fl pi si) ∧
    (∀ fl pi si, Safe matchBody cfg p s fl pi si) ∧
    (∀ fl pi si, Safe unanch cfg p s fl pi si) ∧
    (∀ fl pi si, Safe pm cfg p s fl pi si) ∧
    (∀ fl pi si, Safe pmLoop cfg p s fl pi si) ∧
    (∀ fl pi si, Safe star cfg p s fl pi si) := by
  apply matchAt.mutual_induct cfg p s (motive1 := Safe matchAt cfg p s) (motive2 := Safe matchBody cfg p s)
    (motive3 := Safe unanch cfg p s) (motive4 := Safe pm cfg p s) (motive5 := Safe pmLoop cfg p s)
    (motive6 := Safe star cfg p s)
  all_goals (intros; simp only [Safe, dite_eq_ite] at *; intro hpi hsi)
  -- one goal per branch of the six definitions: unfold the function and let the tests of the
  -- branch select its value
  all_goals (first | rw [matchAt_eq] | rw [matchBody_eq] | rw [unanch_eq] | rw [pm_eq] | rw [pmLoop_eq] | rw [star_eq])
  all_goals simp [*]
  -- the `| _, _ => .oob` branches of `matchBody` and of the `/` case of `pmLoop`
  case case10 =>
    exact both_some (mt skipSlashes_none (Nat.not_lt.mpr hpi)) (mt skipSlashes_none (Nat.not_lt.mpr hsi)) ‹_›
  case case56 =>
    exact both_some (mt slashskip_none (Nat.not_lt.mpr hpi)) (mt slashskip_none (Nat.not_lt.mpr hsi)) ‹_›
  -- left: branches that return `oob` after a failed read, which cannot fail at an index within
  -- the string, and recursive calls, whose indices are again within the strings
  all_goals grind [→ rd_none_lt, → rd_lt, → rd_le, → skipStars_le, → skipStars_none, → skipSlashes_le,
    → slashskip_le, → slashskip_none, → classEnd_le, → classEnd_ge, → classEnd_none, → dotSlash_le, → dotSlash_none,
    → strchrSlash_le, → strchrSlash_none, → pmList_none]

/-! ### Narrow and wide variants agree on 7-bit strings -/

theorem sext_small {bits v : Nat} (hb : 8 ≤ bits) (h : v < 128) : sext bits v = v := by
  have h1 : 2 ^ 7 ≤ 2 ^ (bits - 1) := Nat.pow_le_pow_right (by decide) (by omega)
  have h2 : 2 ^ (bits - 1) ≤ 2 ^ bits := Nat.pow_le_pow_right (by decide) (by omega)
  have : v % 2 ^ bits = v := Nat.mod_eq_of_lt (by omega)
  rw [sext, this, if_pos (by omega)]

def Ascii (s : List Nat) : Prop := ∀ c ∈ s, c < 128

theorem rd_ascii {s : List Nat} (h : Ascii s) {i c : Nat} (hr : rd s i = some c) : c < 128 := by
  unfold rd at hr
  split at hr
  · cases hr; exact h _ (List.getElem_mem _)
  · split at hr
    · cases hr; omega
    · cases hr

theorem narrow_key {v : Nat} (h : v < 128) : narrow.key v = v := sext_small (by decide) h
theorem wide_key {v : Nat} (h : v < 128) : wide.key v = v := sext_small (by decide) h

theorem pmListLoop_nw (p : List Nat) (hp : Ascii p) (e c i rs : Nat) (hc : c < 128) (hrs : rs < 128) :
    pmListLoop narrow p e c i rs = pmListLoop wide p e c i rs := by
  fun_induction pmListLoop narrow p e c i rs
  all_goals rw [pmListLoop.eq_1 wide]
  all_goals simp [*]
  -- left: the range tests and the recursive calls with a new `rs`, all on characters below 128
  all_goals grind [narrow_key, wide_key, → rd_ascii]

theorem pmList_nw (p s : List Nat) (hp : Ascii p) (hs : Ascii s) {si d : Nat} (h : rd s si = some d) (st e : Nat) :
    pmList wide p st e d = pmList narrow p st e d := by
  have hd := rd_ascii hs h
  unfold pmList
  split
  · rfl
  · simp only [pmListLoop_nw p hp e d _ 0 hd (by decide)]

@[simp] theorem narrow_guard : narrow.guardClass = true := rfl
@[simp] theorem wide_guard : wide.guardClass = true := rfl

abbrev NW (f : Cfg → List Nat → List Nat → Flags → Nat → Nat → Res) (p s : List Nat) : Flags → Nat → Nat → Prop :=
  fun fl pi si => f wide p s fl pi si = f narrow p s fl pi si

theorem nw_all (p s : List Nat) (hp : Ascii p) (hs : Ascii s) :
    (∀ fl pi si, NW matchAt p s fl pi si) ∧ (∀ fl pi si, NW matchBody p s fl pi si) ∧
    (∀ fl pi si, NW unanch p s fl pi si) ∧ (∀ fl pi si, NW pm p s fl pi si) ∧
    (∀ fl pi si, NW pmLoop p s fl pi si) ∧ (∀ fl pi si, NW star p s fl pi si) := by
  apply matchAt.mutual_induct narrow p s (motive1 := NW matchAt p s) (motive2 := NW matchBody p s)
    (motive3 := NW unanch p s) (motive4 := NW pm p s) (motive5 := NW pmLoop p s) (motive6 := NW star p s)
  all_goals (intros; simp only [NW, dite_eq_ite] at *)
  all_goals (first
    | rw [matchAt_eq, matchAt_eq narrow] | rw [matchBody_eq, matchBody_eq narrow] | rw [unanch_eq, unanch_eq narrow]
    | rw [pm_eq, pm_eq narrow] | rw [pmLoop_eq, pmLoop_eq narrow] | rw [star_eq, star_eq narrow])
  all_goals simp [*]
  -- left: the `[…]` case, the only place where the two character types are compared
  all_goals simp [*, pmList_nw p s hp hs ‹rd s _ = some _›]

end LA.Pm
