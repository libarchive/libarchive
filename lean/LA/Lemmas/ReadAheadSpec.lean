/-
`__archive_read_filter_ahead`: every pass of its loop leaves the abstract stream alone
(`Same`), and what it finally returns is read off that stream (`Good`).
-/
import LA.Lemmas.ReadAhead
namespace LA.RA

theorem drop_split (l : List Nat) (k n : Nat) (h : k ≤ n) :
    (l.take n).drop k ++ l.drop n = l.drop k := by
  have : l.drop n = (l.drop k).drop (n - k) := by rw [List.drop_drop]; congr 1; omega
  rw [List.drop_take, this, List.take_append_drop]

theorem take_add_drop (l : List Nat) (n t k : Nat) (hk : k ≤ n) (hn : n ≤ l.length) :
    (l.take (n + t)).drop k = (l.take n).drop k ++ (l.drop n).take t := by
  rw [List.take_add, List.drop_append_of_le_length (by rw [List.length_take]; omega)]

theorem take_drop_add (l : List Nat) (n t : Nat) :
    (l.drop n).take t ++ l.drop (n + t) = l.drop n := by
  rw [← List.drop_drop]; exact List.take_append_drop t (l.drop n)

theorem prov_all (s : State) (hi : Inv s) (h : s.cb.length ≤ s.cnext) :
    s.cb = (s.cblk.take s.cnext).drop (s.cnext - s.cb.length) := by
  obtain ⟨old, cur, h1, h2, h3, h4⟩ := hi.prov
  by_cases ho : old = []
  · subst ho; rw [List.nil_append] at h1; rw [h1]; exact h3
  · have := h4 ho
    have : s.cb.length = old.length + cur.length := by rw [h1, List.length_append]
    have : old.length > 0 := List.length_pos_iff.mpr ho
    omega

/-- Neither the copy buffer nor copy buffer and client block together satisfy the request. -/
def NeedsMore (s : State) (min : Nat) : Prop :=
  ¬(s.cb.length ≥ min ∧ s.cb.length > 0) ∧
  ¬(s.cblk.length ≥ s.cavail + s.cb.length ∧ s.cavail + s.cb.length ≥ min)

theorem NeedsMore.lt {s : State} {min : Nat} (h : NeedsMore s min) (hi : Inv s) : s.cb.length < min := by
  have := hi.clientEq
  unfold NeedsMore at h
  omega

theorem NeedsMore.moveFwd {s : State} {min : Nat} (h : NeedsMore s min) (m : Nat) : NeedsMore (moveFwd s m) min := by
  obtain ⟨nx, _, _, e⟩ := moveFwd_spec s m
  rw [e]; exact h

def rolledBack (s : State) : State :=
  { s with cavail := s.cavail + s.cb.length, cnext := s.cnext - s.cb.length, cb := [], next := 0 }

/-- The passes of the loop by name: `nextNode`, `fetch` and `copy` go round again, the other nine return. -/
theorem aheadLoop_passes (min : Nat) {motive : State → Prop}
    (copyBuffer : ∀ s, s.cb.length ≥ min ∧ s.cb.length > 0 →
      aheadLoop s min = (.window s.cb true, s) → motive s)
    (rollbackNull : ∀ s, ¬(s.cb.length ≥ min ∧ s.cb.length > 0) →
      s.cblk.length ≥ s.cavail + s.cb.length ∧ s.cavail + s.cb.length ≥ min → s.cblk = [] →
      aheadLoop s min = (.short 0, rolledBack s) → motive s)
    (rollback : ∀ s, ¬(s.cb.length ≥ min ∧ s.cb.length > 0) →
      s.cblk.length ≥ s.cavail + s.cb.length ∧ s.cavail + s.cb.length ≥ min → ¬s.cblk = [] →
      aheadLoop s min =
        (.window (((rolledBack s).cblk.drop (rolledBack s).cnext).take (rolledBack s).cavail) false, rolledBack s) →
      motive s)
    (eofLatched : ∀ s s1, s1 = moveFwd s min → NeedsMore s1 min → s1.cavail = 0 → s1.eof = true →
      aheadLoop s min = (.short s1.cb.length, s1) → motive s)
    (nextNode : ∀ s s1, s1 = moveFwd s min → ¬s1.eof = true → s1.src = [] →
      ∀ nxt more, s1.later = nxt :: more → ∀ t, t = { s1 with src := nxt, later := more } →
      aheadLoop s min = aheadLoop t min → motive t → motive s)
    (endErr : ∀ s s1, s1 = moveFwd s min → NeedsMore s1 min → s1.cavail = 0 → ¬s1.eof = true → s1.src = [] →
      s1.later = [] → s1.term = .err →
      aheadLoop s min = (.fatal, { s1 with cblk := [], cnext := 0, cavail := 0, fatal := true }) → motive s)
    (endEof : ∀ s s1, s1 = moveFwd s min → NeedsMore s1 min → s1.cavail = 0 → ¬s1.eof = true → s1.src = [] →
      s1.later = [] → s1.term = .eof →
      aheadLoop s min = (.short s1.cb.length, { s1 with cblk := [], cnext := 0, cavail := 0, eof := true }) →
      motive s)
    (emptyBlock : ∀ s s1, s1 = moveFwd s min → ∀ rest, s1.src = [] :: rest →
      aheadLoop s min =
        (.short s1.cb.length, { s1 with cblk := [], cnext := 0, cavail := 0, eof := true, src := rest }) →
      motive s)
    (fetch : ∀ s s1, s1 = moveFwd s min → s1.cavail = 0 → ¬s1.eof = true →
      ∀ b bs rest, s1.src = (b :: bs) :: rest →
      ∀ t, t = { s1 with cblk := b :: bs, cnext := 0, cavail := (b :: bs).length, src := rest } →
      aheadLoop s min = aheadLoop t min → motive t → motive s)
    (growFails : ∀ s s1, s1 = moveFwd s min →
      (if min > s1.bufSize then grow s1.bufSize min else some s1.bufSize) = none →
      aheadLoop s min = (.fatal, { s1 with fatal := true }) → motive s)
    (stuck : ∀ s s1, s1 = moveFwd s min → NeedsMore s1 min → ¬s1.cavail = 0 →
      ∀ bs, (if min > s1.bufSize then grow s1.bufSize min else some s1.bufSize) = some bs →
      tocopy (enlarge s1 min bs) min = 0 → aheadLoop s min = (.stuck, enlarge s1 min bs) → motive s)
    (copy : ∀ s s1, s1 = moveFwd s min → NeedsMore s1 min → ¬s1.cavail = 0 →
      ∀ bs, (if min > s1.bufSize then grow s1.bufSize min else some s1.bufSize) = some bs →
      ∀ s2, s2 = enlarge s1 min bs → ¬tocopy s2 min = 0 →
      ∀ t, t = { s2 with cb := s2.cb ++ (s2.cblk.drop s2.cnext).take (tocopy s2 min),
                         cnext := s2.cnext + tocopy s2 min, cavail := s2.cavail - tocopy s2 min } →
      aheadLoop s min = aheadLoop t min → motive t → motive s)
    (s : State) : motive s :=
  aheadLoop.induct_unfolding min (fun s r => aheadLoop s min = r → motive s) copyBuffer rollbackNull rollback
    (fun s h1 h2 hca => eofLatched s _ rfl (.moveFwd ⟨h1, h2⟩ min) (moveFwd_cavail s min ▸ hca))
    (fun s _ _ _ he hs nxt more hl ih e =>
      nextNode s _ rfl he (moveFwd_src s min ▸ hs) nxt more (moveFwd_later s min ▸ hl) _ rfl e (ih rfl))
    (fun s h1 h2 hca he hs hl =>
      endErr s _ rfl (.moveFwd ⟨h1, h2⟩ min) (moveFwd_cavail s min ▸ hca) he (moveFwd_src s min ▸ hs)
        (moveFwd_later s min ▸ hl))
    (fun s h1 h2 hca he hs hl =>
      endEof s _ rfl (.moveFwd ⟨h1, h2⟩ min) (moveFwd_cavail s min ▸ hca) he (moveFwd_src s min ▸ hs)
        (moveFwd_later s min ▸ hl))
    (fun s _ _ _ _ rest hs => emptyBlock s _ rfl rest (moveFwd_src s min ▸ hs))
    (fun s _ _ hca he b bs rest hs ih e =>
      fetch s _ rfl (moveFwd_cavail s min ▸ hca) he b bs rest (moveFwd_src s min ▸ hs) _ rfl e (ih rfl))
    (fun s _ _ _ => growFails s _ rfl)
    (fun s h1 h2 hca => stuck s _ rfl (.moveFwd ⟨h1, h2⟩ min) (moveFwd_cavail s min ▸ hca))
    (fun s h1 h2 hca bs hg htc ih e =>
      copy s _ rfl (.moveFwd ⟨h1, h2⟩ min) (moveFwd_cavail s min ▸ hca) bs hg _ rfl htc _ rfl e (ih rfl))
    s rfl

/-! ### Passes that change the representation only -/

structure Same (s t : State) : Prop where
  inv : Inv t
  rem : remaining t = remaining s
  term : t.term = s.term
  fatal : t.fatal = s.fatal

theorem Same.trans {a b c : State} (h1 : Same a b) (h2 : Same b c) : Same a c :=
  ⟨h2.inv, h2.rem.trans h1.rem, h2.term.trans h1.term, h2.fatal.trans h1.fatal⟩

theorem same_moveFwd {s s1 : State} (hi : Inv s) {m : Nat} (h : s1 = moveFwd s m) : Same s s1 := by
  obtain ⟨nx, hle, _, e⟩ := moveFwd_spec s m
  rw [h, e]
  exact ⟨hi.setBuf (Nat.le_trans (Nat.add_le_add_right hle _) hi.cbIn) hi.bufLt, rfl, rfl, rfl⟩

/-- `client_switch_proxy(cursor + 1)` at the end of a data node. -/
theorem same_nextNode {s : State} (hi : Inv s) (he : ¬ s.eof = true) {nxt : List (List Nat)}
    {more : List (List (List Nat))} (hs : s.src = []) (hl : s.later = nxt :: more) :
    Same s { s with src := nxt, later := more } :=
  ⟨hi.setSource (fun h => absurd h he) (hi.laterOk nxt (by rw [hl]; exact List.mem_cons_self))
      (fun n hn => hi.laterOk n (by rw [hl]; exact List.mem_cons_of_mem _ hn)),
   by simp [remaining, hs, hl], rfl, rfl⟩

/-- The read callback delivers the next block; the client block in hand is used up. -/
theorem same_fetch {s : State} (hi : Inv s) (he : ¬ s.eof = true) (hca : s.cavail = 0) {b : List Nat}
    {rest : List (List Nat)} (hs : s.src = b :: rest) :
    Same s { s with cblk := b, cnext := 0, cavail := b.length, src := rest } := by
  have hok : SrcOk (b :: rest) := hs ▸ hi.srcOk
  refine ⟨(hi.setClient (blk := b) (Nat.zero_add _) (Or.inr rfl)).setSource (fun h => absurd h he) hok.tail
    hi.laterOk, ?_, rfl, rfl⟩
  rw [remaining_drained s hi.clientEq hca, tailBytes, hs]
  simp [remaining]

/-- "Roll back" to the client block: the copy buffer holds exactly the bytes before `cnext`. -/
theorem same_rollback {s : State} (hi : Inv s) (h : s.cb.length ≤ s.cnext) :
    Same s (rolledBack s) ∧
    s.cblk.drop (s.cnext - s.cb.length) = s.cb ++ s.cblk.drop s.cnext := by
  have hc := hi.clientEq
  have hw : s.cblk.drop (s.cnext - s.cb.length) = s.cb ++ s.cblk.drop s.cnext := by
    rw [← drop_split s.cblk (s.cnext - s.cb.length) s.cnext (Nat.sub_le _ _), ← prov_all s hi h]
  have hc' : (s.cnext - s.cb.length) + (s.cavail + s.cb.length) = s.cblk.length := by omega
  refine ⟨⟨{ hi with cbIn := Nat.zero_le _, clientEq := hc',
                     prov := ⟨[], [], rfl, Nat.zero_le _, (take_drop_self _ _).symm, fun h => absurd rfl h⟩ },
           ?_, rfl, rfl⟩, hw⟩
  rw [remaining_eq s hc, remaining_eq _ hc']
  show [] ++ s.cblk.drop (s.cnext - s.cb.length) ++ tailBytes s = _
  rw [hw, List.nil_append]

theorem same_copy {s : State} (hi : Inv s) {tc : Nat} (h1 : tc ≤ s.cavail)
    (h2 : s.next + s.cb.length + tc ≤ s.bufSize) :
    Same s { s with cb := s.cb ++ (s.cblk.drop s.cnext).take tc, cnext := s.cnext + tc,
                    cavail := s.cavail - tc } := by
  have hc := hi.clientEq
  have hlen : ((s.cblk.drop s.cnext).take tc).length = tc := by
    rw [List.length_take, List.length_drop]; omega
  have hc' : (s.cnext + tc) + (s.cavail - tc) = s.cblk.length := by omega
  obtain ⟨old, cur, p1, p2, p3, p4⟩ := hi.prov
  refine ⟨{ hi with cbIn := ?_, clientEq := hc', prov := ⟨old, cur ++ (s.cblk.drop s.cnext).take tc, ?_, ?_, ?_, ?_⟩ },
    ?_, rfl, rfl⟩
  · show s.next + (s.cb ++ _).length ≤ s.bufSize
    rw [List.length_append, hlen]; omega
  · show s.cb ++ _ = _
    rw [p1, List.append_assoc]
  · show (cur ++ _).length ≤ s.cnext + tc
    rw [List.length_append, hlen]; omega
  · show _ = (s.cblk.take (s.cnext + tc)).drop (s.cnext + tc - (cur ++ _).length)
    have : s.cnext + tc - (cur ++ (s.cblk.drop s.cnext).take tc).length = s.cnext - cur.length := by
      rw [List.length_append, hlen]; omega
    rw [this, take_add_drop s.cblk s.cnext tc _ (Nat.sub_le _ _) (by omega), ← p3]
  · intro ho
    rw [List.length_append, hlen, p4 ho]
  · rw [remaining_eq s hc, remaining_eq _ hc']
    show s.cb ++ (s.cblk.drop s.cnext).take tc ++ s.cblk.drop (s.cnext + tc) ++ tailBytes s = _
    rw [List.append_assoc s.cb, take_drop_add]

/-- `moveFwd` and the enlargement of the copy buffer: afterwards `min` bytes fit behind `next`. -/
theorem same_prepare {s : State} (hi : Inv s) {min bs : Nat} (hmin : min ≤ 2 ^ 62)
    (hg : (if min > (moveFwd s min).bufSize then grow (moveFwd s min).bufSize min
           else some (moveFwd s min).bufSize) = some bs) :
    Same s (enlarge (moveFwd s min) min bs) ∧
    (enlarge (moveFwd s min) min bs).next + min ≤ (enlarge (moveFwd s min) min bs).bufSize ∧
    (enlarge (moveFwd s min) min bs).cb = (moveFwd s min).cb ∧
    (enlarge (moveFwd s min) min bs).cavail = (moveFwd s min).cavail := by
  obtain ⟨nx, hle, hroom, e⟩ := moveFwd_spec s min
  rw [e] at hg ⊢
  have hcb := hi.cbIn
  unfold enlarge
  by_cases hgt : min > s.bufSize
  · rw [if_pos hgt] at hg ⊢
    obtain ⟨r, hr1, hr2, hr3⟩ := grow_ok s.bufSize min hi.bufLt hmin hgt
    obtain rfl : r = bs := Option.some.inj (hr1.symm.trans hg)
    exact ⟨⟨hi.setBuf (by omega) hr3, rfl, rfl, rfl⟩, by show 0 + min ≤ r; omega, rfl, rfl⟩
  · rw [if_neg hgt] at hg ⊢
    exact ⟨⟨hi.setBuf (by omega) hi.bufLt, rfl, rfl, rfl⟩, by show nx + min ≤ s.bufSize; omega, rfl, rfl⟩

theorem tocopy_room {s : State} {min : Nat} (hroom : s.next + min ≤ s.bufSize) (hlt : s.cb.length < min)
    (hca : 0 < s.cavail) : 0 < tocopy s min ∧ s.next + s.cb.length + tocopy s min ≤ s.bufSize := by
  unfold tocopy
  simp only []
  split <;> split <;> omega

def Good (s : State) (min : Nat) (r : AheadR × State) : Prop :=
  Inv r.2 ∧ remaining r.2 = remaining s ∧
  (match r.1 with
   | .window w _ => w <+: remaining s ∧ min ≤ w.length ∧ r.2.fatal = false
   | .short k => r.2.fatal = false ∧
       ((min = 0 ∧ k = 0) ∨ ((remaining s).length < min ∧ k = (remaining s).length ∧ s.term = .eof))
   | .fatal => r.2.fatal = true ∧ (remaining s).length < min ∧ s.term = .err
   | .stuck => False)

theorem Good.of_same {s s1 : State} {min : Nat} {r : AheadR × State} (h : Same s s1) (g : Good s1 min r) :
    Good s min r := by
  unfold Good at *
  rw [h.rem, h.term] at g
  exact g

theorem remaining_end {s : State} (hi : Inv s) (hca : s.cavail = 0) (hs : s.src = []) (hl : s.later = []) :
    remaining s = s.cb := by
  rw [remaining_drained s hi.clientEq hca, tailBytes, hs, hl]; exact List.append_nil _

theorem remaining_short {s : State} {min : Nat} (hi : Inv s) (h : NeedsMore s min) (hca : s.cavail = 0)
    (hs : s.src = []) (hl : s.later = []) : s.cb = remaining s ∧ (remaining s).length < min :=
  have e := remaining_end hi hca hs hl
  ⟨e.symm, e ▸ h.lt hi⟩

/-- End of input met (or latched before) with fewer than `min` bytes buffered: the client block
is given up, and `e` is the new end-of-file latch. -/
theorem good_end {s : State} (hi : Inv s) (hca : s.cavail = 0) (hs : s.src = []) (hl : s.later = [])
    (e : Bool) (he : e = true → s.term = .eof) :
    Inv { s with cblk := [], cnext := 0, cavail := 0, eof := e } ∧
    remaining { s with cblk := [], cnext := 0, cavail := 0, eof := e } = remaining s :=
  ⟨(hi.setClient (blk := []) rfl (Or.inr rfl)).setSource (fun h => ⟨hs, hl, he h⟩) hi.srcOk hi.laterOk, by
    rw [remaining_end hi hca hs hl]
    simp [remaining, hs, hl]⟩

theorem aheadLoop_spec (s : State) (min : Nat) (hi : Inv s) (hf : s.fatal = false) (hmin : min ≤ 2 ^ 62) :
    Good s min (aheadLoop s min) := by
  induction s using aheadLoop_passes min with
  | copyBuffer s h e =>
    rw [e]
    exact ⟨hi, rfl, ⟨_, (List.append_assoc _ _ _).symm⟩, h.1, hf⟩
  | rollbackNull s h1 h2 h3 e =>
    rw [e]
    have hc := hi.clientEq
    obtain ⟨hs, _⟩ := same_rollback hi (by omega)
    have : s.cblk.length = 0 := by rw [h3]; rfl
    exact ⟨hs.inv, hs.rem, hf, Or.inl ⟨by omega, rfl⟩⟩
  | rollback s h1 h2 h3 e =>
    rw [e]
    have hc := hi.clientEq
    obtain ⟨hs, hw⟩ := same_rollback hi (by omega)
    have hw' : ((rolledBack s).cblk.drop (rolledBack s).cnext).take (rolledBack s).cavail =
        s.cb ++ s.cblk.drop s.cnext := (client_take _ hs.inv.clientEq).trans hw
    refine ⟨hs.inv, hs.rem, ?_, ?_, hf⟩
    · rw [hw', remaining_eq s hc]; exact ⟨_, rfl⟩
    · rw [hw', List.length_append, List.length_drop]; omega
  | eofLatched s s1 e1 h hca he e =>
    rw [e]
    have hs1 := same_moveFwd hi e1
    obtain ⟨hsrc, hlat, hterm⟩ := hs1.inv.eofSrc he
    obtain ⟨hrem, hlt⟩ := remaining_short hs1.inv h hca hsrc hlat
    exact .of_same hs1 ⟨hs1.inv, rfl, hs1.fatal.trans hf, Or.inr ⟨hlt, by rw [hrem], hterm⟩⟩
  | nextNode s s1 e1 he hsrc nxt more hlat t ht e ih =>
    rw [e]
    have hs1 := same_moveFwd hi e1
    have hs : Same s t := hs1.trans (ht ▸ same_nextNode hs1.inv he hsrc hlat)
    exact .of_same hs (ih hs.inv (hs.fatal.trans hf))
  | endErr s s1 e1 h hca he hsrc hlat hterm e =>
    rw [e]
    have hs1 := same_moveFwd hi e1
    obtain ⟨g1, g2⟩ := good_end hs1.inv hca hsrc hlat s1.eof (fun h => absurd h he)
    exact .of_same hs1 ⟨{ g1 with }, g2, rfl, (remaining_short hs1.inv h hca hsrc hlat).2, hterm⟩
  | endEof s s1 e1 h hca he hsrc hlat hterm e =>
    rw [e]
    have hs1 := same_moveFwd hi e1
    obtain ⟨g1, g2⟩ := good_end hs1.inv hca hsrc hlat true (fun _ => hterm)
    obtain ⟨hrem, hlt⟩ := remaining_short hs1.inv h hca hsrc hlat
    exact .of_same hs1 ⟨g1, g2, hs1.fatal.trans hf, Or.inr ⟨hlt, by rw [hrem], hterm⟩⟩
  | emptyBlock s s1 e1 rest hsrc e =>
    have hs1 := same_moveFwd hi e1
    exact absurd rfl (hs1.inv.srcOk [] (by rw [hsrc]; exact List.mem_cons_self))
  | fetch s s1 e1 hca he b bs rest hsrc t ht e ih =>
    rw [e]
    have hs1 := same_moveFwd hi e1
    have hs : Same s t := hs1.trans (ht ▸ same_fetch hs1.inv he hca hsrc)
    exact .of_same hs (ih hs.inv (hs.fatal.trans hf))
  | growFails s s1 e1 hg e =>
    have hs1 := same_moveFwd hi e1
    split at hg
    · rename_i hgt
      obtain ⟨r, hr1, _, _⟩ := grow_ok s1.bufSize min hs1.inv.bufLt hmin hgt
      rw [hr1] at hg; cases hg
    · cases hg
  | stuck s s1 e1 h hca bs hg htc e =>
    subst e1
    obtain ⟨_, hroom, e1, e4⟩ := same_prepare hi hmin hg
    have := (tocopy_room hroom (e1 ▸ h.lt (same_moveFwd hi rfl).inv) (by rw [e4]; omega)).1
    exact absurd htc (Nat.ne_of_gt this)
  | copy s s1 e1 h hca bs hg s2 hs2 htc t ht e ih =>
    rw [e]
    subst e1 hs2
    obtain ⟨hs2, hroom, e1, e4⟩ := same_prepare hi hmin hg
    have hfit := (tocopy_room hroom (e1 ▸ h.lt (same_moveFwd hi rfl).inv) (by rw [e4]; omega)).2
    have hs : Same s t := hs2.trans (ht ▸ same_copy hs2.inv (tocopy_le _ min) hfit)
    exact .of_same hs (ih hs.inv (hs.fatal.trans hf))

/-! ### What the loop leaves alone, and where the window it returns lives -/

theorem aheadLoop_frame (s : State) (min : Nat) :
    Win s (aheadLoop s min).2 ∧
    ∀ w fc, (aheadLoop s min).1 = .window w fc →
      (fc = true ∧ w = (aheadLoop s min).2.cb) ∨
      (fc = false ∧ (aheadLoop s min).2.cb = [] ∧
        w = ((aheadLoop s min).2.cblk.drop (aheadLoop s min).2.cnext).take (aheadLoop s min).2.cavail) := by
  induction s using aheadLoop_passes min with
  | copyBuffer s h e =>
    rw [e]
    exact ⟨rfl, fun w fc e => by cases e; exact Or.inl ⟨rfl, rfl⟩⟩
  | rollbackNull s h1 h2 h3 e =>
    rw [e]
    exact ⟨rfl, nofun⟩
  | rollback s h1 h2 h3 e =>
    rw [e]
    exact ⟨rfl, fun w fc e => by cases e; exact Or.inr ⟨rfl, rfl, rfl⟩⟩
  | eofLatched s s1 e1 h hca he e =>
    rw [e]
    exact ⟨.of_moveFwd e1 rfl, nofun⟩
  | nextNode s s1 e1 he hsrc nxt more hlat t ht e ih =>
    rw [e]
    exact ⟨.of_moveFwd e1 (.step ih.1 (ht ▸ rfl)), ih.2⟩
  | endErr s s1 e1 h hca he hsrc hlat hterm e =>
    rw [e]
    exact ⟨.of_moveFwd e1 rfl, nofun⟩
  | endEof s s1 e1 h hca he hsrc hlat hterm e =>
    rw [e]
    exact ⟨.of_moveFwd e1 rfl, nofun⟩
  | emptyBlock s s1 e1 rest hsrc e =>
    rw [e]
    exact ⟨.of_moveFwd e1 rfl, nofun⟩
  | fetch s s1 e1 hca he b bs rest hsrc t ht e ih =>
    rw [e]
    exact ⟨.of_moveFwd e1 (.step ih.1 (ht ▸ rfl)), ih.2⟩
  | growFails s s1 e1 hg e =>
    rw [e]
    exact ⟨.of_moveFwd e1 rfl, nofun⟩
  | stuck s s1 e1 h hca bs hg htc e =>
    rw [e]
    exact ⟨.of_moveFwd e1 (win_enlarge _ min bs), nofun⟩
  | copy s s1 e1 h hca bs hg s2 hs2 htc t ht e ih =>
    rw [e]
    subst ht hs2
    exact ⟨.of_moveFwd e1 (.of_enlarge (m := min) (b := bs) (.step ih.1 rfl)), ih.2⟩

end LA.RA
