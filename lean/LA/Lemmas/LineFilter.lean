/-
Lemmas about the shared uuencode / b64encode write skeleton (`LA.LineFilter`):
the bytes passed downstream depend only on the concatenation of the writes.
-/
import LA.Model.LineFilter
namespace LA.LineFilter

variable (c : Codec)

theorem encFull_eq (d : List Nat) :
    encFull c d = if c.lbytes ≤ d.length then
      (c.encLine (d.take c.lbytes) ++ (encFull c (d.drop c.lbytes)).1, (encFull c (d.drop c.lbytes)).2)
    else ([], d) := by
  have : (c.lbytes ≤ (d.take c.lbytes).length) ↔ c.lbytes ≤ d.length := by
    rw [List.length_take]; omega
  rw [encFull]
  simp only [this]
  split <;> rfl

theorem encFull_short (d : List Nat) (h : d.length < c.lbytes) : encFull c d = ([], d) := by
  rw [encFull_eq, if_neg (by omega)]

theorem encFull_rem_lt (d : List Nat) : (encFull c d).2.length < c.lbytes := by
  fun_induction encFull c d with
  | case1 d h r ih => exact ih
  | case2 d h => rw [List.length_take] at h; show d.length < _; omega

theorem encFull_append (w d : List Nat) :
    encFull c (w ++ d) = ((encFull c w).1 ++ (encFull c ((encFull c w).2 ++ d)).1, (encFull c ((encFull c w).2 ++ d)).2) := by
  fun_induction encFull c w with
  | case1 w h r ih =>
    rw [List.length_take] at h
    have h : c.lbytes ≤ w.length := by omega
    rw [encFull_eq c (w ++ d), if_pos (by rw [List.length_append]; omega),
      List.take_append_of_le_length h, List.drop_append_of_le_length h, ih, List.append_assoc]
  | case2 w h => rw [List.nil_append]

theorem encFull_line (l d : List Nat) (h : l.length = c.lbytes) :
    encFull c (l ++ d) = (c.encLine l ++ (encFull c d).1, (encFull c d).2) := by
  rw [encFull_eq, if_pos (by rw [List.length_append]; omega), List.take_left' h, List.drop_left' h]

theorem encAll_eq (x : List Nat) :
    encAll c x = (encFull c x).1 ++ (if (encFull c x).2 = [] then [] else c.encLine (encFull c x).2) := by
  fun_induction encAll c x with
  | case1 x h ih => rw [encFull_eq, if_pos h, ih, List.append_assoc]
  | case2 h => rw [encFull_short c [] c.lpos]; rfl
  | case3 x h hx => rw [encFull_short c x (by omega), if_neg hx]; rfl

theorem flushLoop_spec (bs : Nat) (buf : List Nat) :
    (flushLoop bs buf).2.flatten ++ (flushLoop bs buf).1 = buf := by
  fun_induction flushLoop bs buf with
  | case1 buf h r ih => rw [List.flatten_cons, List.append_assoc, ih, List.take_append_drop]
  | case2 buf h => rfl

theorem flushLoop_blocks (bs : Nat) (buf : List Nat) : ∀ b ∈ (flushLoop bs buf).2, b.length = bs := by
  fun_induction flushLoop bs buf with
  | case1 buf h r ih =>
    intro b hb
    rcases List.mem_cons.mp hb with rfl | hb
    · rw [List.length_take]; omega
    · exact ih b hb
  | case2 buf h => simp

def produced (s : WState) : List Nat := s.emitted.flatten ++ s.buf

def LenOk (s : WState) : Prop := s.blen = s.buf.length

theorem buf_append (s : WState) (t : List Nat) : (s.append t).buf = s.buf ++ t := by
  simp [WState.append, WState.buf]

theorem lenOk_append (s : WState) (t : List Nat) (h : LenOk s) : LenOk (s.append t) := by
  unfold LenOk at *; rw [buf_append]; simp [WState.append, h]

theorem flushBs_spec (bs : Nat) (s : WState) (h : LenOk s) :
    produced (flushBs bs s) = produced s ∧ (flushBs bs s).hold = s.hold ∧ LenOk (flushBs bs s) := by
  unfold flushBs
  by_cases hc : 0 < bs ∧ bs ≤ s.blen
  · simp only [hc, and_self, if_true]
    refine ⟨?_, ?_, ?_⟩
    · simp only [produced, WState.buf, List.reverse_cons, List.reverse_nil, List.nil_append,
        List.flatten_append, List.flatten_cons, List.flatten_nil, List.append_nil, List.append_assoc]
      have := flushLoop_spec bs s.pieces.reverse.flatten
      rw [this]
    · trivial
    · simp [LenOk, WState.buf]
  · simp only [hc, if_false]; exact ⟨trivial, trivial, h⟩

theorem encodeRest_spec (bs : Nat) (s : WState) (d : List Nat) (h : LenOk s) :
    produced (encodeRest c bs s d) = produced s ++ (encFull c d).1 ∧
    (encodeRest c bs s d).hold = (encFull c d).2 ∧ LenOk (encodeRest c bs s d) := by
  unfold encodeRest
  have hl : LenOk { s.append (encFull c d).1 with hold := (encFull c d).2 } := by
    have := lenOk_append s (encFull c d).1 h
    simpa [LenOk, WState.buf, WState.append] using this
  obtain ⟨a1, a2, a3⟩ := flushBs_spec bs _ hl
  refine ⟨?_, ?_, a3⟩
  · rw [a1]; simp [produced, WState.buf, WState.append]
  · rw [a2]

/-- Invariant of the write filter after the writes `W` (concatenated): the full lines
of `W` have been produced, the rest is held. -/
structure Inv (mode : Nat) (name : List Nat) (s : WState) (W : List Nat) : Prop where
  lenOk : LenOk s
  hold : s.hold = (encFull c W).2
  prod : produced s = header c mode name ++ (encFull c W).1

theorem inv_open (mode : Nat) (name : List Nat) : Inv c mode name (open_ c mode name) [] := by
  rw [show open_ c mode name = ({} : WState).append (header c mode name) from rfl]
  refine ⟨lenOk_append _ _ rfl, ?_, ?_⟩
  · rw [encFull_short c [] c.lpos]; rfl
  · rw [encFull_short c [] c.lpos, produced, buf_append]; simp [WState.append, WState.buf]

theorem inv_encodeRest (mode : Nat) (name : List Nat) (bs : Nat) (s : WState) (W d : List Nat)
    (hi : Inv c mode name s W) (hh : s.hold = []) : Inv c mode name (encodeRest c bs s d) (W ++ d) := by
  obtain ⟨e1, e2, e3⟩ := encodeRest_spec c bs s d hi.lenOk
  rw [hi.prod] at e1
  rw [hi.hold] at hh
  refine ⟨e3, ?_, ?_⟩ <;> rw [encFull_append, hh, List.nil_append]
  · exact e2
  · rw [e1, List.append_assoc]

theorem inv_line (mode : Nat) (name : List Nat) (s : WState) (W e : List Nat) (hi : Inv c mode name s W)
    (hk : (s.hold ++ e).length = c.lbytes) :
    Inv c mode name { s.append (c.encLine (s.hold ++ e)) with hold := [] } (W ++ e) := by
  have hf := encFull_line c (s.hold ++ e) [] hk
  rw [List.append_nil, encFull_short c [] c.lpos] at hf
  refine ⟨?_, ?_, ?_⟩
  · have := lenOk_append s (c.encLine (s.hold ++ e)) hi.lenOk
    simpa [LenOk, WState.buf, WState.append] using this
  · rw [encFull_append, ← hi.hold, hf]
  · rw [encFull_append, ← hi.hold, hf, List.append_nil, ← List.append_assoc, ← hi.prod]
    simp [produced, WState.buf, WState.append]

theorem inv_write (mode : Nat) (name : List Nat) (bs : Nat) (s : WState) (W d : List Nat)
    (hi : Inv c mode name s W) : Inv c mode name (write c bs s d) (W ++ d) := by
  unfold write
  by_cases hd : d = []
  · rw [if_pos hd, hd, List.append_nil]; exact hi
  · rw [if_neg hd]
    by_cases hhold : s.hold = []
    · rw [if_neg (fun h => h hhold)]; exact inv_encodeRest c mode name bs s W d hi hhold
    · rw [if_pos hhold]
      generalize hk' : min (c.lbytes - s.hold.length) d.length = k
      have hlen : (s.hold ++ d.take k).length = s.hold.length + k := by
        rw [List.length_append, List.length_take]; omega
      have hh : s.hold.length < c.lbytes := by rw [hi.hold]; exact encFull_rem_lt c W
      by_cases hlt : (s.hold ++ d.take k).length < c.lbytes
      · -- still not a full line: everything went into `hold`
        have hkd : k = d.length := by omega
        rw [if_pos hlt]
        rw [hkd, List.take_length] at hlt ⊢
        refine ⟨hi.lenOk, ?_, ?_⟩ <;> rw [encFull_append, ← hi.hold, encFull_short c _ hlt]
        exact hi.prod.trans (by simp)
      · -- `hold` filled up to exactly LBYTES
        rw [if_neg hlt]
        have := inv_encodeRest c mode name bs _ _ (d.drop k)
          (inv_line c mode name s W (d.take k) hi (by omega)) rfl
        rwa [List.append_assoc, List.take_append_drop] at this

theorem inv_foldl (mode : Nat) (name : List Nat) (bs : Nat) (chunks : List (List Nat)) (s : WState) (W : List Nat)
    (hi : Inv c mode name s W) :
    Inv c mode name (chunks.foldl (write c bs) s) (W ++ chunks.flatten) := by
  induction chunks generalizing s W with
  | nil => simpa using hi
  | cons d rest ih =>
    simp only [List.foldl_cons, List.flatten_cons]
    rw [← List.append_assoc]
    exact ih _ _ (inv_write c mode name bs s W d hi)

theorem close_output (mode : Nat) (name : List Nat) (s : WState) (W : List Nat) (hi : Inv c mode name s W) :
    output (close c s) = encStream c mode name W := by
  have hprod := hi.prod
  rw [encStream, encAll_eq, ← hi.hold, ← List.append_assoc, ← hprod, produced]
  unfold close output
  by_cases hhold : s.hold = []
  · simp [hhold, buf_append]
  · simp [hhold, buf_append]

/-- **Chunking independence**: what the filter writes is `encStream` of the
concatenation of the writes, for every `bytes_per_block`. -/
theorem run_output (bpb mode : Nat) (name : List Nat) (chunks : List (List Nat)) :
    output (run c bpb mode name chunks) = encStream c mode name chunks.flatten := by
  unfold run
  have := inv_foldl c mode name (blockSize c bpb) chunks _ [] (inv_open c mode name)
  simpa using close_output c mode name _ _ this

end LA.LineFilter
