/-
Lemmas for the link resolver model (`LA.Lnk`, archive_entry_link_resolver.c): the shape of
`findEntry` and `takeNth` on the flat table; `push` for all strategies at once (`push_cases`) and
what one call exchanges between the held entries and what it hands back (`push_exchange`); the
record of a key in a table with unique keys.
-/
import LA.Model.Lnk
namespace LA.Lnk

theorem findEntry_spec (tbl : List LE) (d i : Int) (h : Option Ent → Option Ent) :
    (findEntry tbl d i h = (none, tbl) ∧ ∀ le ∈ tbl, le.hasKey d i = false) ∨
    (∃ pre le0 post, tbl = pre ++ le0 :: post ∧ le0.hasKey d i = true ∧
      (∀ le ∈ pre, le.hasKey d i = false) ∧
      findEntry tbl d i h =
        (some { le0 with links := u32dec le0.links },
         if u32dec le0.links > 0 then
           pre ++ { le0 with links := u32dec le0.links, held := h le0.held } :: post
         else pre ++ post)) := by
  induction tbl with
  | nil => left; simp [findEntry]
  | cons a rest ih =>
    by_cases hk : a.hasKey d i = true
    · right
      refine ⟨[], a, rest, by simp, hk, by simp, ?_⟩
      simp only [findEntry, hk, if_true, List.nil_append]
      split <;> rfl
    · have hk' : a.hasKey d i = false := by simpa using hk
      rcases ih with ⟨h1, h2⟩ | ⟨pre, le0, post, h1, h2, h3, h4⟩
      · left
        constructor
        · simp [findEntry, hk', h1]
        · intro le hle
          rcases List.mem_cons.mp hle with rfl | hm
          · exact hk'
          · exact h2 le hm
      · right
        refine ⟨a :: pre, le0, post, by simp [h1], h2, ?_, ?_⟩
        · intro le hle
          rcases List.mem_cons.mp hle with rfl | hm
          · exact hk'
          · exact h3 le hm
        · simp only [findEntry, hk'] at h4 ⊢
          simp only [h4]
          by_cases hl : 0 < u32dec le0.links <;> simp [hl]

@[simp] theorem heldOf_nil : heldOf ([] : List LE) = [] := rfl

theorem heldOf_append (a b : List LE) : heldOf (a ++ b) = heldOf a ++ heldOf b := by
  simp [heldOf, List.filterMap_append]

theorem heldOf_cons (a : LE) (b : List LE) : heldOf (a :: b) = a.held.toList ++ heldOf b := by
  cases h : a.held <;> simp [heldOf, h]

theorem takeNth_spec (p : LE → Bool) (tbl : List LE) (k : Nat) :
    (takeNth p tbl k = none ∧ ∀ le ∈ tbl, p le = false) ∨
    (∃ pre le post, tbl = pre ++ le :: post ∧ p le = true ∧
      takeNth p tbl k = some (le, pre ++ post)) := by
  induction tbl generalizing k with
  | nil => left; simp [takeNth]
  | cons a rest ih =>
    by_cases hp : p a = true
    · right
      cases k with
      | zero => exact ⟨[], a, rest, by simp, hp, by simp [takeNth, hp]⟩
      | succ k =>
        rcases ih k with ⟨h1, _⟩ | ⟨pre, le, post, h1, h2, h3⟩
        · exact ⟨[], a, rest, by simp, hp, by simp [takeNth, hp, h1]⟩
        · exact ⟨a :: pre, le, post, by simp [h1], h2, by simp [takeNth, hp, h3]⟩
    · have hp' : p a = false := by simpa using hp
      rcases ih k with ⟨h1, h2⟩ | ⟨pre, le, post, h1, h2, h3⟩
      · left
        refine ⟨by simp [takeNth, hp', h1], ?_⟩
        intro le hle
        rcases List.mem_cons.mp hle with rfl | hm
        · exact hp'
        · exact h2 le hm
      · right
        exact ⟨a :: pre, le, post, by simp [h1], h2, by simp [takeNth, hp', h3]⟩

theorem takeNth_sublist (p : LE → Bool) (tbl : List LE) (k : Nat) (x : LE) (t : List LE)
    (h : takeNth p tbl k = some (x, t)) : t.Sublist tbl := by
  rcases takeNth_spec p tbl k with ⟨h1, _⟩ | ⟨pre, le, post, h1, _, h3⟩
  · rw [h1] at h; cases h
  · rw [h3] at h; cases h
    rw [h1]
    exact (List.Sublist.refl pre).append (List.sublist_cons_self _ post)

theorem u32dec_of_pos (n : Nat) (h0 : 0 < n) (h1 : n < 4294967296) : u32dec n = n - 1 := by
  unfold u32dec; omega

/-- `insert_entry` counts the members still to come. -/
theorem ofEnt_links (e : Ent) (held : Option Ent) (h0 : 0 < e.nlink) (h1 : e.nlink < 4294967296) :
    (LE.ofEnt e held).links = e.nlink - 1 := by
  show u32dec (e.nlink % 4294967296) = _
  rw [Nat.mod_eq_of_lt h1, u32dec_of_pos _ h0 h1]

/-! ### `push`, uniformly in the strategy

Tar, mtree and new cpio run the same code around `find_entry`/`insert_entry`; they differ in what a record
holds and in what is handed back. -/

/-- What `push` stores into `le->entry` of the record it found: new cpio parks the incoming entry there, tar
and mtree leave the slot alone. -/
def Strategy.swap (st : Strategy) (e : Ent) (h : Option Ent) : Option Ent :=
  if st = .newCpio then some e else h

/-- What the record opened for a first member holds. -/
def Strategy.park (st : Strategy) (e : Ent) : Option Ent :=
  if st = .newCpio then some e else none

/-- `*e`, `*f` after the call when no record had the key. -/
def Strategy.onMiss (st : Strategy) (e : Ent) : Option Ent × Option Ent :=
  if st = .newCpio then (none, none) else (some e, none)

/-- `*e`, `*f` after the call when `le` is the record found, already decremented. -/
def Strategy.onHit (st : Strategy) (e : Ent) (le : LE) : Option Ent × Option Ent :=
  if st = .newCpio then (le.held.map (·.mkLink le.canon true), if le.links == 0 then some e else none)
  else (some (e.mkLink le.canon (st == .tar)), none)

theorem push_recorded (s : State) (e : Ent) (hp : passthrough e = false) (hs : s.strategy ≠ .oldCpio) :
    push s e = match findEntry s.tbl e.dev e.ino (s.strategy.swap e) with
      | (some le, tbl') => ({ s with tbl := tbl' }, s.strategy.onHit e le)
      | (none, _) => ({ s with tbl := insertEntry s.tbl e (s.strategy.park e) }, s.strategy.onMiss e) := by
  unfold push
  rw [if_neg (by simp [hp])]
  cases h : s.strategy with
  | oldCpio => exact absurd h hs
  | newCpio =>
    show _ = match findEntry s.tbl e.dev e.ino (fun _ => some e) with | (some le, tbl') => _ | (none, _) => _
    rcases findEntry s.tbl e.dev e.ino (fun _ => some e) with ⟨_ | le, t⟩
    · rfl
    · cases h0 : le.links == 0 <;> simp [h0, Strategy.onHit]
  | tar => rfl
  | mtree => rfl

theorem run_push_cons (s : State) (e : Ent) (ops : List Op) :
    run s (.push e :: ops) = ((run (push s e).1 ops).1,
      (push s e).2.1.toList ++ (push s e).2.2.toList ++ (run (push s e).1 ops).2) := rfl

theorem push_passthrough (s : State) (e : Ent) (h : passthrough e = true ∨ s.strategy = .oldCpio) :
    push s e = (s, some e, none) := by
  unfold push
  rcases h with h | h
  · rw [if_pos h]
  · split
    · rfl
    · rw [h]

theorem push_keeps_strategy (s : State) (e : Ent) : (push s e).1.strategy = s.strategy := by
  by_cases hp : passthrough e = true
  · rw [push_passthrough s e (.inl hp)]
  by_cases hs : s.strategy = .oldCpio
  · rw [push_passthrough s e (.inr hs)]
  rw [push_recorded s e (by simpa using hp) hs]
  rcases findEntry s.tbl e.dev e.ino (s.strategy.swap e) with ⟨_ | le, t⟩ <;> rfl

/-- The three things `push` can do: hand the entry straight back; open a record for the first member of a
group; find the record of the entry's key, which then stays (decremented, its slot swapped) or goes. -/
theorem push_cases (s : State) (e : Ent) :
    push s e = (s, some e, none) ∨
    ((∀ le ∈ s.tbl, le.hasKey e.dev e.ino = false) ∧
      (push s e).1.tbl = s.tbl ++ [LE.ofEnt e (s.strategy.park e)] ∧ (push s e).2 = s.strategy.onMiss e) ∨
    ∃ pre le0 post, s.tbl = pre ++ le0 :: post ∧ le0.hasKey e.dev e.ino = true ∧
      (∀ le ∈ pre, le.hasKey e.dev e.ino = false) ∧
      (push s e).1.tbl = (if u32dec le0.links > 0 then
          pre ++ { le0 with links := u32dec le0.links, held := s.strategy.swap e le0.held } :: post
        else pre ++ post) ∧
      (push s e).2 = s.strategy.onHit e { le0 with links := u32dec le0.links } := by
  by_cases hp : passthrough e = true
  · exact .inl (push_passthrough s e (.inl hp))
  by_cases hs : s.strategy = .oldCpio
  · exact .inl (push_passthrough s e (.inr hs))
  rw [push_recorded s e (by simpa using hp) hs]
  rcases findEntry_spec s.tbl e.dev e.ino (s.strategy.swap e) with ⟨h1, h2⟩ | ⟨pre, le0, post, h1, h2, h3, h4⟩
  · rw [h1]; exact .inr (.inl ⟨h2, rfl, rfl⟩)
  · -- the new table is named before it is compared: unfolding `u32dec _ > 0` would run `%` on 2^32
    generalize hT : (if u32dec le0.links > 0 then _ else _ : List LE) = T at h4
    rw [h4]
    exact .inr (.inr ⟨pre, le0, post, h1, h2, h3, hT.symm, rfl⟩)

/-- Only the new-cpio strategy parks entries inside the resolver. -/
theorem push_noHeld (s : State) (e : Ent) (hs : s.strategy ≠ .newCpio) (hi : ∀ le ∈ s.tbl, le.held = none) :
    ∀ le ∈ (push s e).1.tbl, le.held = none := by
  rcases push_cases s e with h | ⟨_, h, _⟩ | ⟨pre, le0, post, h0, _, _, h, _⟩
  · rw [h]; exact hi
  · rw [h, Strategy.park, if_neg hs]
    intro le hle
    rcases List.mem_append.mp hle with hm | hm
    · exact hi le hm
    · rw [List.mem_singleton.mp hm]; rfl
  · rw [h, Strategy.swap, if_neg hs]
    rw [h0] at hi
    intro le hle
    split at hle
    · rcases List.mem_append.mp hle with hm | hm
      · exact hi le (List.mem_append_left _ hm)
      · rcases List.mem_cons.mp hm with rfl | hm
        · exact hi le0 (by simp)
        · exact hi le (by simp [hm])
    · rcases List.mem_append.mp hle with hm | hm
      · exact hi le (List.mem_append_left _ hm)
      · exact hi le (by simp [hm])

/-- What a hit hands back, followed by what the record keeps. -/
def Strategy.hitList (st : Strategy) (e : Ent) (le : LE) : List Ent :=
  (st.onHit e le).1.toList ++ (st.onHit e le).2.toList ++
    (if le.links > 0 then (st.swap e le.held).toList else [])

/-- New cpio: the parked entry comes out marked, the incoming one is parked or, being the last, comes out too. -/
theorem hitList_newCpio (e : Ent) (le : LE) :
    Strategy.newCpio.hitList e le = le.held.toList.map (·.mkLink le.canon true) ++ [e] := by
  have h0 : (le.links == 0) = !decide (le.links > 0) := by
    by_cases h : le.links > 0 <;> simp [h] <;> omega
  by_cases h : le.links > 0 <;> cases hh : le.held <;>
    simp [Strategy.hitList, Strategy.onHit, Strategy.swap, h0, h, hh]

/-- Tar and mtree: the incoming entry comes out marked, the slot is not looked at. -/
theorem hitList_of_ne {st : Strategy} (hst : st ≠ .newCpio) (e : Ent) (le : LE) :
    st.hitList e le = e.mkLink le.canon (st == .tar) :: (if le.links > 0 then le.held.toList else []) := by
  simp [Strategy.hitList, Strategy.onHit, Strategy.swap, hst]

theorem onMiss_eq (st : Strategy) (e : Ent) :
    (st.onMiss e).1.toList ++ (st.onMiss e).2.toList ++ (st.park e).toList = [e] := by
  cases st <;> rfl

/-- Counting form of an exchange inside a list: the context `a … b` and the order do not matter. -/
theorem perm_exchange {α β : Type} [DecidableEq β] (g : α → β) (o k m a b : List α) (t : α)
    (h : (o ++ k).map g = (m ++ [t]).map g) :
    (o.map g ++ (a ++ k ++ b).map g).Perm ((a ++ m ++ b).map g ++ [g t]) := by
  rw [List.perm_iff_count]
  intro x
  have := congrArg (List.count x) h
  simp only [List.map_append, List.count_append, List.map_cons, List.map_nil] at this ⊢
  omega

section exchange
variable {β : Type} (g : Ent → β) (hg : ∀ x c u, g (x.mkLink c u) = g x)
include hg

/-- As far as a `g` blind to link marks can see, a hit exchanges what the record held and the new entry for
what comes out and what the record keeps.  Tar and mtree never look at the slot: for them the record must hold
nothing, or only the inclusion is left. -/
theorem hitList_map (st : Strategy) (e : Ent) (le : LE) :
    (∀ o ∈ st.hitList e le, g o ∈ (le.held.toList ++ [e]).map g) ∧
    ((st ≠ .newCpio → le.held = none) → (st.hitList e le).map g = (le.held.toList ++ [e]).map g) := by
  by_cases hst : st = .newCpio
  · have : (st.hitList e le).map g = (le.held.toList ++ [e]).map g := by
      simp [hst, hitList_newCpio, hg, Function.comp_def]
    exact ⟨fun o ho => this ▸ List.mem_map_of_mem ho, fun _ => this⟩
  · rw [hitList_of_ne hst]
    refine ⟨fun o ho => ?_, fun hn => by simp [hn hst, hg]⟩
    rcases List.mem_cons.mp ho with rfl | ho
    · simp [hg]
    · split at ho
      · exact List.mem_map_of_mem (List.mem_append_left _ ho)
      · cases ho

/-- **What one `linkify` call exchanges.**  Of the held entries one slot `m` (empty, or what the record found
holds) becomes `k`, the others stay in place; what is handed back, followed by `k`, is `m` followed by the new
entry, as far as `g` can see -- provided tar and mtree records hold nothing; without that, at least nothing
new appears. -/
theorem push_exchange (s : State) (e : Ent) :
    ∃ a m k b, heldOf s.tbl = a ++ m ++ b ∧ heldOf (push s e).1.tbl = a ++ k ++ b ∧
      (∀ o ∈ (push s e).2.1.toList ++ (push s e).2.2.toList ++ k, g o ∈ (m ++ [e]).map g) ∧
      ((s.strategy ≠ .newCpio → ∀ le ∈ s.tbl, le.held = none) →
        ((push s e).2.1.toList ++ (push s e).2.2.toList ++ k).map g = (m ++ [e]).map g) := by
  rcases push_cases s e with h | ⟨_, h1, h2⟩ | ⟨pre, le0, post, h0, _, _, h1, h2⟩
  · refine ⟨heldOf s.tbl, [], [], [], by simp, by simp [h], ?_, fun _ => by simp [h]⟩
    intro o ho; simp [h] at ho; simp [ho]
  · have hl := onMiss_eq s.strategy e
    refine ⟨heldOf s.tbl, [], (s.strategy.park e).toList, [], by simp, ?_, ?_, fun _ => by rw [h2, hl]; rfl⟩
    · simp [h1, heldOf_append, heldOf_cons, LE.ofEnt]
    · rw [h2, hl]; intro o ho; exact List.mem_map_of_mem ho
  · have hm := hitList_map g hg s.strategy e { le0 with links := u32dec le0.links }
    generalize u32dec le0.links = n at h1 h2 hm
    refine ⟨heldOf pre, le0.held.toList, if n > 0 then (s.strategy.swap e le0.held).toList else [], heldOf post,
      ?_, ?_, ?_, fun hi => ?_⟩
    · rw [h0]; simp [heldOf_append, heldOf_cons]
    · rw [h1]; split <;> simp [heldOf_append, heldOf_cons]
    · rw [h2]; exact hm.1
    · rw [h2]; exact hm.2 fun hs => hi hs le0 (by simp [h0])

/-- Nothing comes out of a `linkify` call, or is held after it, that was not held before or is the entry
passed in -- as far as a `g` blind to link marks can see. -/
theorem push_nothing_new (s : State) (e : Ent) :
    ∀ o ∈ (push s e).2.1.toList ++ (push s e).2.2.toList ++ heldOf (push s e).1.tbl,
      g o ∈ (heldOf s.tbl ++ [e]).map g := by
  obtain ⟨a, m, k, b, h1, h2, h3, _⟩ := push_exchange g hg s e
  rw [h1, h2]
  generalize (push s e).2.1.toList ++ (push s e).2.2.toList = out at h3 ⊢
  intro o ho
  have hk : o ∈ out ++ k ∨ o ∈ a ∨ o ∈ b := by
    simp only [List.mem_append] at ho ⊢
    rcases ho with h | (h | h) | h <;> simp [h]
  rcases hk with h | h
  · obtain ⟨i, hi, he⟩ := List.mem_map.mp (h3 o h)
    exact List.mem_map.mpr ⟨i, by rcases List.mem_append.mp hi with h | h <;> simp [h], he⟩
  · exact List.mem_map_of_mem (by rcases h with h | h <;> simp [h])

/-- One `linkify` call with a non-NULL entry: what comes out plus what is held afterwards is what was held
before plus the entry passed in. -/
theorem push_conserves_map [DecidableEq β] (s : State) (e : Ent)
    (hi : s.strategy ≠ .newCpio → ∀ le ∈ s.tbl, le.held = none) :
    (((push s e).2.1.toList ++ (push s e).2.2.toList).map g ++ (heldOf (push s e).1.tbl).map g).Perm
      ((heldOf s.tbl).map g ++ [g e]) := by
  obtain ⟨a, m, k, b, h1, h2, _, h4⟩ := push_exchange g hg s e
  rw [h1, h2]
  exact perm_exchange g _ k m a b e (h4 hi)

end exchange

/-! ### The record of a key

`tbl.find? (·.hasKey d i)` is the record `find_entry` reaches for `(d, i)`; a table has unique keys when
`(tbl.map fun le => (le.dev, le.ino)).Nodup`. -/

theorem hasKey_iff (le : LE) (d i : Int) : le.hasKey d i = true ↔ (le.dev, le.ino) = (d, i) := by
  simp [LE.hasKey]

theorem find?_hasKey_none (tbl : List LE) (d i : Int) (h : ∀ le ∈ tbl, le.hasKey d i = false) :
    tbl.find? (·.hasKey d i) = none :=
  List.find?_eq_none.mpr fun x hx => by simp [h x hx]

theorem find?_hasKey_split (pre post : List LE) (le0 : LE) (d i : Int) (h0 : le0.hasKey d i = true)
    (hpre : ∀ le ∈ pre, le.hasKey d i = false) : (pre ++ le0 :: post).find? (·.hasKey d i) = some le0 := by
  simp only [List.find?_append, find?_hasKey_none pre d i hpre, List.find?_cons, h0, Option.none_or]

theorem hasKey_post (pre post : List LE) (le0 : LE) (d i : Int) (h0 : le0.hasKey d i = true)
    (hn : ((pre ++ le0 :: post).map fun le => (le.dev, le.ino)).Nodup) : ∀ le ∈ post, le.hasKey d i = false := by
  intro le hle
  rw [List.map_append, List.map_cons] at hn
  have h3 := (List.nodup_cons.mp (List.nodup_append.mp hn).2.1).1
  cases hk : le.hasKey d i with
  | false => rfl
  | true =>
    refine absurd (List.mem_map.mpr ⟨le, hle, ?_⟩) h3
    rw [(hasKey_iff le0 d i).mp h0, (hasKey_iff le d i).mp hk]

theorem find?_hasKey_other (pre post : List LE) (le0 : LE) (d' i' : Int) (h0 : le0.hasKey d' i' = false) :
    (pre ++ le0 :: post).find? (·.hasKey d' i') = (pre ++ post).find? (·.hasKey d' i') := by
  simp only [List.find?_append, List.find?_cons, h0]

theorem findEntry_find? (tbl : List LE) (d i : Int) (h : Option Ent → Option Ent)
    (hn : (tbl.map fun le => (le.dev, le.ino)).Nodup) :
    (findEntry tbl d i h).1 = (tbl.find? (·.hasKey d i)).map (fun le => { le with links := u32dec le.links }) ∧
    (findEntry tbl d i h).2.find? (·.hasKey d i) =
      (match tbl.find? (·.hasKey d i) with
       | none => none
       | some le => if u32dec le.links > 0 then some { le with links := u32dec le.links, held := h le.held } else none) ∧
    (∀ d' i', (d', i') ≠ (d, i) →
      (findEntry tbl d i h).2.find? (·.hasKey d' i') = tbl.find? (·.hasKey d' i')) ∧
    ((findEntry tbl d i h).2.map fun le => (le.dev, le.ino)).Nodup := by
  rcases findEntry_spec tbl d i h with ⟨h1, h2⟩ | ⟨pre, le0, post, h1, h2, h3, h4⟩
  · rw [h1, find?_hasKey_none tbl d i h2]
    exact ⟨rfl, rfl, fun _ _ _ => rfl, hn⟩
  · have hpost := hasKey_post pre post le0 d i h2 (h1 ▸ hn)
    rw [h4, h1, find?_hasKey_split pre post le0 d i h2 h3]
    rw [h1] at hn
    simp only [Option.map_some]
    generalize u32dec le0.links = n
    refine ⟨trivial, ?_, fun d' i' hne => ?_, ?_⟩
    · split
      · exact find?_hasKey_split pre post _ d i h2 h3
      · exact find?_hasKey_none _ d i fun le hle => (List.mem_append.mp hle).elim (h3 le) (hpost le)
    · have hk0 : le0.hasKey d' i' = false := by
        cases hk : le0.hasKey d' i' with
        | false => rfl
        | true => exact absurd (((hasKey_iff le0 d' i').mp hk).symm.trans ((hasKey_iff le0 d i).mp h2)) hne
      rw [find?_hasKey_other pre post le0 d' i' hk0]
      split
      · exact find?_hasKey_other pre post _ d' i' hk0
      · rfl
    · split
      · simpa using hn
      · exact ((List.Sublist.refl pre).append (List.sublist_cons_self le0 post)).map _ |>.nodup hn

theorem insertEntry_find? (tbl : List LE) (e : Ent) (held : Option Ent)
    (hn : (tbl.map fun le => (le.dev, le.ino)).Nodup) (hnone : tbl.find? (·.hasKey e.dev e.ino) = none) :
    (insertEntry tbl e held).find? (·.hasKey e.dev e.ino) = some (LE.ofEnt e held) ∧
    (∀ d' i', (d', i') ≠ (e.dev, e.ino) →
      (insertEntry tbl e held).find? (·.hasKey d' i') = tbl.find? (·.hasKey d' i')) ∧
    ((insertEntry tbl e held).map fun le => (le.dev, le.ino)).Nodup := by
  have hall : ∀ le ∈ tbl, le.hasKey e.dev e.ino = false := fun le hle => by
    simpa using List.find?_eq_none.mp hnone le hle
  have hk : (LE.ofEnt e held).hasKey e.dev e.ino = true := (hasKey_iff ..).mpr rfl
  refine ⟨find?_hasKey_split tbl [] _ e.dev e.ino hk hall, fun d' i' hne => ?_, ?_⟩
  · have : (LE.ofEnt e held).hasKey d' i' = false := by
      cases hk' : (LE.ofEnt e held).hasKey d' i' with
      | false => rfl
      | true => exact absurd ((hasKey_iff _ d' i').mp hk').symm hne
    simpa [insertEntry] using find?_hasKey_other tbl [] _ d' i' this
  · rw [insertEntry, List.map_append]
    refine List.nodup_append.mpr ⟨hn, by simp, fun x hx y hy heq => ?_⟩
    obtain ⟨le, hle, rfl⟩ := List.mem_map.mp hx
    rw [List.mem_singleton.mp hy] at heq
    exact absurd ((hasKey_iff le e.dev e.ino).mpr heq) (by simp [hall le hle])

theorem push_find? (s : State) (e : Ent) (hp : passthrough e = false) (hs : s.strategy ≠ .oldCpio)
    (hn : (s.tbl.map fun le => (le.dev, le.ino)).Nodup) :
    ((push s e).1.tbl.map fun le => (le.dev, le.ino)).Nodup ∧
    (∀ d' i', (d', i') ≠ (e.dev, e.ino) →
      (push s e).1.tbl.find? (·.hasKey d' i') = s.tbl.find? (·.hasKey d' i')) ∧
    (match s.tbl.find? (·.hasKey e.dev e.ino) with
     | none => (push s e).2 = s.strategy.onMiss e ∧
         (push s e).1.tbl.find? (·.hasKey e.dev e.ino) = some (LE.ofEnt e (s.strategy.park e))
     | some le => (push s e).2 = s.strategy.onHit e { le with links := u32dec le.links } ∧
         (push s e).1.tbl.find? (·.hasKey e.dev e.ino) =
           if u32dec le.links > 0 then
             some { le with links := u32dec le.links, held := s.strategy.swap e le.held }
           else none) := by
  obtain ⟨f1, f2, f3, f4⟩ := findEntry_find? s.tbl e.dev e.ino (s.strategy.swap e) hn
  rw [push_recorded s e hp hs]
  rcases hF : findEntry s.tbl e.dev e.ino (s.strategy.swap e) with ⟨r, t⟩
  rw [hF] at f1 f2 f3 f4
  cases hl : s.tbl.find? (·.hasKey e.dev e.ino) with
  | none =>
    rw [hl] at f1
    obtain rfl : r = none := f1
    obtain ⟨g1, g2, g3⟩ := insertEntry_find? s.tbl e (s.strategy.park e) hn hl
    exact ⟨g3, g2, rfl, g1⟩
  | some le =>
    rw [hl] at f1 f2
    obtain rfl : r = some _ := f1
    exact ⟨f4, f3, rfl, f2⟩

/-- The two calls with `*e == NULL` keep the strategy and at most unlink a record. -/
theorem drainAt_state (s : State) (k : Nat) :
    (drainAt s k).1.strategy = s.strategy ∧ (drainAt s k).1.tbl.Sublist s.tbl := by
  unfold drainAt
  cases h : takeNth (fun le => le.held.isSome) s.tbl k with
  | none => exact ⟨rfl, .refl _⟩
  | some r => exact ⟨rfl, takeNth_sublist _ _ _ r.1 r.2 h⟩

theorem partialAt_state (s : State) (k : Nat) :
    (partialAt s k).1.strategy = s.strategy ∧ (partialAt s k).1.tbl.Sublist s.tbl := by
  unfold partialAt
  cases h : takeNth (fun le => le.held.isNone) s.tbl k with
  | none => exact ⟨rfl, .refl _⟩
  | some r => exact ⟨rfl, takeNth_sublist _ _ _ r.1 r.2 h⟩

theorem drainAt_held (s : State) (k : Nat) :
    ((drainAt s k).2.toList ++ heldOf (drainAt s k).1.tbl).Perm (heldOf s.tbl) := by
  unfold drainAt
  rcases takeNth_spec (fun le => le.held.isSome) s.tbl k with ⟨h1, _⟩ | ⟨pre, le, post, h1, h2, h3⟩
  · simp [h1]
  · rw [h3, h1]
    obtain ⟨x, hx⟩ := Option.isSome_iff_exists.mp h2
    simp only [heldOf_append, heldOf_cons, hx, Option.toList_some]
    exact (List.perm_middle (a := x) (l₁ := heldOf pre) (l₂ := heldOf post)).symm

theorem drainAt_none_held (s : State) (k : Nat) (h : (drainAt s k).2 = none) : heldOf s.tbl = [] := by
  unfold drainAt at h
  rcases takeNth_spec (fun le => le.held.isSome) s.tbl k with ⟨h1, h2⟩ | ⟨pre, le, post, h1, h2, h3⟩
  · simp only [heldOf, List.filterMap_eq_nil_iff]
    intro le hle
    simpa using h2 le hle
  · simp only [h3] at h
    cases hh : le.held <;> simp [hh] at h2 h

/-- The draining loop hands out held entries, each once, and all of them if it is given enough calls. -/
theorem drainLoop_spec (s : State) (ks : List Nat) :
    ((drainLoop s ks).2 ++ heldOf (drainLoop s ks).1.tbl).Perm (heldOf s.tbl) ∧
    ((heldOf s.tbl).length ≤ ks.length → heldOf (drainLoop s ks).1.tbl = []) := by
  induction ks generalizing s with
  | nil => exact ⟨.refl _, fun h => List.eq_nil_of_length_eq_zero (Nat.le_zero.mp h)⟩
  | cons k ks ih =>
    unfold drainLoop
    have hc := drainAt_held s k
    cases hd : drainAt s k with
    | mk s' r =>
      rw [hd] at hc
      cases r with
      | none =>
        have h0 := drainAt_none_held s k (by rw [hd])
        exact ⟨hc, fun _ => (h0 ▸ hc).eq_nil⟩
      | some e =>
        obtain ⟨i1, i2⟩ := ih s'
        refine ⟨(i1.cons e).trans hc, fun hk => i2 ?_⟩
        have := hc.length_eq
        simp only [Option.toList_some, List.singleton_append, List.length_cons] at this hk
        omega

end LA.Lnk
