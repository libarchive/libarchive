/- The pax record writer against the record parser (C02). Core Lean only. -/
import LA.Lemmas.Pax
import LA.Lemmas.NumFmt
namespace LA.Pax
open LA.NumFmt

/-- `format_int` writes the decimal digits of `n`, as many as `n` has and at least one. -/
theorem decDigits_eq (n : Nat) :
    0 < (decDigits n).length ∧ n < 10 ^ (decDigits n).length ∧
      decDigits n = digitsBE 10 (c0 + ·) n (decDigits n).length := by
  induction n using Nat.strongRecOn with
  | _ n ih =>
    rw [decDigits]
    by_cases h10 : n < 10
    · rw [dif_pos h10]
      exact ⟨Nat.one_pos, h10, by simp [digitsBE, Nat.mod_eq_of_lt h10, c0]⟩
    · obtain ⟨-, hlt, heq⟩ := ih (n / 10) (by omega)
      rw [dif_neg h10, List.length_append, List.length_singleton, digitsBE_snoc, ← heq, Nat.pow_succ]
      exact ⟨Nat.succ_pos _, by omega, rfl⟩

theorem parseLen_number (n : Nat) (t : List Nat) (hn : n ≤ 99999999) :
    parseLen (decDigits n ++ 32 :: t) 0 = some (n, t) := by
  obtain ⟨-, hlt, heq⟩ := decDigits_eq n
  rw [heq, read_digitsBE parseLen 10 (by decide) _ 100000000 (fun d l tail hd h => by
      rw [parseLen, if_neg (by simp only [c0]; omega), if_pos (by simp only [c0]; omega), if_neg (by simp only [c0]; omega)]
      simp only [c0, Nat.add_sub_cancel_left]) n _ 0 _ (by rw [Nat.mod_eq_of_lt hlt]; omega),
    Nat.zero_mul, Nat.zero_add, Nat.mod_eq_of_lt hlt, parseLen, if_pos rfl]

theorem decDigits_length_le (n : Nat) (hn : n ≤ 99999999) : (decDigits n).length ≤ 8 := by
  by_cases h0 : n = 0
  · subst h0; rw [decDigits]; simp
  · obtain ⟨b1, b2, b3⟩ := nd_bounds n (by omega)
    have hl := decDigits_length (nd n) n b3 b1 b2
    rw [hl]
    rcases Nat.lt_or_ge (nd n) 9 with h | h
    · omega
    · have : 10 ^ 8 ≤ 10 ^ (nd n - 1) := Nat.pow_le_pow_right (by decide) (by omega)
      have h8 : (10 : Nat) ^ 8 = 100000000 := by decide
      omega

theorem findEq_key (key t : List Nat) (lim : Nat) (hk : ∀ c ∈ key, c ≠ 61) (hl : key.length < lim) :
    findEq (key ++ 61 :: t) lim = some key.length := by
  induction key generalizing lim with
  | nil =>
    obtain ⟨l', rfl⟩ : ∃ l', lim = l' + 1 := ⟨lim - 1, by simp at hl; omega⟩
    simp [findEq]
  | cons c r ih =>
    obtain ⟨l', rfl⟩ : ∃ l', lim = l' + 1 := ⟨lim - 1, by simp at hl; omega⟩
    simp only [List.cons_append, findEq]
    have hc : c ≠ 61 := hk c (List.mem_cons_self ..)
    rw [if_neg hc, ih l' (fun c' h => hk c' (List.mem_cons_of_mem _ h)) (by simp at hl; omega)]
    simp

theorem drop_append_cons {α : Type} (a : List α) (x : α) (b : List α) : (a ++ x :: b).drop (a.length + 1) = b := by
  rw [← List.drop_drop, List.drop_left]; rfl

/-- **One record**: what `add_pax_attr_binary` appends is taken apart again by the reader's loop, for
any value bytes (newlines, '=' and NULs included); the key is non-empty and has no '='. -/
theorem parseRecord_record (key value rest : List Nat) (hk : key ≠ []) (hkeq : ∀ c ∈ key, c ≠ 61)
    (hlen : recordLen key value ≤ 99999999) :
    parseRecord (record key value ++ rest) = some (key, value, rest) := by
  have hdig := recordLen_digits key value
  generalize hL : recordLen key value = L at *
  have hd8 := decDigits_length_le L hlen
  -- the bytes, nested the way the reader walks through them
  have hrec : record key value ++ rest = decDigits L ++ 32 :: (key ++ 61 :: (value ++ 10 :: rest)) := by
    unfold record; rw [hL]; simp
  rw [hrec]
  generalize hV : value ++ 10 :: rest = V
  generalize hT : key ++ 61 :: V = T
  have hVl : V.length = value.length + 1 + rest.length := by rw [← hV]; simp; omega
  have hTl : T.length = key.length + 1 + V.length := by rw [← hT]; simp; omega
  have hkl : 0 < key.length := List.length_pos_iff.2 hk
  unfold parseRecord
  simp only []
  have hw : (decDigits L ++ 32 :: T).take 512 = decDigits L ++ 32 :: T.take (511 - (decDigits L).length) := by
    rw [List.take_append, List.take_of_length_le (by omega),
      show 512 - (decDigits L).length = (511 - (decDigits L).length) + 1 by omega, List.take_succ_cons]
  rw [hw, parseLen_number L _ hlen]
  simp only [List.length_append, List.length_cons]
  generalize hD : (decDigits L).length = dl at *
  have hused : dl + ((T.take (511 - dl)).length + 1) - (T.take (511 - dl)).length = dl + 1 := by omega
  rw [hused, if_neg (by omega), if_neg (by omega), ← hD, drop_append_cons, hD, ← hT,
    findEq_key key V _ hkeq (by omega)]
  obtain ⟨k', hk'⟩ : ∃ k', key.length = k' + 1 := ⟨key.length - 1, by omega⟩
  rw [hk']
  simp only []
  rw [← hk', List.take_left, if_neg (by omega), hT]
  -- value, newline and rest lie behind the key
  have hdropV : (decDigits L ++ 32 :: T).drop (dl + 1 + key.length + 1) = V := by
    rw [Nat.add_assoc (dl + 1), ← List.drop_drop, ← hD, drop_append_cons, ← hT, drop_append_cons]
  have hvl : L - (dl + 1 + key.length + 1) - 1 = value.length := by omega
  have hL1 : L - 1 = dl + 1 + key.length + 1 + value.length := by omega
  generalize decDigits L ++ 32 :: T = B at hdropV ⊢
  rw [hdropV, hvl, hL1, ← List.drop_drop, hdropV, show L = dl + 1 + key.length + 1 + (value.length + 1) by omega,
    ← List.drop_drop (i := value.length + 1), hdropV, ← hV, List.take_left, List.drop_left, drop_append_cons]
  rfl

/-- What the writer hands to `add_pax_attr*`: a non-empty key without '=' and a record of at most
99999999 bytes. -/
def RecordOK (kv : List Nat × List Nat) : Prop :=
  kv.1 ≠ [] ∧ (∀ c ∈ kv.1, c ≠ 61) ∧ recordLen kv.1 kv.2 ≤ 99999999

theorem record_ne_nil (k v : List Nat) : record k v ≠ [] := by
  unfold record; simp

theorem parseRecords_records (kvs : List (List Nat × List Nat)) (h : ∀ kv ∈ kvs, RecordOK kv) :
    parseRecords kvs.length (kvs.flatMap fun kv => record kv.1 kv.2) = some kvs := by
  induction kvs with
  | nil => rfl
  | cons kv r ih =>
    obtain ⟨hk, hkeq, hlen⟩ := h kv (List.mem_cons_self ..)
    simp only [List.length_cons, List.flatMap_cons, parseRecords]
    have hne : record kv.1 kv.2 ++ List.flatMap (fun kv => record kv.1 kv.2) r ≠ [] := by
      intro hh
      exact record_ne_nil kv.1 kv.2 (List.append_eq_nil_iff.1 hh).1
    rw [if_neg hne, parseRecord_record kv.1 kv.2 _ hk hkeq hlen]
    simp only []
    rw [ih (fun kv' h' => h kv' (List.mem_cons_of_mem _ h'))]
    rfl

/-! ### decimal attribute values: `format_int` against `tar_atol10` -/

/-- A non-negative number `format_int` wrote is read back by `tar_atol10` (`pax_attribute_read_number`:
uid, gid, size, the seconds of a time stamp …). -/
theorem tarAtol10_decDigits (n : Nat) (hn : n < 9223372036854775800) : tarAtol10 (decDigits n) = (n : Int) := by
  obtain ⟨hk0, hlt, heq⟩ := decDigits_eq n
  obtain ⟨k, hk⟩ : ∃ k, (decDigits n).length = k + 1 := ⟨_, (Nat.succ_pred_eq_of_pos hk0).symm⟩
  rw [hk] at hlt heq
  have hd := Nat.mod_lt (n / 10 ^ k) (show 0 < 10 by decide)
  have hloop := atolLoop_digitsBE 10 922337203685477580 7 (by decide) n (k + 1) 0 [] (by rw [Nat.mod_eq_of_lt hlt]; omega)
  rw [List.append_nil, Nat.zero_mul, Nat.zero_add, Nat.mod_eq_of_lt hlt, atolLoop] at hloop
  -- the first byte is a digit: neither blank nor '-'
  unfold tarAtol10 tarAtolBaseN
  rw [heq]
  simp only [digitsBE, dropBlanks, if_neg (show ¬(c0 + n / 10 ^ k % 10 = sp ∨ c0 + n / 10 ^ k % 10 = 9) by
    simp only [c0, sp]; omega)]
  split
  · next heq' => simp only [List.cons.injEq, c0] at heq'; omega
  · rw [← digitsBE]
    exact (congrArg (fun o : Option Nat => match o with | some l => (l : Int) | none => I64_MAX) hloop :)

end LA.Pax
