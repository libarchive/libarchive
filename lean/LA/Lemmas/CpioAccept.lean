/- `representable` (the format description) implies acceptance by the cpio writers (C02). Core Lean only. -/
import LA.Lemmas.CpioStreamOdc
namespace LA.Codec
open LA.NumFmt LA.Gen.CpioLayout LA.Gen.CodecConsts

theorem devMajor_range (d : Int) : 0 ≤ devMajor d ∧ devMajor d < 4294967296 := by
  unfold devMajor devMajorN; omega

theorem devMinor_range (d : Int) : 0 ≤ devMinor d ∧ devMinor d < 4294967296 := by
  unfold devMinor devMinorN; omega

/-- A value of at most `d` octal digits passes `format_octal` (`n = 8 ^ d` as a literal). -/
theorem oct_fits (v : Int) (d : Nat) (n : Nat) (hn : 8 ^ d = n) (h : 0 ≤ v ∧ v < n) : (odcFormatOctal v d).1 = false :=
  (odcFormatOctal_ok_iff v d).2 ⟨h.1, by omega⟩

theorem hex8 (v : Int) (h : 0 ≤ v ∧ v < 4294967296) : (newcFormatHex v 8).1 = false := by
  have : (16 : Nat) ^ 8 = 4294967296 := by decide
  exact (newcFormatHex_ok_iff v 8).2 ⟨h.1, by omega⟩

theorem representable_symiff (f : WFmt) (e : Entry) (hr : representable f e = true) : e.sym ≠ [] ↔ e.ftype = .lnk := by
  obtain ⟨p, -, hshape, -, -⟩ := (representable_iff f e).1 hr
  obtain ⟨-, -, -, h1, h2, -⟩ := (reprShape_iff f e p).1 hshape
  exact ⟨h2, h1⟩

/-- What `representable` says to the cpio writers (`f` = odc or newc): the mandatory-field checks pass,
and the `c_filesize` value is inside the format's size range. -/
theorem representable_cpio (f : WFmt) (hc : isCpio f = true) (hh : carriesHard f = false) (e : Entry) (p : List Nat)
    (hp : e.path = some p) (hshape : reprShape f e p = true) (hranges : reprRanges f e = true)
    (hsl : (e.sym.length : Int) ≤ sizeMax f) (newc : Bool) :
    cpioPrecheck e newc = none ∧ 0 ≤ cpioFilesize e ∧ cpioFilesize e ≤ sizeMax f := by
  obtain ⟨hpne, -, htype, -, -, hhard, -⟩ := (reprShape_iff f e p).1 hshape
  obtain ⟨-, -, hsize, -⟩ := (reprRanges_iff f e).1 hranges
  have hh0 : e.hard = [] := Decidable.byContradiction fun h => by rw [hh] at hhard; exact Bool.noConfusion (hhard h).1
  cases hs : e.size with
  | none => rw [hs, hc] at hsize; cases hsize
  | some sz =>
    rw [hs] at hsize
    simp only [] at hsize
    refine ⟨?_, ?_⟩
    · unfold cpioPrecheck
      have hfn : e.ftype ≠ .none := fun h => by
        rcases htype with h' | h'
        · rw [h] at h'; cases f <;> simp [typesOf] at h'
        · exact h'.1 hh0
      cases p with
      | nil => exact absurd rfl hpne
      | cons c r => simp [hfn, hp, hs, hh0, Int.not_lt.2 hsize.1]
    · unfold cpioFilesize cpioSize Entry.sizeV
      rw [hs]
      simp only [Option.getD_some]
      split
      · omega
      · have := hsize.1; have := hsize.2
        split <;> omega

/-- An entry `representable .newc` describes (with a link target the reader would take) is accepted
by `archive_write_newc_header` with plain ARCHIVE_OK. -/
theorem representable_newc_accepted (e : Entry) (hr : representable .newc e = true)
    (hsl : e.sym.length ≤ 1048576) : newcAccepted e = true := by
  obtain ⟨p, hp, hshape, hranges, hnames⟩ := (representable_iff .newc e).1 hr
  obtain ⟨hpre, hfs0, hfs1⟩ := representable_cpio .newc rfl rfl e p hp hshape hranges (by simp only [sizeMax]; omega) true
  obtain ⟨hids, hmt, -, -, hrdev⟩ := (reprRanges_iff .newc e).1 hranges
  obtain ⟨⟨huid0, huid1⟩, hgid0, hgid1⟩ := hids rfl
  simp only [reprNames, convertsNames, imp, Bool.not_false, Bool.true_or, Bool.true_and, Bool.and_eq_true, inR_iff] at hnames
  obtain ⟨hnlink, hino⟩ := hnames
  simp only [idMax, mtimeRange, sizeMax, rdevMax] at huid1 hgid1 hmt hfs1 hrdev
  have hmode := mode_lt e
  have hov : cpioOverflow newcFormatHex (newcFields e (devMajor e.dev) (devMinor e.dev)
      ((p.length : Int) + 1) (cpioFilesize e)) = false := by
    simp only [cpioOverflow, newcFields, List.any_cons, List.any_nil, Bool.false_and, Bool.true_and, Bool.or_false,
      Bool.false_or, newcw_devmajor_size, newcw_devminor_size, newcw_mode_size, newcw_uid_size, newcw_gid_size,
      newcw_nlink_size, newcw_rdevmajor_size, newcw_rdevminor_size, newcw_mtime_size, Bool.or_eq_false_iff]
    refine ⟨hex8 _ (devMajor_range _), hex8 _ (devMinor_range _), hex8 _ (by omega), hex8 _ (by omega), hex8 _ (by omega),
      hex8 _ (by omega), ?_, ?_, hex8 _ (by omega)⟩ <;>
    · by_cases hd : e.ftype = .blk ∨ e.ftype = .chr
      · have := hrdev ⟨hd.symm, rfl⟩
        simp only [hd, decide_true, if_true]; exact hex8 _ (by omega)
      · simp only [hd, decide_false, Bool.false_eq_true, if_false]; exact hex8 _ (by omega)
  unfold newcAccepted newcWriteHeader
  rw [hpre]
  simp only [hp, Option.getD_some, newcWriteHeaderCore, newcw_filesize_size, hex8 _ ⟨hfs0, by omega⟩, Bool.false_eq_true,
    if_false, hov, Bool.false_or, decide_eq_true_eq, if_neg (show ¬ e.ino > 4294967295 by omega)]
  rfl

/-- An entry `representable .odc` describes is accepted by `archive_write_odc_header` with plain
ARCHIVE_OK (as long as inode numbers are left). -/
theorem representable_odc_accepted (e : Entry) (hr : representable .odc e = true)
    (hsl : e.sym.length ≤ 1048576) : odcAccepted e = true := by
  obtain ⟨p, hp, hshape, hranges, hnames⟩ := (representable_iff .odc e).1 hr
  obtain ⟨hpre, hfs0, hfs1⟩ := representable_cpio .odc rfl rfl e p hp hshape hranges (by simp only [sizeMax]; omega) false
  obtain ⟨hids, hmt, -, -, hrdev⟩ := (reprRanges_iff .odc e).1 hranges
  obtain ⟨⟨huid0, huid1⟩, hgid0, hgid1⟩ := hids rfl
  simp only [reprNames, convertsNames, imp, Bool.not_false, Bool.true_or, Bool.true_and, Bool.and_eq_true, inR_iff,
    decide_eq_true_eq] at hnames
  obtain ⟨⟨hplen, hdev⟩, hnlink⟩ := hnames
  simp only [idMax, mtimeRange, sizeMax, rdevMax] at huid1 hgid1 hmt hfs1 hrdev
  have hmode := mode_lt e
  -- a device number made of a major below 1024 and a minor below 256 fits 18 bits
  have hrd : 0 ≤ odcRdev e ∧ odcRdev e < 262144 := by
    unfold odcRdev
    split
    · next hd =>
      obtain ⟨⟨hM0, hM1⟩, hm0, hm1⟩ := hrdev ⟨hd.symm, rfl⟩
      obtain ⟨ma, hma⟩ := Int.eq_ofNat_of_zero_le hM0
      obtain ⟨mi, hmi⟩ := Int.eq_ofNat_of_zero_le hm0
      rw [hma] at hM1 ⊢
      rw [hmi] at hm1 ⊢
      unfold makedev
      simp only [show ((ma : Int) % 4294967296).toNat = ma by omega, show ((mi : Int) % 4294967296).toNat = mi by omega]
      omega
    · omega
  have hov : cpioOverflow odcFormatOctal (odcFields e 0 ((p.length : Int) + 1) (cpioFilesize e)) = false := by
    simp only [cpioOverflow, odcFields, List.any_cons, List.any_nil, Bool.false_and, Bool.true_and, Bool.or_false,
      Bool.false_or, Bool.or_eq_false_iff]
    exact ⟨oct_fits _ _ 262144 (by decide) (by omega), oct_fits _ _ 262144 (by decide) (by omega),
      oct_fits _ _ 262144 (by decide) (by omega), oct_fits _ _ 262144 (by decide) (by omega),
      oct_fits _ _ 262144 (by decide) (by omega), oct_fits _ _ 262144 (by decide) hrd,
      oct_fits _ _ 8589934592 (by decide) (by omega)⟩
  have hns := oct_fits ((p.length : Int) + 1) odcw_namesize_size 262144 (by decide) (by omega)
  have hfs := oct_fits _ odcw_filesize_size 8589934592 (by decide) ⟨hfs0, by omega⟩
  unfold odcAccepted
  rw [odcWriteHeader_st {} e (synthIno_empty e), hpre]
  simp only [hp, Option.getD_some, odcStatusNF, hns, hfs, hov, Bool.false_eq_true, if_false]
  rfl

end LA.Codec
