/-
`__archive_read_filter_seek`: the walk back of SEEK_END, the final `client_seek_proxy(SEEK_SET)`
with the reset of the filter, and the whole operation.
-/
import LA.Lemmas.ReadAheadSeekWalk
namespace LA.RA

def Full (s : State) (c : Nat) : Prop :=
  (∀ j, j ≤ c → s.begins[j]? = some (prefixLen s.nodes j : Int)) ∧
  (∀ j, j ≤ c → s.sizes[j]? = some (nlen s.nodes j : Int))

theorem full_of_known {s : State} {c : Nat} (hk : Known s c) (hz : s.sizes[c]? = some (nlen s.nodes c : Int)) :
    Full s c := by
  refine ⟨hk.1, fun j hj => ?_⟩
  by_cases h : j = c
  · subst h; exact hz
  · exact hk.2 j (by omega)

/-- Third walk of SEEK_END. `r + offset` (the target) is kept; the walk stops at the node
that holds the target, or at the first node. -/
theorem walkBack_spec (s : State) (c0 c : Nat) (r offset : Int) (hf : Full s c0) (hc : c ≤ c0)
    (hcl : c < s.nodes.length) (hr : r = (prefixLen s.nodes (c + 1) : Int)) :
    ∃ c' r' off', walkBack s c r offset = some (c', r', off') ∧ c' ≤ c ∧ r' + off' = r + offset ∧
      ((prefixLen s.nodes c' : Int) ≤ r + offset ∨ c' = 0) ∧
      (c' < c → r + offset < (prefixLen s.nodes (c' + 1) : Int)) := by
  induction c generalizing r offset with
  | zero => exact ⟨0, r, offset, rfl, Nat.le_refl _, rfl, Or.inr rfl, fun h => by omega⟩
  | succ n ih =>
    unfold walkBack
    rw [hf.1 (n + 1) hc, hf.2 (n + 1) hc, hf.1 n (by omega), hf.2 n (by omega)]
    simp only []
    by_cases hge : r + offset ≥ (prefixLen s.nodes (n + 1) : Int)
    · rw [if_pos hge]
      exact ⟨n + 1, r, offset, rfl, Nat.le_refl _, rfl, Or.inl hge, fun h => by omega⟩
    · rw [if_neg hge]
      have h1 := prefixLen_succ_int s.nodes n (by omega)
      have h2 : r = (prefixLen s.nodes (n + 1) : Int) + (nlen s.nodes (n + 1) : Int) :=
        hr.trans (prefixLen_succ_int s.nodes (n + 1) hcl).symm
      obtain ⟨c', r', off', e1, e2, e3, e4, e5⟩ := ih ((prefixLen s.nodes n : Int) + (nlen s.nodes n : Int))
        (offset + (nlen s.nodes (n + 1) : Int)) (by omega) (by omega) h1
      have hT : (prefixLen s.nodes n : Int) + (nlen s.nodes n : Int) + (offset + (nlen s.nodes (n + 1) : Int)) = r + offset := by
        rw [h1, h2]; omega
      rw [hT] at e3 e4 e5
      refine ⟨c', r', off', e1, by omega, e3, e4, ?_⟩
      intro hlt
      by_cases hcn : c' = n
      · subst hcn; omega
      · exact e5 (by omega)

structure SeekFrame (s s' : State) : Prop where
  bufSize : s'.bufSize = s.bufSize
  fatal : s'.fatal = s.fatal
  skips : s'.skips = s.skips
  noSkipper : s'.noSkipper = s.noSkipper
  hasSeeker : s'.hasSeeker = s.hasSeeker
  canSeek : s'.canSeek = s.canSeek
  canSkip : s'.canSkip = s.canSkip
  nodes : s'.nodes = s.nodes
  blk : s'.blk = s.blk
  term : s'.term = s.term

theorem SeekFrame.refl (s : State) : SeekFrame s s := by constructor <;> rfl

theorem SeekFrame.of_filt {s s' : State} (h : Filt s s') : SeekFrame s s' :=
  ⟨h.bufSize, h.fatal, h.skips, h.noSkipper, h.hasSeeker, h.canSeek, h.canSkip, h.nodes, h.blk, h.term⟩

theorem SeekFrame.trans {a b c : State} (h1 : SeekFrame a b) (h2 : SeekFrame b c) : SeekFrame a c :=
  ⟨h2.bufSize.trans h1.bufSize, h2.fatal.trans h1.fatal, h2.skips.trans h1.skips, h2.noSkipper.trans h1.noSkipper,
   h2.hasSeeker.trans h1.hasSeeker, h2.canSeek.trans h1.canSeek, h2.canSkip.trans h1.canSkip,
   h2.nodes.trans h1.nodes, h2.blk.trans h1.blk, h2.term.trans h1.term⟩

/-- A seek that succeeded: the filter is consistent again and stands exactly at the position it
reports, whatever state it was in before. -/
def SeekOk (s : State) (r : Int × State) : Prop :=
  0 ≤ r.1 ∧ Inv r.2 ∧ CacheOk r.2 ∧ r.2.position = r.1.toNat ∧
  remaining r.2 = (allBytes s).drop r.1.toNat ∧ r.2.eof = false ∧ SeekFrame s r.2

theorem seekOk_of_filt {s0 s : State} {r : Int × State} (hf : Filt s0 s) (h : SeekOk s r) : SeekOk s0 r := by
  obtain ⟨a1, a2, a3, a4, a5, a6, a7⟩ := h
  refine ⟨a1, a2, a3, a4, ?_, a6, (SeekFrame.of_filt hf).trans a7⟩
  rw [a5]; unfold allBytes; rw [hf.nodes]

theorem seekFail_of_filt {s0 s : State} {r : Int × State} (hf : Filt s0 s) (h : SeekFail s r) : SeekFail s0 r :=
  ⟨h.1, hf.trans h.2.1, h.2.2⟩

/-- The last step: range check, `client_switch_proxy`, `client_seek_proxy(SEEK_SET)`, reset. -/
theorem seekIn_spec (s : State) (c : Nat) (off : Int) (hc : CacheOk s) (hcl : c < s.nodes.length)
    (hb : s.begins[c]? = some (prefixLen s.nodes c : Int)) (hz : s.sizes[c]? = some (nlen s.nodes c : Int))
    (hs : s.hasSeeker = true) (hbl : s.bufSize < 2 ^ 63) :
    (off < 0 ∨ off > (nlen s.nodes c : Int) → seekIn s c off = (-30, s)) ∧
    (0 ≤ off → off ≤ (nlen s.nodes c : Int) →
      (SeekFail s (seekIn s c off) ∧ ¬ SeeksOk s.seeks) ∨
      (SeekOk s (seekIn s c off) ∧ (seekIn s c off).1 ≤ (prefixLen s.nodes c : Int) + off ∧
        (SeeksOk s.seeks → (seekIn s c off).1 = (prefixLen s.nodes c : Int) + off ∧ SeeksOk (seekIn s c off).2.seeks))) := by
  unfold seekIn
  rw [hb, hz]
  simp only []
  constructor
  · intro h; rw [if_pos h]
  · intro h0 h1
    rw [if_neg (by omega)]
    have hf1 := switchTo_filt s c
    obtain ⟨hb1, hz1, hq1⟩ := switchTo_cache s c
    have hcur := switchTo_cursor s c hcl
    have hs1 : (switchTo s c).hasSeeker = true := by rw [hf1.hasSeeker]; exact hs
    obtain ⟨hf2, hb2, hz2, _⟩ := clientSeek_frame (switchTo s c) .set off
    have hck2 : CacheOk (clientSeek (switchTo s c) .set off).2 :=
      cacheOk_congr (hf1.trans hf2).nodes (hb2.trans hb1) (hz2.trans hz1) hc
    have htgt : seekTarget (switchTo s c) .set off = off := rfl
    rcases clientSeek_spec (switchTo s c) .set off hs1 with ⟨a1, a2, a3⟩ | ⟨a1, a2, a3, a4, a5⟩
    · left
      rw [if_pos a1]
      refine ⟨⟨a1, hf1.trans hf2, hck2⟩, ?_⟩
      intro hok
      have := a3 (by rw [hq1]; exact hok)
      rw [htgt] at this; omega
    · right
      rw [if_neg (by omega)]
      rw [htgt] at a3 a5
      generalize hr : clientSeek (switchTo s c) .set off = r at *
      obtain ⟨r1, s2⟩ := r
      simp only [] at a1 a3 a4 a5 hf2 hb2 hz2 hck2 ⊢
      have hge : r1 + (prefixLen s.nodes c : Int) ≥ 0 := by omega
      unfold finishSeek
      rw [if_pos hge]
      have hpos : (r1 + (prefixLen s.nodes c : Int)).toNat = prefixLen s.nodes c + r1.toNat := by
        rw [Int.add_comm, Int.toNat_add (Int.natCast_nonneg _) a1, Int.toNat_natCast]
      -- where the client stands now
      have hlt : cursor (switchTo s c) < ({ (switchTo s c) with seeks := (switchTo s c).seeks.tail } : State).nodes.length := by
        rw [hcur, hf1.nodes]; exact hcl
      have htail : tailBytes s2 = (allBytes s).drop (prefixLen s.nodes c + r1.toNat) := by
        rw [a4, place_tail, hcur]
        show (nodeAt (switchTo s c) c).drop r1.toNat ++ ((switchTo s c).nodes.drop (c + 1)).flatten = _
        have hn : nodeAt (switchTo s c) c = (s.nodes[c]?).getD [] := by unfold nodeAt; rw [hf1.nodes]
        rw [hn, hf1.nodes]
        unfold allBytes
        rw [flatten_drop_node s.nodes c r1.toNat hcl (by show r1.toNat ≤ nlen s.nodes c; omega)]
      have hok2 := place_srcOk { (switchTo s c) with seeks := (switchTo s c).seeks.tail } ((switchTo s c).epoch + 1)
        (cursor (switchTo s c)) r1.toNat
      rw [← a4] at hok2
      refine ⟨⟨by omega, ?_, ?_, rfl, ?_, rfl, ?_⟩, by omega, ?_⟩
      · exact { cbIn := by simp, bufLt := by show s2.bufSize < _; rw [(hf1.trans hf2).bufSize]; exact hbl,
                clientEq := by simp, prov := ⟨[], [], by simp, by simp, by simp, by simp⟩,
                eofSrc := (by intro h; cases h), srcOk := hok2.1, laterOk := hok2.2 }
      · exact cacheOk_congr (s := s2) rfl rfl rfl hck2
      · rw [hpos, ← htail]
        simp [remaining, tailBytes]
      · have := SeekFrame.of_filt (hf1.trans hf2)
        exact ⟨this.bufSize, this.fatal, this.skips, this.noSkipper, this.hasSeeker, this.canSeek, this.canSkip,
               this.nodes, this.blk, this.term⟩
      · intro hok
        have := a5 (Or.inl (by rw [hq1]; exact hok))
        refine ⟨by omega, ?_⟩
        rw [a4]; simp [hq1]; exact hok.tail

/-- What a seek request with target `t` establishes: it succeeds, the target lies inside the
stream and the reported position is the target or (aligned seeker) lies before it; or it fails.
With a seek callback that behaves it succeeds exactly on the targets inside the stream, and lands
on the target. -/
def SeekPost (s : State) (t : Int) (r : Int × State) : Prop :=
  ((SeekOk s r ∧ 0 ≤ t ∧ t ≤ ((allBytes s).length : Int) ∧ r.1 ≤ t) ∨ SeekFail s r) ∧
  (SeeksOk s.seeks →
    SeeksOk r.2.seeks ∧ (if 0 ≤ t ∧ t ≤ ((allBytes s).length : Int) then r.1 = t else r.1 = -30))

theorem SeekPost.of_fail {s : State} {t : Int} {r : Int × State} (h : SeekFail s r ∧ ¬ SeeksOk s.seeks) :
    SeekPost s t r :=
  ⟨.inr h.1, fun hq => absurd hq h.2⟩

theorem SeekPost.behaved {s : State} {t : Int} {r : Int × State} (h : SeekPost s t r) (hq : SeeksOk s.seeks) :
    SeeksOk r.2.seeks ∧
    (if 0 ≤ t ∧ t ≤ ((allBytes s).length : Int) then r.1 = t ∧ SeekOk s r else r.1 = -30 ∧ SeekFail s r) := by
  obtain ⟨h1, h2⟩ := h
  obtain ⟨q1, q2⟩ := h2 hq
  refine ⟨q1, ?_⟩
  split
  · rename_i hin
    rw [if_pos hin] at q2
    exact ⟨q2, (h1.resolve_right fun bad => by have := bad.1; omega).1⟩
  · rename_i hin
    rw [if_neg hin] at q2
    exact ⟨q2, h1.resolve_left fun ok => by have := ok.1.1; omega⟩

/-- Common tail of SEEK_SET and SEEK_END: the walks have chosen node `c` of the state `s2`
reached from `s`; `t` is the target. -/
theorem seekIn_post (s s2 : State) (c : Nat) (t : Int) (hf : Filt s s2) (hok : SeeksOk s.seeks → SeeksOk s2.seeks)
    (hc : CacheOk s2) (hcl : c < s.nodes.length)
    (hb : s2.begins[c]? = some (prefixLen s.nodes c : Int)) (hz : s2.sizes[c]? = some (nlen s.nodes c : Int))
    (hs : s.hasSeeker = true) (hbl : s.bufSize < 2 ^ 63)
    (hlo : 0 ≤ t → (prefixLen s.nodes c : Int) ≤ t)
    (hhi : t ≤ ((allBytes s).length : Int) → t ≤ (prefixLen s.nodes c : Int) + (nlen s.nodes c : Int))
    (hhi' : ((allBytes s).length : Int) < t → (prefixLen s.nodes c : Int) + (nlen s.nodes c : Int) < t) :
    SeekPost s t (seekIn s2 c (t - (prefixLen s.nodes c : Int))) := by
  have hn : s2.nodes = s.nodes := hf.nodes
  obtain ⟨g1, g2⟩ := seekIn_spec s2 c (t - (prefixLen s.nodes c : Int)) hc (by rw [hn]; exact hcl)
    (by rw [hn]; exact hb) (by rw [hn]; exact hz) (by rw [hf.hasSeeker]; exact hs) (by rw [hf.bufSize]; exact hbl)
  rw [hn] at g1 g2
  have hple : (prefixLen s.nodes c : Int) ≥ 0 := by omega
  by_cases hin : 0 ≤ t ∧ t ≤ ((allBytes s).length : Int)
  · have h0 : 0 ≤ t - (prefixLen s.nodes c : Int) := by have := hlo hin.1; omega
    have h1 : t - (prefixLen s.nodes c : Int) ≤ (nlen s.nodes c : Int) := by have := hhi hin.2; omega
    rcases g2 h0 h1 with ⟨b1, b2⟩ | ⟨b1, b2, b3⟩
    · exact .of_fail ⟨seekFail_of_filt hf b1, fun h => b2 (hok h)⟩
    · refine ⟨.inl ⟨seekOk_of_filt hf b1, hin.1, hin.2, by omega⟩, fun h => ?_⟩
      obtain ⟨c1, c2⟩ := b3 (hok h)
      rw [if_pos hin]
      exact ⟨c2, by omega⟩
  · have hout : t - (prefixLen s.nodes c : Int) < 0 ∨ t - (prefixLen s.nodes c : Int) > (nlen s.nodes c : Int) := by
      by_cases hneg : t < 0
      · left; omega
      · right
        have : ((allBytes s).length : Int) < t := by omega
        have := hhi' this; omega
    rw [g1 hout]
    refine ⟨.inr ⟨by omega, hf, hc⟩, fun h => ?_⟩
    rw [if_neg hin]
    exact ⟨hok h, rfl⟩

/-- The two forward walks of SEEK_SET and SEEK_END: the first never fails; the second fails only
if the seek callback does, and otherwise stops at a node all of whose predecessors are recorded. -/
theorem walks_spec (stopAt : Option Int) (s : State) (hc : CacheOk s) (hs : s.hasSeeker = true) :
    ∃ c1 s1, walkKnown stopAt (s.nodes.length - 1) 0 s = .at_ c1 s1 ∧
      ProbePost stopAt s 0 (walkProbe stopAt (s.nodes.length - 1 - c1) c1 s1) := by
  have hne := hc.ne
  obtain ⟨c1, s1, e1, _, e3, e4, e5, e6, e7, e8⟩ :=
    walkKnown_spec stopAt (s.nodes.length - 1) 0 s hc (known_zero s hc) (passed_zero _ _) (Nat.zero_add _)
  have hn1 : s1.nodes = s.nodes := e7.nodes
  exact ⟨c1, s1, e1, (walkProbe_spec stopAt (s.nodes.length - 1 - c1) c1 s1 e4 e5 (hn1 ▸ e6) (by rw [hn1]; omega)
    (e7.hasSeeker.trans hs)).of_filt e7 (fun h => e8 ▸ h) (Nat.zero_le _)⟩

theorem seekSet_spec (s : State) (t : Int) (hc : CacheOk s) (hs : s.hasSeeker = true) (hbl : s.bufSize < 2 ^ 63) :
    SeekPost s t (seekSet s t) := by
  unfold seekSet
  have hne := hc.ne
  obtain ⟨c1, s1, e1, w⟩ := walks_spec (some t) s hc hs
  rw [e1]
  simp only []
  cases hw : walkProbe (some t) (s.nodes.length - 1 - c1) c1 s1 with
  | fail r s2 =>
    rw [hw] at w
    exact .of_fail w
  | at_ c2 s2 =>
    rw [hw] at w
    obtain ⟨_, d1, d2, d3, d4, d5, d6, d7, d8⟩ := w
    simp only []
    have hb2 : s2.begins[c2]? = some (prefixLen s.nodes c2 : Int) := d7.nodes ▸ d3.1 c2 (Nat.le_refl _)
    rw [hb2]
    have hcl : c2 < s.nodes.length := by omega
    have hsucc := prefixLen_succ s.nodes c2 hcl
    have htot : prefixLen s.nodes (c2 + 1) ≤ (allBytes s).length := prefixLen_le s.nodes (c2 + 1)
    apply seekIn_post s s2 c2 t d7 d8 d2 hcl hb2 d4 hs hbl
    · intro h0
      by_cases hz : c2 = 0
      · subst hz; rw [prefixLen_zero]; exact h0
      · have := d5 t rfl (c2 - 1) (by omega)
        rwa [show c2 - 1 + 1 = c2 by omega] at this
    · intro hle
      rcases d6 with h | h
      · simp [holds] at h; omega
      · rw [show c2 + 1 = s.nodes.length by omega, prefixLen_total] at hsucc
        unfold allBytes at hle; omega
    · intro hgt
      unfold allBytes at hgt htot; omega

theorem seekEnd_spec (s : State) (offset : Int) (hc : CacheOk s) (hs : s.hasSeeker = true) (hbl : s.bufSize < 2 ^ 63) :
    SeekPost s (offset + ((allBytes s).length : Int)) (seekEnd s offset) := by
  unfold seekEnd
  have hne := hc.ne
  obtain ⟨c1, s1, e1, w⟩ := walks_spec none s hc hs
  rw [e1]
  simp only []
  cases hw : walkProbe none (s.nodes.length - 1 - c1) c1 s1 with
  | fail r s2 =>
    rw [hw] at w
    exact .of_fail w
  | at_ c2 s2 =>
    rw [hw] at w
    obtain ⟨_, d1, d2, d3, d4, d5, d6, d7, d8⟩ := w
    simp only []
    have hn2 : s2.nodes = s.nodes := d7.nodes
    have hfull : Full s2 c2 := full_of_known d3 (hn2 ▸ d4)
    have hlast : c2 = s.nodes.length - 1 := d6.resolve_left (fun h => by cases h)
    have hcl : c2 < s.nodes.length := by omega
    rw [hfull.1 c2 (Nat.le_refl _), hfull.2 c2 (Nat.le_refl _)]
    simp only []
    have hr := prefixLen_succ_int s2.nodes c2 (hn2 ▸ hcl)
    obtain ⟨c3, r3, off3, b1, b2, b3, b4, b5⟩ := walkBack_spec s2 c2 c2
      (((prefixLen s2.nodes c2 : Nat) : Int) + (nlen s2.nodes c2 : Int)) offset hfull (Nat.le_refl _)
      (hn2 ▸ hcl) hr
    rw [b1]
    simp only []
    rw [hfull.1 c3 b2]
    rw [hn2] at b3 b4 b5 hr ⊢
    have hT : ((prefixLen s.nodes c2 : Nat) : Int) + (nlen s.nodes c2 : Int) + offset = offset + ((allBytes s).length : Int) := by
      rw [hr, show c2 + 1 = s.nodes.length by omega, prefixLen_total]; unfold allBytes; omega
    rw [hT] at b3 b4 b5
    rw [b3]
    have hcl3 : c3 < s.nodes.length := by omega
    have hsucc := prefixLen_succ s.nodes c3 hcl3
    have htot : prefixLen s.nodes (c3 + 1) ≤ (allBytes s).length := prefixLen_le s.nodes (c3 + 1)
    apply seekIn_post s s2 c3 (offset + ((allBytes s).length : Int)) d7 d8 d2 hcl3 (hn2 ▸ hfull.1 c3 b2)
      (hn2 ▸ hfull.2 c3 b2) hs hbl
    · intro h0
      rcases b4 with h | h
      · exact h
      · subst h; rw [prefixLen_zero]; exact h0
    · intro hle
      by_cases hlt : c3 < c2
      · have := b5 hlt; omega
      · rw [show c3 + 1 = s.nodes.length by omega, prefixLen_total] at hsucc
        simp only [allBytes] at hle ⊢; omega
    · intro hgt
      simp only [allBytes] at hgt htot ⊢; omega

def targetOf (s : State) (off : Int) (w : Whence) : Option Int :=
  match w with
  | .set => some off
  | .cur => some (off + s.position)
  | .end_ => some (off + ((allBytes s).length : Int))
  | .other => none

theorem targetOf_none {s : State} {off : Int} {w : Whence} (h : targetOf s off w = none) : w = .other := by
  cases w <;> first | rfl | cases h

theorem seek_refused (s : State) (off : Int) (w : Whence) (h : s.fatal = true ∨ s.canSeek = false ∨ w = .other) :
    (seek s off w).1 < 0 ∧ (seek s off w).2 = s := by
  unfold seek
  by_cases hf : s.fatal = true
  · rw [if_pos hf]; exact ⟨(by decide : (-30 : Int) < 0), rfl⟩
  · rw [if_neg hf]
    by_cases hcs : s.canSeek = true
    · obtain rfl : w = .other := (h.resolve_left hf).resolve_left (fun h => by rw [hcs] at h; cases h)
      rw [hcs]; exact ⟨(by decide : (-30 : Int) < 0), rfl⟩
    · rw [(Bool.not_eq_true _).mp hcs]; exact ⟨(by decide : (-25 : Int) < 0), rfl⟩

/-- **`__archive_read_filter_seek`.** -/
theorem seek_spec (s : State) (off : Int) (w : Whence) (hc : CacheOk s) (hs : s.hasSeeker = true)
    (hcs : s.canSeek = true) (hf : s.fatal = false) (hbl : s.bufSize < 2 ^ 63) {t : Int}
    (ht : targetOf s off w = some t) :
    SeekPost s t (seek s off w) := by
  unfold seek
  simp only [hf, hcs, Bool.false_eq_true, if_false, Bool.not_true]
  cases w with
  | set => obtain rfl := Option.some.inj ht; exact seekSet_spec s off hc hs hbl
  | cur => obtain rfl := Option.some.inj ht; exact seekSet_spec s (off + s.position) hc hs hbl
  | end_ => obtain rfl := Option.some.inj ht; exact seekEnd_spec s off hc hs hbl
  | other => cases ht

theorem seek_keeps (s : State) (off : Int) (w : Whence) (hc : s.canSeek = true → CacheOk s ∧ s.hasSeeker = true)
    (hbl : s.bufSize < 2 ^ 63) :
    SeekFrame s (seek s off w).2 ∧ (SeeksOk s.seeks → SeeksOk (seek s off w).2.seeks) := by
  by_cases hr : s.fatal = true ∨ s.canSeek = false ∨ w = .other
  · rw [(seek_refused s off w hr).2]; exact ⟨.refl s, id⟩
  · have hcs : s.canSeek = true := by
      cases hq : s.canSeek
      · exact absurd (.inr (.inl hq)) hr
      · rfl
    cases ht : targetOf s off w with
    | none => exact absurd (.inr (.inr (targetOf_none ht))) hr
    | some t =>
      obtain ⟨p, p3⟩ := seek_spec s off w (hc hcs).1 (hc hcs).2 hcs ((Bool.not_eq_true _).mp fun h => hr (.inl h)) hbl ht
      refine ⟨?_, fun h => (p3 h).1⟩
      rcases p with ⟨p, _⟩ | p
      · exact p.2.2.2.2.2.2
      · exact .of_filt p.2.1

end LA.RA
