/-
Helper lemmas for C04: the confinement invariant and its preservation
by the primitive mutations of `LA.FS` at positions inside the target.
-/
import LA.Lemmas.FSTree
namespace LA.FS

/-- Placeholder that stands for "whatever is in the target directory". -/
def hole : Tree := .file 0

/-- The tree with the subtree at `T` cut out. -/
def mask (T : List Name) (t : Tree) : Tree := modify (fun _ => hole) t T

/-- The frame of one extraction: the target position, the inodes that were
reachable from inside the target at the start (`S`), the first unused inode
number and the outside world at the start. -/
structure Ctx where
  T : List Name
  S : Nat → Prop
  n0 : Nat
  root0 : Tree
  files0 : Nat → Option FNode

/-- Inodes the extraction may touch: those reachable from inside the target at
the start, and those it allocates itself. -/
def Ctx.inS (c : Ctx) (i : Nat) : Prop := c.S i ∨ c.n0 ≤ i

/-- Every file reference below `t` satisfies `P`. -/
def RefsIn (P : Nat → Prop) (t : Tree) : Prop := ∀ p ino, get t p = some (.file ino) → P ino

structure Inv (c : Ctx) (pr : Proc) : Prop where
  tree : mask c.T pr.fs.root = mask c.T c.root0
  files : ∀ i, i < c.n0 → ¬ c.S i → pr.fs.files i = c.files0 i
  refs : ∀ tT, get pr.fs.root c.T = some tT → RefsIn c.inS tT
  next : c.n0 ≤ pr.fs.next
  tdir : ∃ tT, get pr.fs.root c.T = some tT ∧ tT.isDir = true
  cwd : pr.cwd = c.T
  fd : ∀ i, pr.fd = some i → c.inS i
  dfd : ∀ D, pr.dfd = some D → c.T <+: D
  xfd : ∀ h, pr.xfd = some h → match h with
    | .dir pos => c.T <+: pos
    | .file i => c.inS i

theorem refsIn_child {P : Nat → Prop} {t t' : Tree} {c : Name} (h : RefsIn P t) (hc : t.child c = some t') :
    RefsIn P t' := by
  intro p ino hp
  apply h (c :: p) ino
  rw [get_cons, hc]; exact hp

theorem refsIn_get {P : Nat → Prop} {t t' : Tree} {d : List Name} (h : RefsIn P t) (hd : get t d = some t') :
    RefsIn P t' := by
  intro p ino hp
  apply h (d ++ p) ino
  rw [get_append, hd]; exact hp

theorem refsIn_file {P : Nat → Prop} {i : Nat} (h : P i) : RefsIn P (.file i) := by
  intro p ino hp
  cases p with
  | nil => simp at hp; subst hp; exact h
  | cons c p => simp [get_cons, Tree.child] at hp

theorem refsIn_emptyDir {P : Nat → Prop} (m : Nat) (mt : Int) : RefsIn P (.dir m mt []) := by
  intro p ino hp
  cases p with
  | nil => simp at hp
  | cons c p => simp [get_cons, Tree.child, alGet] at hp

theorem refsIn_put {P : Nat → Prop} {t x : Tree} {c : Name} (h : RefsIn P t) (hx : RefsIn P x) :
    RefsIn P (t.put c x) := by
  intro p ino hp
  cases p with
  | nil =>
    cases t with
    | dir m mt es => simp [Tree.put] at hp
    | file i => exact h [] ino (by simpa [Tree.put] using hp)
  | cons c' p =>
    rw [get_cons, child_put] at hp
    split at hp
    · exact hx p ino (by simpa using hp)
    · exact h (c' :: p) ino (by rw [get_cons]; exact hp)

theorem refsIn_del {P : Nat → Prop} {t : Tree} {c : Name} (h : RefsIn P t) : RefsIn P (t.del c) := by
  intro p ino hp
  cases p with
  | nil =>
    cases t with
    | dir m mt es => simp [Tree.del] at hp
    | file i => exact h [] ino (by simpa [Tree.del] using hp)
  | cons c' p =>
    rw [get_cons, child_del] at hp
    split at hp
    · simp at hp
    · exact h (c' :: p) ino (by rw [get_cons]; exact hp)

theorem refsIn_touch {P : Nat → Prop} {t : Tree} (h : RefsIn P t) : RefsIn P t.touch := by
  intro p ino hp
  cases p with
  | nil =>
    cases t with
    | dir m mt es => simp [Tree.touch] at hp
    | file i => exact h [] ino (by simpa [Tree.touch] using hp)
  | cons c' p =>
    rw [get_cons, child_touch] at hp
    exact h (c' :: p) ino (by rw [get_cons]; exact hp)

theorem refsIn_modify {P : Nat → Prop} (f : Tree → Tree) (hf : ∀ t, RefsIn P t → RefsIn P (f t)) :
    ∀ (d : List Name) (t : Tree), RefsIn P t → RefsIn P (modify f t d) := by
  intro d
  induction d with
  | nil => intro t h; exact hf t h
  | cons c d ih =>
    intro t h
    rw [modify_cons]
    cases hc : t.child c with
    | none => exact h
    | some t' => exact refsIn_put h (ih t' (refsIn_child h hc))

theorem get_modify_prefix (f : Tree → Tree) (t : Tree) (p r : List Name) :
    get (modify f t (p ++ r)) p = (get t p).map (fun x => modify f x r) := by
  induction p generalizing t with
  | nil => simp
  | cons c p ih =>
    rw [List.cons_append, modify_cons, get_cons, get_cons]
    cases hc : t.child c with
    | none => simp [hc]
    | some t' =>
      simp only [child_put, isDir_of_child hc, and_self, if_true, Option.bind_some]
      exact ih t'

/-- What the three tree-shaped clauses of `Inv` say about a root. -/
structure TreeInv (c : Ctx) (root : Tree) : Prop where
  tree : mask c.T root = mask c.T c.root0
  refs : ∀ tT, get root c.T = some tT → RefsIn c.inS tT
  tdir : ∃ tT, get root c.T = some tT ∧ tT.isDir = true

theorem treeInv_modify {c : Ctx} {root : Tree} (h : TreeInv c root) (f : Tree → Tree)
    (hs : ShapeKeeping f) (hf : ∀ t, RefsIn c.inS t → RefsIn c.inS (f t)) (r : List Name) :
    TreeInv c (modify f root (c.T ++ r)) := by
  obtain ⟨tT, hT, hd⟩ := h.tdir
  have hg : get (modify f root (c.T ++ r)) c.T = some (modify f tT r) := by
    rw [get_modify_prefix, hT]; rfl
  refine ⟨?_, ?_, ⟨_, hg, ?_⟩⟩
  · unfold mask
    rw [modify_const_absorb _ (fun _ _ => rfl)]
    exact h.tree
  · intro tT' hT'
    rw [hg] at hT'
    simp only [Option.some.injEq] at hT'
    subst hT'
    exact refsIn_modify f hf r tT (h.refs tT hT)
  · rw [isDir_modify f hs]; exact hd

theorem shapeKeeping_put_touch (n : Name) (x : Tree) : ShapeKeeping (fun t => (t.put n x).touch) := by
  intro t
  refine ⟨by simp, ?_⟩
  intro h
  cases t with
  | dir => simp [Tree.isDir] at h
  | file i => rfl

theorem shapeKeeping_del_touch (n : Name) : ShapeKeeping (fun t => (t.del n).touch) := by
  intro t
  refine ⟨by simp, ?_⟩
  intro h
  cases t with
  | dir => simp [Tree.isDir] at h
  | file i => rfl

/-- A change that keeps every entry of the directory it is applied to keeps the references. -/
theorem refsIn_keepChildren {P : Nat → Prop} {f : Tree → Tree} (hs : ShapeKeeping f)
    (hk : ∀ t c, (f t).child c = t.child c) {t : Tree} (h : RefsIn P t) : RefsIn P (f t) := by
  intro p ino hp
  cases p with
  | nil =>
    have hfile : (f t).isDir = false := by rw [Option.some.inj hp]; rfl
    rw [(hs t).2 ((hs t).1 ▸ hfile)] at hp
    exact h [] ino hp
  | cons c p => rw [get_cons, hk] at hp; exact h (c :: p) ino (by rw [get_cons]; exact hp)

/-- `setDirMeta` is such a change at the given position. -/
theorem setDirMeta_eq (fs : FS) (pos : List Name) (g : Nat → Int → Nat × Int) :
    ∃ f, ShapeKeeping f ∧ (∀ t c, (f t).child c = t.child c) ∧
      setDirMeta fs pos g = { fs with root := modify f fs.root pos } :=
  ⟨_, fun t => by cases t <;> simp [Tree.isDir], fun t c => by cases t <;> rfl, rfl⟩

end LA.FS
