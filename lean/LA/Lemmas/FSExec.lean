/-
Helper lemmas for C04: the state assertion `Sem` (confinement invariant, no symlink along the
checked prefix), where `locate` puts a path of the family of the checked entry path, and the
primitive updates of the file system that keep `Sem`.
-/
import LA.Lemmas.FSWalk
namespace LA.FS
open LA.PathClean (SLASH DOT splitSlash)

def initOf (p : List Nat) : List Name := (compsOf p).dropLast

/-- A relative path without ".", ".." or a trailing '/'. -/
structure Rel (p : List Nat) : Prop where
  ne : compsOf p ≠ []
  notAbs : isAbs p = false
  noTrail : trailingSlash p = false
  noDots : NoDots (compsOf p)

/-- Paths the writer derives from a cleaned entry path `q`: "." itself, or a
relative path whose leading components are leading components of `q`
(`q`, its ancestors, its temporary name). -/
def Fam (q p : List Nat) : Prop := p = [DOT] ∨ (Rel p ∧ initOf p <+: initOf q)

/-- No reference in the tree points at an unallocated inode. -/
def WF (fs : FS) : Prop := RefsIn (fun i => i < fs.next) fs.root

/-- The state assertion while an entry whose cleaned path is `q` is restored. -/
structure Sem (c : Ctx) (q : List Nat) (pr : Proc) : Prop where
  inv : Inv c pr
  wf : WF pr.fs
  nl : NoLinkAt pr.fs c.T (initOf q)

theorem locate_ok {fs : FS} {cwd : List Name} {p : List Nat} {loc : Loc} (h : locate fs cwd p = .ok loc) :
    locate0 fs cwd p = .ok loc ∧ p.length < pathMax := by
  unfold locate at h
  split at h
  · simp at h
  · rename_i hl; exact ⟨h, by omega⟩

theorem locate_of_lt {fs : FS} {cwd : List Name} {p : List Nat} (h : p.length < pathMax) :
    locate fs cwd p = locate0 fs cwd p := by
  unfold locate; rw [if_neg (by omega)]

theorem lookupFollow_ok {fs : FS} {cwd : List Name} {p : List Nat} {r : List Name × Tree}
    (h : lookupFollow fs cwd p = .ok r) : lookupFollow0 fs cwd p = .ok r ∧ p.length < pathMax := by
  unfold lookupFollow at h
  split at h
  · simp at h
  · rename_i hl; exact ⟨h, by omega⟩

theorem lookupFollow_of_lt {fs : FS} {cwd : List Name} {p : List Nat} (h : p.length < pathMax) :
    lookupFollow fs cwd p = lookupFollow0 fs cwd p := by
  unfold lookupFollow; rw [if_neg (by omega)]

theorem dropLast_getLast? {α} (l : List α) (a : α) (h : l.getLast? = some a) : l = l.dropLast ++ [a] := by
  have hne : l ≠ [] := by intro e; subst e; simp at h
  have := List.dropLast_concat_getLast hne
  rw [List.getLast?_eq_some_getLast hne] at h
  simp only [Option.some.injEq] at h
  rw [h] at this; exact this.symm

theorem Rel.ne_nil {p : List Nat} (h : Rel p) : p ≠ [] := by
  intro hp; subst hp; exact h.ne (by decide)

theorem Rel.comps {p : List Nat} (h : Rel p) : ∃ n, compsOf p = initOf p ++ [n] :=
  ⟨_, (List.dropLast_concat_getLast h.ne).symm⟩

/-- `locate0` on a relative dot-free path: the kernel walks the leading components; the last one is the name. -/
theorem locate0_rel (fs : FS) (base : List Name) {p : List Nat} (hr : Rel p) {i : List Name} {n : Name}
    (hc : compsOf p = i ++ [n]) :
    locate0 fs base p = match walk fs maxLinks base i with
      | .error e => .error e
      | .ok d => match get fs.root d with
        | some (.dir ..) => if n.length > nameMax then .error .ENAMETOOLONG else .ok (.entry d n)
        | some (.file _) => .error .ENOTDIR
        | none => .error .ENOENT := by
  have hn := hr.noDots n (by rw [hc]; simp)
  unfold locate0
  simp only [hr.ne_nil, if_false, hr.notAbs, hc, List.getLast?_concat, hn.1, hn.2, hr.noTrail,
    Bool.false_eq_true, or_self, List.dropLast_concat]
  rfl

theorem locate_rel_ok {fs : FS} {base : List Name} {p : List Nat} (hr : Rel p) {loc : Loc}
    (h : locate fs base p = .ok loc) :
    ∃ d n, loc = .entry d n ∧ compsOf p = initOf p ++ [n] ∧ walk fs maxLinks base (initOf p) = .ok d ∧
      (∃ t, get fs.root d = some t ∧ t.isDir = true) ∧ ¬ n.length > nameMax := by
  obtain ⟨n, hc⟩ := hr.comps
  replace h := (locate_ok h).1
  rw [locate0_rel fs base hr hc] at h
  split at h
  · simp at h
  · rename_i d hw
    split at h
    · rename_i hg
      split at h
      · simp at h
      · rename_i hlen; exact ⟨d, n, (Except.ok.inj h).symm, hc, hw, ⟨_, hg, rfl⟩, hlen⟩
    · simp at h
    · simp at h

theorem locate0_dot (fs : FS) (base : List Name) :
    locate0 fs base [DOT] = match get fs.root base with
      | some (.dir ..) => .ok (.obj base)
      | some (.file _) => .error .ENOTDIR
      | none => .error .ENOENT := by
  unfold locate0
  simp only [show ([DOT] : List Nat) ≠ [] by decide, if_false, show isAbs [DOT] = false by decide,
    show compsOf [DOT] = [DOTN] by decide, List.getLast?_singleton, true_or, if_true, Bool.false_eq_true]
  rw [walk]
  cases hg : get fs.root base with
  | none => rfl
  | some t =>
    cases t with
    | file i => rfl
    | dir m mt es => simp only [if_true]; rw [walk]; simp only [hg]

theorem treeInv_of_inv {c : Ctx} {pr : Proc} (h : Inv c pr) : TreeInv c pr.fs.root :=
  ⟨h.tree, h.refs, h.tdir⟩

/-- Rebuild `Inv` after a change of the file system only. -/
theorem inv_setFs {c : Ctx} {pr : Proc} (h : Inv c pr) (fs' : FS) (ht : TreeInv c fs'.root)
    (hf : ∀ i, i < c.n0 → ¬ c.S i → fs'.files i = c.files0 i) (hn : c.n0 ≤ fs'.next) :
    Inv c { pr with fs := fs' } :=
  ⟨ht.tree, hf, ht.refs, hn, ht.tdir, h.cwd, h.fd, h.dfd, h.xfd⟩

/-- Where a family path is located: "." is the target directory itself … -/
theorem locate_fam_obj {c : Ctx} {q p : List Nat} {pr : Proc} (hS : Sem c q pr) (hF : Fam q p) {pos : List Name}
    (h : locate pr.fs pr.cwd p = .ok (.obj pos)) : p = [DOT] ∧ pos = c.T := by
  rcases hF with rfl | ⟨hr, _⟩
  · obtain ⟨tT, hT, hTd⟩ := hS.inv.tdir
    replace h := (locate_ok h).1
    rw [locate0_dot, hS.inv.cwd, hT] at h
    cases tT with
    | file i => simp [Tree.isDir] at hTd
    | dir m mt es => simp only [Except.ok.injEq, Loc.obj.injEq] at h; exact ⟨rfl, h.symm⟩
  · obtain ⟨_, _, hloc, _⟩ := locate_rel_ok hr h
    cases hloc

/-- … any other one is a name in a directory inside the target, below the checked prefix. -/
theorem locate_fam_entry {c : Ctx} {q p : List Nat} {pr : Proc} (hS : Sem c q pr) (hF : Fam q p) {d : List Name}
    {n : Name} (h : locate pr.fs pr.cwd p = .ok (.entry d n)) :
    ∃ r, d = c.T ++ r ∧ r <+: initOf q ∧ compsOf p = r ++ [n] := by
  obtain ⟨tT, hT, hTd⟩ := hS.inv.tdir
  rcases hF with rfl | ⟨hr, hp⟩
  · replace h := (locate_ok h).1
    rw [locate0_dot] at h
    split at h <;> cases h
  · obtain ⟨d', n', hloc, hc, hw, _⟩ := locate_rel_ok hr h
    cases hloc
    rw [hS.inv.cwd] at hw
    have hndi : NoDots (initOf p) := fun x hx => hr.noDots x (by rw [hc]; simp [hx])
    exact ⟨initOf p, (walk_noLink pr.fs maxLinks (initOf p) c.T tT hndi hT
      (noLinkT_prefix pr.fs _ _ tT hp (hS.nl tT hT)) d hw).1, hp, hc⟩

theorem isLnk_setRoot (fs : FS) (r : Tree) (t : Tree) : isLnk { fs with root := r } t = isLnk fs t := by
  cases t <;> rfl

theorem noLinkT_setRoot (fs : FS) (r : Tree) (t : Tree) (cs : List Name) (h : NoLinkT fs t cs) :
    NoLinkT { fs with root := r } t cs :=
  noLinkT_files fs _ cs t (fun _ i _ hl => by rw [isLnk_setRoot] at hl; exact hl) h

theorem okx_setRoot {fs : FS} {x : Tree} (r : Tree) (h : OKx fs x) : OKx { fs with root := r } x :=
  ⟨fun hd cs => noLinkT_setRoot fs r x cs (h.1 hd cs), fun hd => by rw [isLnk_setRoot]; exact h.2 hd⟩

/-- A shape-keeping change `f` of a directory inside the target keeps `Sem` when it keeps, at that
directory, the references and the symlink-freeness of what is left of the checked prefix. -/
theorem sem_modify {c : Ctx} {q : List Nat} {pr : Proc} (hS : Sem c q pr) (f : Tree → Tree) (hs : ShapeKeeping f)
    (hin : ∀ t, RefsIn c.inS t → RefsIn c.inS (f t))
    (hwf : ∀ t, RefsIn (fun i => i < pr.fs.next) t → RefsIn (fun i => i < pr.fs.next) (f t)) (r : List Name)
    (hnl : ∀ t rest, initOf q = r ++ rest → NoLinkT pr.fs t rest → NoLinkT pr.fs (f t) rest) :
    Sem c q { pr with fs := { pr.fs with root := modify f pr.fs.root (c.T ++ r) } } := by
  obtain ⟨tT, hT, _⟩ := hS.inv.tdir
  refine ⟨inv_setFs hS.inv _ (treeInv_modify (treeInv_of_inv hS.inv) f hs hin r) hS.inv.files hS.inv.next,
    refsIn_modify f hwf _ _ hS.wf, fun t' ht' => ?_⟩
  have hg : get (modify f pr.fs.root (c.T ++ r)) c.T = some (modify f tT r) := by
    rw [get_modify_prefix, hT]; rfl
  cases hg.symm.trans ht'
  exact noLinkT_setRoot _ _ _ _ (noLinkT_modify pr.fs f hs r (initOf q) tT (hS.nl tT hT) hnl)

/-- A new entry `n` in the directory at `r`: an `OKx` object anywhere, anything at the end of the path `q`. -/
theorem sem_putAt {c : Ctx} {q : List Nat} {pr : Proc} (hS : Sem c q pr) (r : List Name) (n : Name) (x : Tree)
    (hx : RefsIn c.inS x) (hx2 : RefsIn (fun i => i < pr.fs.next) x)
    (hc : OKx pr.fs x ∨ compsOf q = r ++ [n]) :
    Sem c q { pr with fs := putAt pr.fs (c.T ++ r) n x } :=
  sem_modify hS _ (shapeKeeping_put_touch n x) (fun _ ht => refsIn_touch (refsIn_put ht hx))
    (fun _ ht => refsIn_touch (refsIn_put ht hx2)) r
    (fun t rest he h => noLinkT_put_touch pr.fs n x t rest h (hc.imp_right fun hq => by
      rw [initOf, hq, List.dropLast_concat] at he
      exact List.append_cancel_left (he.symm.trans (List.append_nil r).symm)))

theorem sem_delAt {c : Ctx} {q : List Nat} {pr : Proc} (hS : Sem c q pr) (r : List Name) (n : Name) :
    Sem c q { pr with fs := delAt pr.fs (c.T ++ r) n } :=
  sem_modify hS _ (shapeKeeping_del_touch n) (fun _ ht => refsIn_touch (refsIn_del ht))
    (fun _ ht => refsIn_touch (refsIn_del ht)) r (fun t rest _ h => noLinkT_del_touch pr.fs n t rest h)

theorem sem_setDirMeta {c : Ctx} {q : List Nat} {pr : Proc} (hS : Sem c q pr) (r : List Name)
    (g : Nat → Int → Nat × Int) : Sem c q { pr with fs := setDirMeta pr.fs (c.T ++ r) g } := by
  obtain ⟨f, hs, hk, he⟩ := setDirMeta_eq pr.fs (c.T ++ r) g
  rw [he]
  exact sem_modify hS f hs (fun _ => refsIn_keepChildren hs hk) (fun _ => refsIn_keepChildren hs hk) r
    (fun t rest _ h => noLinkT_keepChildren pr.fs hk t rest h)

/-- Changing the inode table only: for inodes the extraction may touch, without
making a referenced inode a symlink. -/
theorem sem_setFiles {c : Ctx} {q : List Nat} {pr : Proc} (hS : Sem c q pr) (files' : Nat → Option FNode)
    (next' : Nat) (hn : pr.fs.next ≤ next')
    (hout : ∀ i, ¬ c.inS i → files' i = pr.fs.files i)
    (hl : ∀ i, i < pr.fs.next → isLnk { pr.fs with files := files', next := next' } (.file i) = true →
      isLnk pr.fs (.file i) = true) :
    Sem c q { pr with fs := { pr.fs with files := files', next := next' } } := by
  refine ⟨inv_setFs hS.inv _ (treeInv_of_inv hS.inv) ?_ (Nat.le_trans hS.inv.next hn), ?_, ?_⟩
  · intro i hi hs
    have : ¬ c.inS i := by
      intro h; rcases h with h | h
      · exact hs h
      · omega
    show files' i = c.files0 i
    rw [hout i this]; exact hS.inv.files i hi hs
  · intro p i hp; exact Nat.lt_of_lt_of_le (hS.wf p i hp) hn
  · intro t' ht'
    apply noLinkT_files pr.fs _ _ t' _ (hS.nl t' ht')
    intro p i hp
    obtain ⟨tT, hT, _⟩ := hS.inv.tdir
    have : get pr.fs.root (c.T ++ p) = some (.file i) := by
      rw [get_append]
      simp only [] at ht'
      rw [ht']
      exact hp
    exact hl i (hS.wf _ i this)

end LA.FS
