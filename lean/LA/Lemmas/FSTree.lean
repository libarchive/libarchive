/-
Helper lemmas for C04: association lists, one level of the tree,
`get` / `modify` at positions (the lens laws the confinement proofs use).
-/
import LA.Model.FS
namespace LA.FS

theorem alGet_alSet {α} (es : List (Name × α)) (c c' : Name) (x : α) :
    alGet (alSet es c x) c' = if c = c' then some x else alGet es c' := by
  induction es with
  | nil => simp [alSet, alGet]
  | cons kv r ih =>
    obtain ⟨k, v⟩ := kv
    by_cases h : k = c
    · subst h
      by_cases h2 : k = c' <;> simp [alSet, alGet, h2]
    · by_cases h2 : k = c'
      · subst h2
        have : ¬ c = k := fun e => h e.symm
        simp [alSet, alGet, h, this]
      · simp [alSet, alGet, h, h2, ih]

theorem alGet_alDel {α} (es : List (Name × α)) (c c' : Name) :
    alGet (alDel es c) c' = if c = c' then none else alGet es c' := by
  induction es with
  | nil => simp [alDel, alGet]
  | cons kv r ih =>
    obtain ⟨k, v⟩ := kv
    by_cases h : k = c
    · subst h
      by_cases h2 : k = c'
      · subst h2; simpa [alDel, alGet] using ih
      · simp [alDel, alGet, h2, ih]
    · by_cases h2 : k = c'
      · subst h2
        have : ¬ c = k := fun e => h e.symm
        simp [alDel, alGet, h, this]
      · simp [alDel, alGet, h, h2, ih]

theorem alSet_alSet {α} (es : List (Name × α)) (c : Name) (x y : α) :
    alSet (alSet es c x) c y = alSet es c y := by
  induction es with
  | nil => simp [alSet]
  | cons kv r ih =>
    obtain ⟨k, v⟩ := kv
    by_cases h : k = c <;> simp [alSet, h, ih]

theorem child_put (t : Tree) (c c' : Name) (x : Tree) :
    (t.put c x).child c' = if c = c' ∧ t.isDir = true then some x else t.child c' := by
  cases t with
  | dir m mt es => simp [Tree.put, Tree.child, Tree.isDir, alGet_alSet]
  | file i => simp [Tree.put, Tree.child, Tree.isDir]

theorem child_del (t : Tree) (c c' : Name) :
    (t.del c).child c' = if c = c' then none else t.child c' := by
  cases t with
  | dir m mt es => simp [Tree.del, Tree.child, alGet_alDel]
  | file i => simp [Tree.del, Tree.child]

@[simp] theorem child_touch (t : Tree) (c : Name) : t.touch.child c = t.child c := by
  cases t <;> rfl

@[simp] theorem isDir_put (t : Tree) (c : Name) (x : Tree) : (t.put c x).isDir = t.isDir := by
  cases t <;> rfl
@[simp] theorem isDir_del (t : Tree) (c : Name) : (t.del c).isDir = t.isDir := by
  cases t <;> rfl
@[simp] theorem isDir_touch (t : Tree) : t.touch.isDir = t.isDir := by
  cases t <;> rfl

theorem put_put (t : Tree) (c : Name) (x y : Tree) : (t.put c x).put c y = t.put c y := by
  cases t with
  | dir m mt es => simp [Tree.put, alSet_alSet]
  | file i => rfl

theorem child_none_of_file {t : Tree} (h : t.isDir = false) (c : Name) : t.child c = none := by
  cases t with
  | dir => simp [Tree.isDir] at h
  | file i => rfl

theorem isDir_of_child {t t' : Tree} {c : Name} (h : t.child c = some t') : t.isDir = true := by
  cases t with
  | dir => rfl
  | file i => simp [Tree.child] at h

@[simp] theorem get_nil (t : Tree) : get t [] = some t := rfl

theorem get_cons (t : Tree) (c : Name) (r : List Name) :
    get t (c :: r) = (t.child c).bind (fun t' => get t' r) := by
  simp only [get]; cases t.child c <;> rfl

theorem get_append (t : Tree) (p q : List Name) :
    get t (p ++ q) = (get t p).bind (fun t' => get t' q) := by
  induction p generalizing t with
  | nil => simp
  | cons c p ih =>
    rw [List.cons_append, get_cons, get_cons]
    cases t.child c with
    | none => rfl
    | some t' => simpa using ih t'

theorem get_snoc (t : Tree) (p : List Name) (c : Name) :
    get t (p ++ [c]) = (get t p).bind (·.child c) := by
  rw [get_append]
  cases get t p with
  | none => rfl
  | some t' => simp [get_cons]

theorem modify_cons (f : Tree → Tree) (t : Tree) (c : Name) (r : List Name) :
    modify f t (c :: r) = match t.child c with
      | some t' => t.put c (modify f t' r)
      | none => t := rfl

/-- A function on subtrees that keeps a directory a directory and does not touch a file reference. -/
def ShapeKeeping (f : Tree → Tree) : Prop := ∀ t, (f t).isDir = t.isDir ∧ (t.isDir = false → f t = t)

theorem isDir_modify (f : Tree → Tree) (hf : ShapeKeeping f) (t : Tree) (d : List Name) :
    (modify f t d).isDir = t.isDir := by
  cases d with
  | nil => exact (hf t).1
  | cons c r =>
    rw [modify_cons]
    cases t.child c <;> simp

theorem modify_file (f : Tree → Tree) (hf : ShapeKeeping f) (t : Tree) (h : t.isDir = false) (d : List Name) :
    modify f t d = t := by
  cases d with
  | nil => exact (hf t).2 h
  | cons c r => rw [modify_cons, child_none_of_file h]

theorem get_modify_ext (f : Tree → Tree) (t : Tree) (d r : List Name) :
    get (modify f t d) (d ++ r) = (get t d).bind (fun x => get (f x) r) := by
  induction d generalizing t with
  | nil => simp [modify]
  | cons c d ih =>
    rw [modify_cons, List.cons_append, get_cons, get_cons]
    cases hc : t.child c with
    | none => simp [hc]
    | some t' =>
      simp only [child_put, isDir_of_child hc, and_self, if_true, Option.bind_some]
      exact ih t'

theorem get_modify_same (f : Tree → Tree) (t : Tree) (d : List Name) :
    get (modify f t d) d = (get t d).map f := by
  have := get_modify_ext f t d []
  simp only [List.append_nil] at this
  rw [this]; cases get t d <;> rfl

/-- Replacing the whole subtree at `p` forgets any earlier change at or below `p`. -/
theorem modify_const_absorb (g : Tree → Tree) (hg : ∀ a b, g a = g b) (f : Tree → Tree) (t : Tree)
    (p r : List Name) : modify g (modify f t (p ++ r)) p = modify g t p := by
  induction p generalizing t with
  | nil => exact hg _ _
  | cons c p ih =>
    rw [List.cons_append, modify_cons (t := t) f, modify_cons g (t := t)]
    cases hc : t.child c with
    | none => simp only [modify_cons, hc]
    | some t' =>
      simp only
      rw [modify_cons, child_put]
      simp only [isDir_of_child hc, and_self, if_true]
      rw [put_put, ih]

end LA.FS
