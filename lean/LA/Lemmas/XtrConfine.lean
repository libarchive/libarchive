/-
Helper lemmas for C04: the assertion that is kept from the call that
starts an entry to the call that finishes it, and through the fix-ups at close.
-/
import LA.Lemmas.XtrCalls
namespace LA.Xtr
open LA.FS LA.PathClean

theorem fam_weaken {q q2 p : List Nat} (h : Fam q p) (hp : initOf q <+: initOf q2) : Fam q2 p := by
  rcases h with h | ⟨hr, hi⟩
  · exact Or.inl h
  · exact Or.inr ⟨hr, List.IsPrefix.trans hi hp⟩

theorem initOf_prefix_qx {q : List Nat} (h : Good q) : initOf q <+: initOf (qx q) := by
  rw [initOf_qx h]; exact List.dropLast_prefix _

theorem famCtx_weaken {q q2 name : List Nat} (h : FamCtx q name) (hp : initOf q <+: initOf q2) : FamCtx q2 name :=
  ⟨fun p hp' => fam_weaken (h.anc p hp') hp, fam_weaken h.tmp hp⟩

theorem famCtx_self {q : List Nat} (h : Good q) : FamCtx q q := by
  refine ⟨fun p hp => ?_, fam_tmp h⟩
  rcases hp with rfl | ⟨rest, hr⟩
  · exact fam_self h
  · exact fam_prefix h hr

theorem famCtx_dot : FamCtx [DOT] [DOT] := by
  refine ⟨fun p hp => ?_, Or.inr ⟨⟨?_, ?_, ?_, ?_⟩, ?_⟩⟩
  · rcases hp with rfl | ⟨rest, hr⟩
    · exact Or.inl rfl
    · have : SLASH ∈ ([DOT] : List Nat) := by rw [hr]; simp
      simp at this
  · decide
  · decide
  · decide
  · unfold NoDots; decide
  · unfold initOf; decide

def NameOK (name : List Nat) : Prop := name = [DOT] ∨ Good name

/-- No component of `name`, the last one included, is a symlink (trivially so for "."). -/
def Full (c : Ctx) (name : List Nat) (pr : Proc) : Prop := name = [DOT] ∨ (Good name ∧ Sem c (qx name) pr)

/-- `finish_entry` will call `chmod(name)`, which follows a final symlink. -/
def CN (e : Entry) (es : ES) : Prop :=
  es.todoMode = true ∧ es.hasFd = false ∧ e.kind ≠ .symlink ∧ e.isDir = false

/-- The strongest family a plain entry keeps: `qx name`, or "." itself. -/
def famOf (name : List Nat) : List Nat := if name = [DOT] then [DOT] else qx name

theorem not_good_dot : ¬ Good [DOT] := by
  intro h
  exact (h [DOT] (by decide)).2.1 rfl

theorem famOf_good {name : List Nat} (hg : Good name) : famOf name = qx name := by
  unfold famOf
  have : name ≠ [DOT] := fun h => not_good_dot (h ▸ hg)
  simp [this]

theorem famCtx_famOf {name : List Nat} (h : NameOK name) : FamCtx (famOf name) name := by
  unfold famOf
  by_cases hd : name = [DOT]
  · subst hd; simp only [if_true]; exact famCtx_dot
  · have hg : Good name := h.resolve_left hd
    simp only [hd, if_false]; exact famCtx_weaken (famCtx_self hg) (initOf_prefix_qx hg)

theorem famCtx_name {name : List Nat} (h : NameOK name) : FamCtx name name := by
  rcases h with rfl | h
  · exact famCtx_dot
  · exact famCtx_self h

/-- `Sem` for the family of a plain entry is what `Full` says (plus `Sem c name`). -/
theorem sem_famOf_iff {c : Ctx} {name : List Nat} {pr : Proc} (h : NameOK name) :
    Sem c (famOf name) pr ↔ (Sem c name pr ∧ Full c name pr) := by
  unfold famOf Full
  by_cases hd : name = [DOT]
  · subst hd; simp
  · have hg : Good name := h.resolve_left hd
    simp only [hd, if_false, false_or]
    constructor
    · intro hs; exact ⟨sem_of_full hg hs, hg, hs⟩
    · intro hs; exact hs.2.2

/-- Assertion carried through the restore of an entry: `chmod(name)` is
only due while no component of `name` is a symlink. -/
def HL (c : Ctx) (name : List Nat) (e : Entry) (es : ES) (pr : Proc) : Prop :=
  Sem c name pr ∧ (CN e es → Sem c (famOf name) pr)

/-- Calls that keep `HL`: family calls of `name`, and of `famOf name` unless the entry is a symlink
(the one object that may be put at the end of the checked path, and whose mode is never set by `chmod`). -/
def HLCall (name : List Nat) (e : Entry) (s : Sys) : Prop :=
  QCall name s ∧ (e.kind ≠ .symlink → QCall (famOf name) s)

theorem hl_exec {c : Ctx} {name : List Nat} {e : Entry} {es : ES} (s : Sys) (pr : Proc)
    (hs : HLCall name e s) (h : HL c name e es pr) : HL c name e es (exec s pr).2 :=
  ⟨sem_exec h.1 s hs.1, fun hcn => sem_exec (h.2 hcn) s (hs.2 hcn.2.2.1)⟩

theorem hl_sys {c : Ctx} {name : List Nat} {e : Entry} {es : ES} {s : Sys} (hs : HLCall name e s) :
    Triple (HL c name e es) (sys s) (fun _ => HL c name e es) :=
  triple_sys_keep (fun pr => hl_exec s pr hs)

theorem ownCall_hlCall {name : List Nat} (hn : NameOK name) (e : Entry) {s : Sys} (hs : OwnCall name s) :
    HLCall name e s :=
  ⟨ownCall_qcall (famCtx_name hn) hs, fun _ => ownCall_qcall (famCtx_famOf hn) hs⟩

theorem hl_mono {c : Ctx} {name : List Nat} {e : Entry} {es es' : ES} {pr : Proc} (h : HL c name e es pr)
    (hm : es.Later es') : HL c name e es' pr :=
  ⟨h.1, fun hcn => h.2 ⟨hm.2.1 hcn.1, hm.2.2 hcn.2.1, hcn.2.2⟩⟩

/-- `unlink(p)` on a family path removes an entry inside the target: every `Sem` fact survives. -/
theorem doUnlink_keeps_any {c : Ctx} {q p : List Nat} {pr : Proc} (hS : Sem c q pr) (hF : Fam q p) :
    ∀ q2, Sem c q2 pr → Sem c q2 (doUnlink pr pr.cwd p).2 := by
  intro q2 hS2
  unfold doUnlink
  split
  · exact hS2
  · exact hS2
  · rename_i d n hl
    obtain ⟨r, rfl, _, _⟩ := locate_fam_entry hS hF hl
    split
    · exact hS2
    · exact hS2
    · exact sem_delAt hS2 r n

/-- The flags of the property: SECURE_SYMLINKS | SECURE_NODOTDOT | SECURE_NOABSOLUTEPATHS. -/
def SecureFlags (fl : XFlags) : Prop := fl.secureSymlinks = true ∧ fl.nodotdot = true ∧ fl.noabs = true

theorem clean_secure {fl : XFlags} (h : SecureFlags fl) : fl.clean = { nodotdot := true, noabs := true } := by
  unfold XFlags.clean; rw [h.2.1, h.2.2]

theorem nameOK_of_cleanup {p q : List Nat} (hn : ∀ x ∈ p, x ≠ 0)
    (h : cleanup { nodotdot := true, noabs := true } p = .ok q) : NameOK q := by
  obtain ⟨_, _, _, hr⟩ := cleanup_rel hn h
  rcases hr with ⟨h1, _⟩ | ⟨h1, _⟩
  · exact Or.inl h1
  · exact Or.inr h1

/-- `lstat(name)` right after `name` was made a link to inode `i`. -/
theorem lstat_after_put {c : Ctx} {name : List Nat} {pr : Proc} (hS : Sem c name pr) (hg : Good name)
    {r : List Name} {n : Name} (i : Nat)
    (hl : locate pr.fs pr.cwd name = .ok (.entry (c.T ++ r) n)) :
    lookupNoFollow (putAt pr.fs (c.T ++ r) n (.file i)) pr.cwd name = .ok (c.T ++ r ++ [n], .file i) := by
  have hr := rel_good hg
  obtain ⟨_, _, hloc, hsplit, hw, ⟨tD, hD, hDd⟩, hlen⟩ := locate_rel_ok hr hl
  cases hloc
  obtain ⟨tT, hT, hTd⟩ := hS.inv.tdir
  rw [hS.inv.cwd] at hw ⊢
  have hndi : NoDots (initOf name) := fun x hx => hr.noDots x (by rw [hsplit]; simp [hx])
  obtain ⟨hreq, hlenok⟩ := walk_noLink pr.fs maxLinks (initOf name) c.T tT hndi hT (hS.nl tT hT) _ hw
  cases List.append_cancel_left hreq
  -- the directory that holds `n` in the new tree, and the walk to it
  have hD' : get (putAt pr.fs (c.T ++ initOf name) n (.file i)).root (c.T ++ initOf name)
      = some ((tD.put n (.file i)).touch) := by
    simp only [putAt]; rw [get_modify_same, hD]; rfl
  have hw' : walk (putAt pr.fs (c.T ++ initOf name) n (.file i)) maxLinks c.T (initOf name)
      = .ok (c.T ++ initOf name) :=
    walk_chain _ maxLinks (initOf name) c.T hndi hlenok ⟨_, hD', by simpa using hDd⟩
  unfold lookupNoFollow
  rw [locate_of_lt (locate_ok hl).2, locate0_rel _ _ hr hsplit, hw']
  simp only [hD']
  cases tD with
  | file j => simp [Tree.isDir] at hDd
  | dir m mt es =>
    simp only [Tree.put, Tree.touch, hlen, if_false]
    rw [hD']
    simp only [Tree.put, Tree.touch, Option.bind_some, Tree.child, alGet_alSet, if_true]

/-- Outcome of `linkat(e.link, name)` for the program that follows it. -/
def LinkPost (c : Ctx) (name : List Nat) (e : Entry) (es : ES) (r : R) (pr1 : Proc) : Prop :=
  (errOf r ≠ none → HL c name e es pr1) ∧
  (errOf r = none → Sem c name pr1 ∧ ∃ i p, lookupNoFollow pr1.fs pr1.cwd name = .ok (p, .file i) ∧
    (isLnk pr1.fs (.file i) = false → CN e es → Sem c (famOf name) pr1))

theorem link_post (c : Ctx) (e : Entry) (name lc : List Nat) (hn : NameOK name) (es : ES)
    (hnf : ∀ x ∈ e.link, x ≠ 0) (hcl : cleanup { nodotdot := true, noabs := true } e.link = .ok lc) :
    Triple (fun pr => HL c name e es pr ∧ (Good lc → NoLinkAt pr.fs c.T (initOf lc)))
      (sys (Sys.link e.link name)) (LinkPost c name e es) := by
  refine triple_sys ?_
  intro pr hp
  have hS := hp.1.1
  have hF := (famCtx_name hn).self
  have hfail : ∀ en, LinkPost c name e es (.err en) pr :=
    fun en => ⟨fun _ => hp.1, fun h => by simp [errOf] at h⟩
  simp only [exec]
  split
  · exact hfail _
  · rename_i pos src hlk
    split
    · exact hfail _
    · exact hfail _
    · rename_i d n hl
      obtain ⟨r, rfl, _, hcomps⟩ := locate_fam_entry hS hF hl
      split
      · exact hfail _
      · split
        · exact hfail _
        · rename_i i
          have hg : Good name := by
            refine hn.resolve_left fun hdot => ?_
            -- "." is located as an object, not as an entry
            have h0 := (locate_ok hl).1
            rw [hdot, locate0_dot] at h0
            split at h0 <;> cases h0
          obtain ⟨hin, hlt⟩ := lookup_raw_inside hS hnf hcl hp.2 hlk
          refine ⟨fun h => absurd rfl h, fun _ => ⟨?_, i, c.T ++ r ++ [n], ?_, ?_⟩⟩
          · exact sem_putAt hS r n (.file i) (refsIn_file hin) (refsIn_file hlt) (Or.inr hcomps)
          · exact lstat_after_put hS hg i hl
          · intro hnl hcn
            exact sem_putAt (hp.1.2 hcn) r n (.file i) (refsIn_file hin) (refsIn_file hlt)
              (Or.inl ⟨fun hd => by simp [Tree.isDir] at hd, fun _ => by
                rw [isLnk_setRoot] at hnl; exact hnl⟩)

/-- The link part of the hard-link branch: `link(e.link, name)` after the link name was checked. -/
theorem link_step (c : Ctx) (e : Entry) (name lc : List Nat) (hn : NameOK name) (es : ES)
    (hnf : ∀ x ∈ e.link, x ≠ 0) (hcl : cleanup { nodotdot := true, noabs := true } e.link = .ok lc) :
    Triple (fun pr => HL c name e es pr ∧ (Good lc → NoLinkAt pr.fs c.T (initOf lc)))
      (do
        let r ← sys (Sys.link e.link name)
        match errOf r with
          | some en => pure (some en, es)
          | none => pure (none, { es with todoMode := false, todoTimes := false, defMode := false, defTimes := false }))
      (fun r pr' => HL c name e r.2 pr') := by
  refine triple_bind (link_post c e name lc hn es hnf hcl) (fun r => ?_)
  cases hr : errOf r with
  | some en => exact triple_pure (fun pr hp => hp.1 (by rw [hr]; simp))
  | none => exact triple_pure (fun pr hp => ⟨(hp.2 hr).1, fun hcn => by simp [CN] at hcn⟩)

/-- What follows `linkat` in the hard-link branch of `create_filesystem_object`. -/
theorem link_tail (c : Ctx) (e : Entry) (name : List Nat) (hn : NameOK name) (es : ES) (r : R) :
    Triple (LinkPost c name e es r)
      (match errOf r with
        | some en => pure (some en, es)
        | none =>
          if e.filesize = 0 then
            pure (none, { es with todoMode := false, todoTimes := false, defMode := false, defTimes := false })
          else do
            let r2 ← sys (.lstat name)
            match r2 with
            | .st ⟨.reg, _⟩ => do
              let r3 ← sys (.openTrunc name)
              match errOf r3 with
              | some en => pure (some en, es)
              | none => pure (none, { es with hasFd := true })
            | .st _ => pure (none, { es with todoMode := false, todoTimes := false, defMode := false, defTimes := false })
            | .err en => pure (some en, es)
            | _ => pure (some .EIO, es) : Prog (Option Err × ES))
      (fun x pr' => HL c name e x.2 pr') := by
  cases hr : errOf r with
  | some en => exact triple_pure (fun pr hp => hp.1 (by rw [hr]; simp))
  | none =>
    refine triple_ite (fun _ => triple_pure (fun pr hp => ⟨(hp.2 hr).1, fun hcn => by simp [CN] at hcn⟩)) (fun _ => ?_)
    intro pr1 hp
    obtain ⟨hS, i, p, hlook, hfull⟩ := hp.2 hr
    rw [run_bind, run_sys]
    simp only [exec, hlook, statR, statOfTree]
    cases hf : pr1.fs.files i with
    | none =>
      simp only [run_pure]
      exact ⟨hS, fun hcn => hfull (by simp [isLnk, hf]) hcn⟩
    | some nd =>
      cases nd with
      | lnk tg => simp only [run_pure]; exact ⟨hS, fun hcn => by simp [CN] at hcn⟩
      | fifo m mt => simp only [run_pure]; exact ⟨hS, fun hcn => by simp [CN] at hcn⟩
      | reg d m mt =>
        have hHL : HL c name e es pr1 := ⟨hS, fun hcn => hfull (by simp [isLnk, hf]) hcn⟩
        have := triple_bind (hl_sys (c := c) (es := es) (ownCall_hlCall hn e (s := .openTrunc name) rfl))
          (f := fun r3 => (match errOf r3 with
              | some en => pure (some en, es)
              | none => pure (none, { es with hasFd := true }) : Prog (Option Err × ES)))
          (R := fun x pr' => HL c name e x.2 pr')
          (fun r3 => by
            cases errOf r3 with
            | some en => exact triple_skip
            | none => exact triple_pure (fun _ h => hl_mono h ⟨rfl, id, nofun⟩))
        exact this pr1 hHL

/-- `create_filesystem_object` keeps `HL`.  Only a hard-link entry needs more than the classes of its
calls: the link name is checked, and what `linkat` made is looked at. -/
theorem createObject_hl (c : Ctx) (fl : XFlags) (hfl : SecureFlags fl) (um : Nat) (e : Entry) (name : List Nat)
    (hn : NameOK name) (hnf : ∀ x ∈ e.link, x ≠ 0) (es : ES) :
    Triple (HL c name e es) (createObject fl um e name es) (fun r pr' => HL c name e r.2 pr') := by
  by_cases hk : e.kind = .hardlink
  rotate_left
  · exact triple_conseq (fun _ h => h)
      (triple_of_spec hl_exec (spec_createObject fl um e name es (fun s => ownCall_hlCall hn e)
        (fun hs => ⟨⟨rfl, (famCtx_name hn).self, (famCtx_name hn).tmp⟩, fun h => absurd hs h⟩) (fun h => absurd h hk)))
      (fun r pr h => hl_mono h.1 h.2)
  unfold createObject
  simp only [hk]
  rw [clean_secure hfl]
  cases hcl : cleanup { nodotdot := true, noabs := true } e.link with
  | failed w => exact triple_skip
  | oob => exact triple_skip
  | ok lc =>
    have hlc : NameOK lc := nameOK_of_cleanup hnf hcl
    refine triple_bind
      (Q := fun r pr' => HL c name e es pr' ∧ (r = .ok → Good lc → NoLinkAt pr'.fs c.T (initOf lc))) ?_ ?_
    · intro pr hp
      rcases hlc with rfl | hg
      · have hk := checkSymlinks_dot c fl true pr
        exact ⟨⟨hk _ hp.1, fun hcn => hk _ (hp.2 hcn)⟩, fun _ hg => absurd hg not_good_dot⟩
      · obtain ⟨hkeep, hsound⟩ := checkSymlinks_spec c fl hfl.1 true lc hg pr
        refine ⟨⟨hkeep _ hp.1, fun hcn => hkeep _ (hp.2 hcn)⟩, fun hr _ => ?_⟩
        have := hsound hr
        rw [hp.1.inv.cwd] at this
        simpa [loopTarget, initOf] using this
    · intro r
      refine triple_ite (fun _ => triple_pure (fun pr hp => hp.1)) (fun hr => ?_)
      have hrok : r = .ok := by simpa using hr
      subst hrok
      have hstep := triple_bind (link_post c e name lc hn es hnf hcl) (fun r => link_tail c e name hn es r)
      refine triple_ite (fun _ => ?_) (fun _ => ?_)
      · refine triple_bind (Q := fun _ pr' => HL c name e es pr' ∧ (Good lc → NoLinkAt pr'.fs c.T (initOf lc))) ?_
          (fun _ => hstep)
        refine triple_sys ?_
        intro pr hp
        refine ⟨hl_exec _ pr (ownCall_hlCall hn e (s := .unlink name) rfl) hp.1, fun hg => ?_⟩
        have hSlc : Sem c lc pr := ⟨hp.1.1.inv, hp.1.1.wf, hp.2 rfl hg⟩
        exact (doUnlink_keeps_any hp.1.1 (famCtx_name hn).self lc hSlc).nl
      · exact triple_conseq (fun pr hp => ⟨hp.1, hp.2 rfl⟩) hstep (fun _ _ h => h)

theorem restore_spec (c : Ctx) (fl : XFlags) (hfl : SecureFlags fl) (um : Nat) (e : Entry)
    (name : List Nat) (hn : NameOK name) (hnf : ∀ x ∈ e.link, x ≠ 0) (es : ES) :
    Triple (fun pr => Sem c name pr ∧ Full c name pr) (restoreEntry fl um e name es)
      (fun r pr' => Sem c name pr' ∧ (CN e r.2 → Full c name pr')) := by
  have hdir : ∀ p, Anc name p → HLCall name e (.stat p) ∧ HLCall name e (.unlink p) ∧ ∀ m, HLCall name e (.mkdir p m) :=
    fun p hp =>
      have h1 := (famCtx_name hn).dirCalls p hp
      have h2 := (famCtx_famOf hn).dirCalls p hp
      ⟨⟨h1.1, fun _ => h2.1⟩, ⟨h1.2.1, fun _ => h2.2.1⟩, fun m => ⟨h1.2.2 m, fun _ => h2.2.2 m⟩⟩
  have := restoreEntry_inv (I := HL c name e) fl um e name (fun s hs es => hl_sys (ownCall_hlCall hn e hs))
    (createObject_hl c fl hfl um e name hn hnf)
    (fun es => triple_of_allCalls hl_exec (spec_createParentDir name hdir fl um).calls)
    (fun es es' pr hm h => hl_mono h hm) es
  exact triple_conseq (fun pr hp => ⟨hp.1, fun _ => (sem_famOf_iff hn).mpr hp⟩) this
    (fun r pr hq => ⟨hq.1, fun hcn => ((sem_famOf_iff hn).mp (hq.2 hcn)).2⟩)

theorem sem_exec_chmod_full {c : Ctx} {name : List Nat} {pr : Proc} (hS : Sem c name pr) (hF : Full c name pr)
    (m : Nat) : Sem c name (exec (.chmod name m) pr).2 := by
  rcases hF with rfl | ⟨hg, hfull⟩
  · exact sem_exec_chmod_dot hS m
  · have := hfull.nl
    rw [initOf_qx hg] at this
    exact sem_exec_chmod hS hg this m

def NulFreeL (p : List Nat) : Prop := ∀ x ∈ p, x ≠ 0
def PF (l : List Fixup) : Prop := ∀ f ∈ l, NulFreeL f.name

theorem pf_nil : PF [] := fun _ h => by simp at h
theorem pf_append {a b : List Fixup} (ha : PF a) (hb : PF b) : PF (a ++ b) :=
  List.forall_mem_append.mpr ⟨ha, hb⟩
theorem pf_cons {f : Fixup} {l : List Fixup} (hf : NulFreeL f.name) (hl : PF l) : PF (f :: l) :=
  List.forall_mem_cons.mpr ⟨hf, hl⟩

/-- What is known about the entry being written between `header` and `finish_entry`. -/
def CurOK (c : Ctx) (w : Writer) (pr : Proc) : Prop :=
  match w.cur with
  | none => True
  | some (e, name, es) => NameOK name ∧ Sem c name pr ∧ (CN e es → Full c name pr)

/-- Invariant of the writer between API calls. -/
def G (c : Ctx) (w : Writer) (pr : Proc) : Prop := Sem c [] pr ∧ CurOK c w pr

/-- The writer was made with flags `fl` and every queued fix-up name is a C string. -/
structure WOK (fl : XFlags) (w : Writer) : Prop where
  flags : w.flags = fl
  pf : PF w.fixups

/-- `_archive_write_disk_finish_entry`. -/
theorem finishEntry_spec (c : Ctx) (w : Writer) :
    Triple (G c w) (finishEntry w)
      (fun r pr' => Sem c [] pr' ∧ r.2.cur = none ∧ r.2.flags = w.flags ∧ r.2.fixups = w.fixups) := by
  unfold finishEntry G CurOK
  cases hcur : w.cur with
  | none => exact triple_pure (fun pr hp => ⟨hp.1, hcur, rfl, rfl⟩)
  | some x =>
    obtain ⟨e, name, es⟩ := x
    by_cases hn : NameOK name
    rotate_left
    · intro pr hp; exact absurd hp.2.1 hn
    have hF := famCtx_name hn
    have hq : ∀ s, QCall name s → Triple (fun pr => Sem c name pr) (sys s) (fun _ pr => Sem c name pr) :=
      fun s h => triple_sys_keep (fun pr hp => sem_exec hp s h)
    refine triple_conseq (P := fun pr => Sem c name pr ∧ (CN e es → Full c name pr))
      (Q := fun r pr' => Sem c name pr' ∧ r.2.cur = none ∧ r.2.flags = w.flags ∧ r.2.fixups = w.fixups)
      (fun pr hp => ⟨hp.2.2.1, hp.2.2.2⟩) ?_ (fun r pr hq => ⟨sem_base hq.1, hq.2⟩)
    refine triple_bind (Q := fun _ pr' => Sem c name pr') ?_ (fun r1 => ?_)
    · -- set_mode
      refine triple_ite (fun htm => ?_) (fun _ => triple_pure (fun _ hp => hp.1))
      refine triple_ite (fun _ => ?_) (fun hks => ?_)
      · refine triple_bind (triple_conseq (fun pr hp => hp.1) (hq _ hF.self) (fun _ _ h => h)) (fun r => ?_)
        split <;> exact triple_skip
      · refine triple_ite (fun hnd => ?_) (fun _ => triple_pure (fun _ hp => hp.1))
        refine triple_bind (Q := fun _ pr' => Sem c name pr') ?_ (fun r => ?_)
        · refine triple_ite (fun _ => triple_conseq (fun pr hp => hp.1) (hq _ trivial) (fun _ _ h => h)) (fun hfd => ?_)
          refine triple_sys ?_
          intro pr hp
          have hcn : CN e es := ⟨htm, by simpa using hfd, hks, by simpa using hnd⟩
          exact sem_exec_chmod_full hp.1 (hp.2 hcn) _
        · split <;> exact triple_skip
    · refine triple_bind (Q := fun _ pr' => Sem c name pr') ?_ (fun r2 => ?_)
      · -- set_times
        refine triple_ite (fun _ => ?_) (fun _ => triple_skip)
        refine triple_bind (Q := fun _ pr' => Sem c name pr') ?_ (fun r => ?_)
        · exact triple_ite (fun _ => hq _ trivial) (fun _ => hq _ hF.self)
        · split <;> exact triple_skip
      · refine triple_bind (Q := fun _ pr' => Sem c name pr') ?_
          (fun ret => triple_pure (fun _ hp => ⟨hp, rfl, rfl, rfl⟩))
        refine triple_ite (fun _ => ?_) (fun _ => triple_skip)
        refine triple_bind (hq _ trivial) (fun _ => ?_)
        refine triple_ite (fun _ => ?_) (fun _ => triple_skip)
        refine triple_bind (hq _ ⟨rfl, hF.self, hF.tmp⟩) (fun r => ?_)
        split
        · exact triple_bind (hq _ hF.tmp) (fun _ => triple_skip)
        · exact triple_skip

theorem anc_nulFree {name p : List Nat} (hn : NulFreeL name) (h : Anc name p) : NulFreeL p := by
  rcases h with rfl | ⟨rest, rfl⟩
  · exact hn
  · exact fun x hx => hn x (List.mem_append_left _ hx)

theorem restoreEntry_pf (fl : XFlags) (um : Nat) (e : Entry) (name : List Nat) (hn : NulFreeL name) (es : ES) :
    Triple (fun _ => PF es.fix) (restoreEntry fl um e name es) (fun r _ => PF r.2.fix) :=
  restoreEntry_inv (I := fun es _ => PF es.fix) fl um e name (fun _ _ _ => triple_sys_keep (fun _ h => h))
    (fun es pr h => by
      have := run_allRets (spec_createObject (P := fun _ => True) fl um e name es (fun _ _ => trivial)
        (fun _ => trivial) (fun _ => ⟨trivial, fun _ => allCalls_true _⟩)).rets pr
      show PF _
      rw [this.1]; exact h)
    (fun es pr h => pf_append
      (fun f hf => anc_nulFree hn (run_allRets (spec_createParentDir (P := fun _ => True) name
        (fun _ _ => ⟨trivial, trivial, fun _ => trivial⟩) fl um).rets pr f hf)) h)
    (fun _ _ _ hm h => hm.1 ▸ h) es

/-- An entry the confinement proof covers: C strings, pathname shorter than PATH_MAX
(`edit_deep_directories` does not come into play). -/
def EntryOK (e : Entry) : Prop := (∀ x ∈ e.path, x ≠ 0) ∧ (∀ x ∈ e.link, x ≠ 0) ∧ e.path.length < pathMax

theorem prog_pure_bind {α β} (a : α) (f : α → Prog β) : (pure a : Prog α) >>= f = f a := rfl

theorem sem_dot_of_base {c : Ctx} {pr : Proc} (h : Sem c [] pr) : Sem c [DOT] pr :=
  sem_weaken h (by decide)

theorem joinSlash_nulfree : ∀ (K : List (List Nat)), (∀ c ∈ K, ∀ x ∈ c, x ≠ 0) → NulFreeL (joinSlash K) := by
  intro K
  induction K with
  | nil => intro _ x hx; simp [joinSlash] at hx
  | cons c K ih =>
    intro h
    cases K with
    | nil => intro x hx; simp [joinSlash] at hx; exact h c (by simp) x hx
    | cons d K' =>
      intro x hx
      simp only [joinSlash, List.mem_append, List.mem_cons] at hx
      rcases hx with hx | rfl | hx
      · exact h c (by simp) x hx
      · decide
      · exact ih (fun c' hc' => h c' (by simp [hc'])) x (by simpa [joinSlash] using hx)

theorem nulFree_of_cleanup {p q : List Nat} (hn : ∀ x ∈ p, x ≠ 0)
    (h : cleanup { nodotdot := true, noabs := true } p = .ok q) : NulFreeL q := by
  obtain ⟨_, _, _, hr⟩ := cleanup_rel hn h
  rcases hr with ⟨rfl, _⟩ | ⟨hg, hc⟩
  · intro x hx; simp at hx; subst hx; decide
  · have : q = joinSlash (splitSlash q) := (join_split q).symm
    rw [this]
    apply joinSlash_nulfree
    intro c hc' x hx
    rw [← compsOf_good hg, hc] at hc'
    have hmem : c ∈ splitSlash p := by
      have := (List.mem_filter.mp hc').1
      unfold compsOf at this
      exact (List.mem_filter.mp this).1
    exact (split_clean p hn c hmem x hx).1

/-- The writer `header` hands back: the entry is current exactly when it was restored. -/
theorem header_done {c : Ctx} {fl : XFlags} {b : Prop} [Decidable b] {w : Writer} {x : Entry × List Nat × ES}
    {pr : Proc} (hs : Sem c [] pr) (hcur : b → CurOK c { w with cur := some x } pr) (hnone : w.cur = none)
    (hw : WOK fl w) :
    G c (if b then { w with cur := some x } else w) pr ∧ WOK fl (if b then { w with cur := some x } else w) := by
  split
  · exact ⟨⟨hs, hcur ‹_›⟩, hw.flags, hw.pf⟩
  · exact ⟨⟨hs, by rw [CurOK, hnone]; trivial⟩, hw⟩

theorem header_spec (c : Ctx) (fl : XFlags) (hfl : SecureFlags fl) (w : Writer) (hw : WOK fl w) (e : Entry)
    (he : EntryOK e) :
    Triple (fun pr => Sem c [] pr) (header w e) (fun r pr' => G c r.2 pr' ∧ WOK fl r.2) := by
  have hpf := hw.pf
  unfold header
  simp only [hw.flags]
  rw [clean_secure hfl]
  cases hcl : cleanup { nodotdot := true, noabs := true } e.path with
  | failed x => exact triple_pure (fun pr hp => ⟨⟨hp, trivial⟩, rfl, hpf⟩)
  | oob => exact triple_pure (fun pr hp => ⟨⟨hp, trivial⟩, rfl, hpf⟩)
  | ok name =>
    have hn : NameOK name := nameOK_of_cleanup he.1 hcl
    refine triple_ite (fun _ => triple_pure (fun pr hp => ⟨⟨hp, trivial⟩, rfl, hpf⟩)) (fun _ => ?_)
    refine triple_bind (Q := fun _ pr' => Sem c [] pr') (triple_sys_keep (fun pr hp => sem_exec hp _ trivial))
      (fun u => ?_)
    refine triple_bind (Q := fun r pr' => Sem c [] pr' ∧ (r = .ok → Sem c name pr' ∧ Full c name pr')) ?_
      (fun chk => ?_)
    · simp only [hfl.1, if_true]
      intro pr hp
      rcases hn with rfl | hg
      · have hk := checkSymlinks_dot c fl false pr
        exact ⟨hk _ hp, fun _ => ⟨hk _ (sem_dot_of_base hp), Or.inl rfl⟩⟩
      · obtain ⟨hkeep, hsound⟩ := checkSymlinks_spec c fl hfl.1 false name hg pr
        refine ⟨hkeep _ hp, fun hr => ?_⟩
        have hnl := hsound hr
        rw [hp.inv.cwd] at hnl
        have hfull : Sem c (qx name) ((checkSymlinks fl false name).run pr).2 :=
          ⟨(hkeep _ hp).inv, (hkeep _ hp).wf, by rw [initOf_qx hg]; simpa [loopTarget] using hnl⟩
        exact ⟨sem_of_full hg hfull, Or.inr ⟨hg, hfull⟩⟩
    · refine triple_ite (fun _ => triple_pure (fun pr hp => ⟨⟨hp.1, trivial⟩, rfl, hpf⟩)) (fun hchk => ?_)
      have hok : chk = .ok := by simpa using hchk
      have hshort : decide (name.length ≥ pathMax) = false := by
        have := cleanup_len_le _ _ _ he.1 hcl
        have h2 := he.2.2
        simp; omega
      simp only [hshort, Bool.false_eq_true, if_false, prog_pure_bind, List.append_nil]
      refine triple_bind (Q := fun r pr' => (Sem c name pr' ∧ (CN e r.2 → Full c name pr')) ∧ PF r.2.fix)
        (triple_conseq (fun pr hp => ⟨hp.2 hok, pf_nil⟩)
          (triple_and (restore_spec c fl hfl _ e name hn he.2.1 _)
            (restoreEntry_pf _ _ e name (nulFree_of_cleanup he.1 hcl) _))
          (fun _ _ h => h))
        (fun r => ?_)
      refine triple_pure (fun pr hp' => ?_)
      obtain ⟨hp, hfix⟩ := hp'
      refine header_done (sem_base hp.1) (fun _ => ⟨hn, hp⟩) rfl ⟨rfl, pf_append (pf_append ?_ hfix) hpf⟩
      split
      · next f hf =>
        split at hf <;> cases hf
        exact pf_cons he.1 pf_nil
      · exact pf_nil

theorem writeData_spec (c : Ctx) (w : Writer) (d : List Nat) :
    Triple (G c w) (writeData w d) (fun _ pr' => G c w pr') := by
  unfold writeData
  cases hcur : w.cur with
  | none => exact triple_skip
  | some x =>
    obtain ⟨e, name, es⟩ := x
    refine triple_ite (fun _ => ?_) (fun _ => triple_skip)
    refine triple_bind (Q := fun _ pr' => G c w pr') ?_ (fun r => ?_)
    · refine triple_sys ?_
      intro pr hp
      unfold G CurOK at hp ⊢
      rw [hcur] at hp ⊢
      simp only at hp ⊢
      obtain ⟨h0, hn, h1, h2⟩ := hp
      refine ⟨sem_exec h0 _ trivial, hn, sem_exec h1 _ trivial, fun hcn => ?_⟩
      rcases h2 hcn with hd | ⟨hg, hf⟩
      · exact Or.inl hd
      · exact Or.inr ⟨hg, sem_exec hf _ trivial⟩
    · split <;> exact triple_skip

theorem mem_mergeFix (a b : List Fixup) (f : Fixup) (hf : f ∈ mergeFix a b) : f ∈ a ∨ f ∈ b := by
  fun_induction mergeFix a b with
  | case1 b => exact Or.inr hf
  | case2 a _ => exact Or.inl hf
  | case3 x a y b h ih =>
    rcases List.mem_cons.mp hf with rfl | hf
    · exact Or.inl List.mem_cons_self
    · exact (ih hf).imp (List.mem_cons_of_mem _) id
  | case4 x a y b h ih =>
    rcases List.mem_cons.mp hf with rfl | hf
    · exact Or.inr List.mem_cons_self
    · exact (ih hf).imp id (List.mem_cons_of_mem _)

theorem mem_sortFix (l : List Fixup) (f : Fixup) (hf : f ∈ sortFix l) : f ∈ l := by
  fun_induction sortFix l with
  | case1 l h => exact hf
  | case2 l h k ih1 ih2 =>
    rcases mem_mergeFix _ _ f hf with h | h
    · exact List.mem_of_mem_take (ih1 h)
    · exact List.mem_of_mem_drop (ih2 h)

theorem nulFree_strip {p : List Nat} (h : NulFreeL p) : NulFreeL (stripTrailingSlashes p) := by
  intro x hx
  apply h x
  unfold stripTrailingSlashes at hx
  have h1 : x ∈ p.reverse.dropWhile (· == SLASH) := List.mem_reverse.mp hx
  exact List.mem_reverse.mp ((List.dropWhile_sublist _).subset h1)

/-- One fix-up at close: clean-up, symlink check, `open(O_NOFOLLOW)`, type check, then the
mode / time changes. -/
theorem applyFixup_spec (c : Ctx) (fl : XFlags) (hfl : SecureFlags fl) (p : Fixup) (hp : NulFreeL p.name) :
    Triple (fun pr => Sem c [] pr) (applyFixup fl p) (fun _ pr' => Sem c [] pr') := by
  refine applyFixup_inv (K := fun q pr => NameOK q ∧ Sem c q pr) fl p (fun q hq pr h => ?_)
    (fun h => absurd hfl.1 (by simp [h]))
    (fun name s hs pr h => ⟨h.1, sem_exec h.2 s (ownCall_qcall (famCtx_name h.1) hs)⟩)
    (fun name pr h => sem_base h.2)
  rw [clean_secure hfl] at hq
  have hn : NameOK q := nameOK_of_cleanup (nulFree_strip hp) hq
  rcases hn with rfl | hg
  · have hk := checkSymlinks_dot c { fl with unlink := false } true pr
    exact ⟨hk _ h, fun _ => ⟨Or.inl rfl, hk _ (sem_dot_of_base h)⟩⟩
  · obtain ⟨hkeep, hsound⟩ := checkSymlinks_spec c { fl with unlink := false } hfl.1 true q hg pr
    refine ⟨hkeep _ h, fun hr => ⟨Or.inr hg, (hkeep _ h).inv, (hkeep _ h).wf, ?_⟩⟩
    have := hsound hr
    rw [h.inv.cwd] at this
    simpa [loopTarget, initOf] using this

theorem applyFixups_spec (c : Ctx) (fl : XFlags) (hfl : SecureFlags fl) : ∀ (l : List Fixup), PF l →
    Triple (fun pr => Sem c [] pr) (applyFixups fl l) (fun _ pr' => Sem c [] pr') := by
  intro l
  induction l with
  | nil => intro _; exact triple_skip
  | cons p r ih =>
    intro hpf
    unfold applyFixups
    exact triple_bind (applyFixup_spec c fl hfl p (hpf p (by simp)))
      (fun _ => ih (fun f hf => hpf f (by simp [hf])))

theorem close_spec (c : Ctx) (fl : XFlags) (hfl : SecureFlags fl) (w : Writer) (hw : WOK fl w) :
    Triple (G c w) (close w) (fun _ pr' => Sem c [] pr') := by
  unfold close
  refine triple_bind (finishEntry_spec c w) (fun r => ?_)
  refine triple_bind (Q := fun _ pr' => Sem c [] pr') ?_ (fun _ => triple_skip)
  intro pr hp
  rw [hp.2.2.1, hw.flags, hp.2.2.2]
  exact applyFixups_spec c fl hfl _ (fun f hf => hw.pf f (mem_sortFix _ f hf)) pr hp.1

theorem extractEntry_spec (c : Ctx) (fl : XFlags) (hfl : SecureFlags fl) (w : Writer) (hw : WOK fl w)
    (e : Entry) (he : EntryOK e) :
    Triple (fun pr => Sem c [] pr) (extractEntry w e)
      (fun r pr' => Sem c [] pr' ∧ r.2.cur = none ∧ WOK fl r.2) := by
  unfold extractEntry
  refine triple_bind (header_spec c fl hfl w hw e he) (fun r1 => triple_assume fun hw1 => ?_)
  refine triple_bind (Q := fun _ => G c r1.2) ?_ (fun d => ?_)
  · exact triple_ite (fun _ => writeData_spec c r1.2 _) (fun _ => triple_skip)
  · refine triple_bind (finishEntry_spec c r1.2) (fun r2 => ?_)
    exact triple_pure fun pr hp => ⟨hp.1, hp.2.1, hp.2.2.1.trans hw1.flags, hp.2.2.2 ▸ hw1.pf⟩

theorem extractAll_spec (c : Ctx) (fl : XFlags) (hfl : SecureFlags fl) : ∀ (es : List Entry) (w : Writer),
    WOK fl w → w.cur = none → (∀ e ∈ es, EntryOK e) →
    Triple (fun pr => Sem c [] pr) (extractAll w es)
      (fun r pr' => Sem c [] pr' ∧ r.2.cur = none ∧ WOK fl r.2) := by
  intro es
  induction es with
  | nil => intro w hw hc _; exact triple_pure (fun pr hp => ⟨hp, hc, hw⟩)
  | cons e es ih =>
    intro w hw _ he
    unfold extractAll
    refine triple_bind (extractEntry_spec c fl hfl w hw e (he e (by simp))) (fun r1 => triple_assume fun h1 => ?_)
    exact triple_bind (ih r1.2 h1.2 h1.1 (fun e' he' => he e' (by simp [he']))) (fun r2 => triple_skip)

theorem extractArchive_spec (c : Ctx) (fl : XFlags) (hfl : SecureFlags fl) (es : List Entry)
    (he : ∀ e ∈ es, EntryOK e) :
    Triple (fun pr => Sem c [] pr) (extractArchive fl es) (fun _ pr' => Sem c [] pr') := by
  unfold extractArchive
  refine triple_bind (extractAll_spec c fl hfl es { flags := fl } ⟨rfl, pf_nil⟩ rfl he)
    (fun r => triple_assume fun h => ?_)
  refine triple_bind (Q := fun _ pr' => Sem c [] pr') ?_ (fun r2 => triple_skip)
  refine triple_conseq (fun pr hp => ⟨hp, ?_⟩) (close_spec c fl hfl r.2 h.2) (fun _ _ h => h)
  unfold CurOK; rw [h.1]; trivial

end LA.Xtr
