/-
Lemmas for C19: header, and the whole session.

The header either opens the entry on an empty temporary file or fails and leaves
nothing behind; the data calls keep the entry open; the first finish_entry (explicit,
or the one in close) settles it, and it stays settled through close and free.  Every
cleaning unlink on the way comes after a call that was made to fail, so a fault set
with a single element never hits it.
-/
import LA.Lemmas.SafeWriteFinish
namespace LA.SafeWrite

theorem pre_initFS (old : Bytes) : Pre old (initFS old) := ⟨rfl, rfl, by simp [initFS], by simp [initFS]⟩

theorem step_mkstemp_init (old : Bytes) : (initFS old).step .mkstemp = (shapeFS old [], some 0) := rfl

variable {F : Nat → Bool} {cfg : Cfg} {old new : Bytes} {s : S}

/-- The target exists: open(O_CREAT|O_EXCL) fails one way or the other. -/
theorem sys_openExcl_init {w : World} (h : w.fs = initFS old) :
    (sys F w (.openExcl .target)).1.fs = initFS old ∧
    ((sys F w (.openExcl .target)).2 = .inj ∨ (sys F w (.openExcl .target)).2 = .err) := by
  rcases sys_cases F w (.openExcl .target) with ⟨_, h1, h2⟩ | ⟨h1, h2⟩
  · exact ⟨by rw [h2, h]; rfl, Or.inl h1⟩
  · exact ⟨by rw [h2, h]; rfl, Or.inr (by rw [h1, h]; rfl)⟩

/-- `la_mktemp` next to the old file: the empty temporary file is open, or nothing is left. -/
theorem laMktemp_spec (hl : cfg.legacy.mktempLeak = false) (h : s.w.fs = initFS old) (hw : Safe F old new s.w) :
    ∀ m, m = laMktemp F cfg s → Safe F old new m.1.w ∧
      ((m.2 = true ∧ m.1.w.fs = shapeFS old [] ∧ m.1.wd = { s.wd with tmpname := true, fd := true }) ∨
       (m.2 = false ∧ m.1.wd = { s.wd with tmpname := false } ∧ (Leak m.1.w ∨ m.1.w.fs.tmp = none))) := by
  rintro _ rfl
  unfold laMktemp
  simp only [hl, Bool.false_eq_true, ↓reduceIte]
  have hw1 := hw.sys (F := F) (op := .mkstemp) rfl nofun
  rcases sys_of_step (F := F) h (step_mkstemp_init old) with ⟨h1, h2⟩ | ⟨h1, h2⟩
  · simp only [h1, Res.isOk_inj, Bool.not_false, ↓reduceIte]
    exact ⟨hw1, Or.inr ⟨trivial, trivial, Or.inr (by rw [h2]; rfl)⟩⟩
  · simp only [h1, Res.isOk_ok, Bool.not_true, Bool.false_eq_true, ↓reduceIte]
    have hw2 := hw1.sys (F := F) (op := .fchmod) rfl nofun
    rcases sys_of_step (F := F) h2 (step_fchmod_shape old []) with ⟨h3, _⟩ | ⟨h3, h4⟩
    · -- fchmod made to fail: close and unlink
      simp only [h3, Res.isOk_inj, Bool.not_false, ↓reduceIte]
      exact ⟨(hw2.sys (op := .close) rfl nofun).sys rfl fun _ => hasInj_mono (sys_inj_hasInj h3),
        Or.inr ⟨trivial, trivial, sys_unlink_tmp F _⟩⟩
    · simp only [h3, Res.isOk_ok, Bool.not_true, Bool.false_eq_true, ↓reduceIte]
      exact ⟨hw2, Or.inl ⟨trivial, h4, trivial⟩⟩

/-- `restore_entry` over an existing regular file with SAFE_WRITES. -/
theorem restoreEntry_spec (hsafe : cfg.safe = true)
    (hl : cfg.legacy.mktempLeak = false) (h : s.w.fs = initFS old) (ht : s.wd.tmpname = false)
    (hw : Safe F old new s.w) :
    ∀ r, r = restoreEntry F cfg s → Safe F old new r.1.w ∧
      ((r.2 = .ok ∧ r.1.w.fs = shapeFS old [] ∧ r.1.wd = { s.wd with tmpname := true, fd := true }) ∨
       (r.2 = .failed ∧ r.1.wd = s.wd ∧ (Leak r.1.w ∨ r.1.w.fs.tmp = none))) := by
  rintro _ rfl
  unfold restoreEntry
  simp only [hsafe, ↓reduceIte]
  obtain ⟨o1, o2⟩ := sys_openExcl_init (F := F) h
  have hw1 := hw.sys (F := F) (op := .openExcl .target) rfl nofun
  rcases o2 with o2 | o2
  · simp only [o2]
    exact ⟨hw1, Or.inr ⟨trivial, trivial, Or.inr (by rw [o1]; rfl)⟩⟩
  · simp only [o2]
    have o3 : (sys F (sys F s.w (.openExcl .target)).1 (.lstat .target)).1.fs = initFS old := by
      rw [sys_noFx rfl]; exact o1
    have hw2 := hw1.sys (F := F) (op := .lstat .target) rfl nofun
    split
    · exact ⟨hw2, Or.inr ⟨rfl, rfl, Or.inr (by rw [o3]; rfl)⟩⟩
    · obtain ⟨hw3, ⟨m1, m2, m3⟩ | ⟨m1, m2, m3⟩⟩ :=
        laMktemp_spec (cfg := cfg) (s := ⟨s.wd, _⟩) hl o3 hw2 _ rfl
      · simp only [m1, ↓reduceIte]
        exact ⟨hw3, Or.inl ⟨trivial, m2, m3⟩⟩
      · simp only [m1, Bool.false_eq_true, ↓reduceIte]
        refine ⟨hw3, Or.inr ⟨trivial, ?_, m3⟩⟩
        rw [m2, ← ht]

/-- How `_archive_write_disk_header` ends: the temporary file is open and empty, or the
call failed and nothing is left. -/
def Headed (F : Nat → Bool) (old new : Bytes) (h : S × Status) : Prop :=
  (h.2 = .ok ∧ Open F old new [] h.1 ∧ h.1.wd.incomplete = false ∧ h.1.wd.offset = 0 ∧ h.1.wd.fdOffset = 0) ∨
  (h.2 ≠ .ok ∧ Settled F old new h.1)

theorem header_spec (F : Nat → Bool) (cfg : Cfg) (old new : Bytes) (hsafe : cfg.safe = true)
    (hleg : cfg.legacy = {}) : Headed F old new (header F cfg { fs := initFS old }) := by
  have hw0 : Safe F old new { fs := initFS old } :=
    ⟨pre_initFS old, fun _ h => (nomatch h), fun l1 ev l2 hl => by simp at hl⟩
  obtain ⟨hw, ⟨r1, r2, r3⟩ | ⟨r1, r2, r3⟩⟩ :=
    restoreEntry_spec (cfg := cfg) (s := ⟨{ todoOwner := cfg.owner }, { fs := initFS old }⟩) hsafe
      (by rw [hleg]) rfl rfl hw0 _ rfl
  · left
    unfold header
    simp only [r1, ↓reduceIte]
    exact ⟨trivial, ⟨r2, by rw [r3], by rw [r3], rfl, hw, fun hi => by rw [r3] at hi; cases hi⟩,
      by rw [r3], by rw [r3], by rw [r3]⟩
  · right
    unfold header
    simp only [r1, reduceCtorEq, ↓reduceIte]
    exact ⟨nofun, .of_safe hw r3 (by rw [r2]) (by rw [r2])⟩

/-- The data calls (if the header succeeded) and the first finish_entry. -/
theorem finishEntry_headed {calls : List Call} {h : S × Status}
    (hleg : cfg.legacy = {}) (hwf : wellFormed cfg.size 0 calls) (hh : Headed F old (expected cfg.size calls) h) :
    Settled F old (expected cfg.size calls)
      (finishEntry F cfg (if h.2 = .ok then runCalls F cfg h.1 calls else (h.1, [])).1).1 := by
  rcases hh with ⟨h1, ho, hinc, hoff, hfd⟩ | ⟨h1, hset⟩
  · rw [if_pos h1]
    have hdi0 : DI F cfg old (expected cfg.size calls) ([], 0) h.1 :=
      ⟨[], ho, fun _ => ⟨⟨by rw [hfd]; rfl, by rw [hfd]; exact Nat.zero_le _, by rw [hoff]; rfl⟩, hoff, Nat.zero_le _⟩⟩
    obtain ⟨c, hoc, hcc⟩ := runCalls_DI calls ([], 0) _ hdi0 hwf
    refine finishEntry_open hleg hoc fun hi => ?_
    have C := hcc hi
    have hle : c.length ≤ cfg.size := by rw [C.virt.len]; exact Nat.le_trans C.virt.le (C.off ▸ C.bound)
    refine ⟨C.virt.len, hle, ?_⟩
    unfold expected
    rw [← C.virt.pad, C.off, padTo_padTo C.bound]
  · rw [if_neg h1]
    exact finishEntry_settled hset

/-- After close and after free the entry is settled. -/
theorem session_spec (F : Nat → Bool) (cfg : Cfg) (old : Bytes) (calls : List Call) (explicitFinish : Bool)
    (hsafe : cfg.safe = true) (hleg : cfg.legacy = {}) (hwf : wellFormed cfg.size 0 calls) :
    Settled F old (expected cfg.size calls) (session F cfg old calls explicitFinish).sc ∧
    Settled F old (expected cfg.size calls) (session F cfg old calls explicitFinish).s := by
  have key := finishEntry_headed hleg hwf (header_spec F cfg old (expected cfg.size calls) hsafe hleg)
  unfold session closeCall
  cases explicitFinish with
  | true => exact ⟨finishEntry_settled key, finishEntry_settled (finishEntry_settled key)⟩
  | false => exact ⟨key, finishEntry_settled key⟩

end LA.SafeWrite
