/-
Sequences of `archive_read_data` calls, `archive_read_data_skip` and
`_archive_read_next_header2` on error-free scripts (used by `LA.Props.C06`).
-/
import LA.Lemmas.ReadDataFrame
namespace LA.RD

/-- Successive calls `archive_read_data(a, buf, s)` for `s` in `sizes`. -/
def readSeq (h : H) : List Nat → List Ret × H
  | [] => ([], h)
  | s :: ss =>
    let r := readData h s
    let q := readSeq r.2 ss
    (r.1 :: q.1, q.2)

def chunks (P : List Nat) : List Nat → List (List Nat)
  | [] => []
  | s :: ss => P.take s :: chunks (P.drop s) ss

theorem chunks_flatten (P : List Nat) (sizes : List Nat) : (chunks P sizes).flatten = P.take sizes.sum := by
  induction sizes generalizing P with
  | nil => simp [chunks]
  | cons s ss ih => simp [chunks, ih, List.take_add]

theorem chunks_complete (P : List Nat) (sizes : List Nat) (h1 : ∀ s ∈ sizes, 1 ≤ s)
    (h2 : [] ∈ chunks P sizes) : (chunks P sizes).flatten = P := by
  induction sizes generalizing P with
  | nil => simp [chunks] at h2
  | cons s ss ih =>
    simp only [chunks, List.mem_cons] at h2
    have hs : 1 ≤ s := h1 s (by simp)
    rcases h2 with h2 | h2
    · obtain rfl : P = [] := (List.take_eq_nil_iff.mp h2.symm).resolve_left (by omega)
      rw [chunks_flatten, List.take_nil]
    · have := ih (P.drop s) (fun x hx => h1 x (by simp [hx])) h2
      simp only [chunks, List.flatten_cons, this, List.take_append_drop]

theorem readSeq_spec (h : H) (bl : List Block) (hi : Inv h bl) (ho : (pend h bl).2 = .eof) (sizes : List Nat) :
    ∃ h' bl', Inv h' bl' ∧ Frame h h' ∧
      readSeq h sizes = ((chunks (pend h bl).1 sizes).map Ret.ok, h') ∧
      pend h' bl' = ((pend h bl).1.drop sizes.sum, .eof) := by
  induction sizes generalizing h bl with
  | nil => exact ⟨h, bl, hi, Frame.refl h, by simp [readSeq, chunks], by simp [← ho]⟩
  | cons s ss ih =>
    obtain ⟨h1, bl1, hi1, hr, hp⟩ := readLoop_spec h s [] bl hi
    have hf : Frame h h1 := by
      have := (readLoop_frame h s []).2; rw [hr] at this; exact this
    simp only [ho, or_true, if_true, List.nil_append] at hr hp
    obtain ⟨h2, bl2, hi2, hf2, hr2, hp2⟩ := ih h1 bl1 hi1 (by rw [hp])
    refine ⟨h2, bl2, hi2, hf.trans hf2, ?_, ?_⟩
    · simp only [readSeq, readData, enterReadData_data h hi.st, hr, hr2, hp, chunks, List.map_cons]
    · rw [hp2, hp]; simp [List.drop_drop]

/-- The format's own skip hook, when there is one, answers OK (or EOF, which
`archive_read_data_skip` turns into OK). -/
def HookOk (h : H) : Prop := h.hook = none ∨ h.hook = some .ok ∨ h.hook = some .eof

theorem drain_blocks (bl : List Block) (n : Nat) (t : Term) (ht : t.st = .eof) :
    drain (bl.map evOfBlock) n t = (.eof, [], n + bl.length) := by
  induction bl generalizing n with
  | nil => simp [drain, ht, TSt.toSt]
  | cons b r ih => simp [drain, evOfBlock, ih]; omega

def afterSkip (h : H) : H := { h with evs := [], evpos := h.evpos + h.evs.length, state := .header }

/-- Inside the body of an entry whose remaining script has no error in it: OK
blocks (in any order), then EOF. -/
structure ErrFree (h : H) : Prop where
  st : h.state = .data
  evs : ∃ bl : List Block, h.evs = bl.map evOfBlock
  term : h.term.st = .eof

theorem Inv.errFree {h : H} {bl : List Block} (hi : Inv h bl) : ErrFree h := ⟨hi.st, ⟨bl, hi.evs⟩, hi.term⟩

theorem ErrFree.frame {h h' : H} (he : ErrFree h) (f : Frame h h') : ErrFree h' := by
  obtain ⟨bl, hb⟩ := he.evs
  obtain ⟨k, hk⟩ := f.suffix
  exact ⟨f.state he.st, ⟨bl.drop k, by rw [hk, hb, List.map_drop]⟩, by rw [f.term]; exact he.term⟩

theorem dataSkip_clean {h : H} (hi : ErrFree h) (hk : HookOk h) :
    dataSkip h = (.ok, afterSkip h) := by
  obtain ⟨bl, hb⟩ := hi.evs
  unfold dataSkip afterSkip
  have hs : ¬ h.state ≠ .data := by simp [hi.st]
  simp only [hs, if_false]
  rcases hk with hk | hk | hk
  · simp [hk, hb, drain_blocks bl h.evpos h.term hi.term]
  · simp [hk]
  · simp [hk]

/-- `_archive_read_next_header2` from the point where the previous body is out
of the way (state HEADER, skip status OK). -/
def headerStep (g : H) : St × H := headerRest .ok g

theorem nextHeader_header {h : H} (hs : h.state = .header) :
    nextHeader h = headerStep { h with entryObj := none } := by
  unfold nextHeader headerStep
  have h1 : ¬ (h.state ≠ .header ∧ h.state ≠ .data) := by simp [hs]
  have h2 : ¬ h.state = .data := by simp [hs]
  rw [if_neg h1]
  simp only [h2, if_false]

theorem nextHeader_data {h : H} (hi : ErrFree h) (hk : HookOk h) :
    nextHeader h = headerStep { afterSkip h with entryObj := none } := by
  have hi' : ErrFree { h with entryObj := none } := ⟨hi.st, hi.evs, hi.term⟩
  have hk' : HookOk { h with entryObj := none } := hk
  have hd := dataSkip_clean hi' hk'
  unfold nextHeader headerStep
  have h1 : ¬ (h.state ≠ .header ∧ h.state ≠ .data) := by simp [hi.st]
  rw [if_neg h1]
  rw [if_pos hi.st, hd]
  simp only [reduceCtorEq, or_self, if_false]
  rfl

/-- The next header does not look at the `read_data_*` members (they are reset). -/
theorem headerStep_rd (g : H) (rd : RDState) : headerStep { g with rd := rd } = headerStep g := by
  unfold headerStep headerRest readHeader
  cases he : g.entries with
  | nil => simp
  | cons e rest =>
    simp only []
    cases e.hst with
    | ok => rfl
    | eof => rfl
    | err x => cases x <;> rfl

/-- What a client may do with a body before asking for the next header. -/
inductive Act
  | read (n : Nat)      -- archive_read_data with a buffer of n bytes
  | block               -- archive_read_data_block
  deriving DecidableEq, Repr

def act (h : H) : Act → H
  | .read n => (readData h n).2
  | .block => (dataBlock h).2.2

def runActs (h : H) (as : List Act) : H := as.foldl act h

/-- One way of consuming an entry body: any reads, then optionally an explicit
`archive_read_data_skip`. -/
structure Consumption where
  acts : List Act := []
  skip : Bool := false
  deriving DecidableEq, Repr

def consume (h : H) (c : Consumption) : H :=
  if c.skip then (dataSkip (runActs h c.acts)).2 else runActs h c.acts

theorem act_frame (h : H) (a : Act) : Frame h (act h a) := by
  cases a with
  | read n => exact (enterReadData_frame h).trans (readLoop_frame (enterReadData h) n []).2
  | block => exact dataBlock_frame h

theorem runActs_frame (h : H) (as : List Act) : Frame h (runActs h as) := by
  induction as generalizing h with
  | nil => exact Frame.refl h
  | cons a r ih => exact (act_frame h a).trans (ih (act h a))

theorem HookOk.frame {h h' : H} (hk : HookOk h) (f : Frame h h') : HookOk h' := by
  unfold HookOk; rw [f.hook]; exact hk

/-- The handle the next header starts from is the same whatever was read. -/
theorem afterSkip_frame {h h' : H} (f : Frame h h') :
    ({ afterSkip h' with entryObj := none, rd := resetRD } : H) =
      { afterSkip h with entryObj := none, rd := resetRD } := by
  simp only [afterSkip, f.term, f.hook, f.entries, f.nread, f.fileCount, f.pos]

theorem nextHeader_frame {h h' : H} (he : ErrFree h) (hk : HookOk h) (f : Frame h h') :
    nextHeader h' = nextHeader h := by
  rw [nextHeader_data (he.frame f) (hk.frame f), nextHeader_data he hk,
    ← headerStep_rd _ resetRD, ← headerStep_rd { afterSkip h with entryObj := none } resetRD]
  exact congrArg headerStep (afterSkip_frame (h := h) (h' := h') f)

theorem nextHeader_afterSkip {h : H} (he : ErrFree h) (hk : HookOk h) :
    nextHeader (afterSkip h) = nextHeader h := by
  rw [nextHeader_data he hk, nextHeader_header (by simp [afterSkip])]

/-- **The next header does not depend on how the body was consumed.** -/
theorem nextHeader_consume {h : H} (he : ErrFree h) (hk : HookOk h) (c : Consumption) :
    nextHeader (consume h c) = nextHeader h := by
  have f := runActs_frame h c.acts
  unfold consume
  cases c.skip with
  | false => simpa using nextHeader_frame he hk f
  | true =>
    simp only [if_true]
    rw [dataSkip_clean (he.frame f) (hk.frame f)]
    rw [nextHeader_afterSkip (he.frame f) (hk.frame f)]
    exact nextHeader_frame he hk f

def CleanEntry (e : Entry) : Prop :=
  e.hst = .ok ∧ (∃ bl : List Block, e.evs = bl.map evOfBlock) ∧ e.term.st = .eof ∧
  (e.hook = none ∨ e.hook = some .ok ∨ e.hook = some .eof)

/-- Between two headers of a well-formed archive: before the first header / after an
explicit skip (state HEADER), or somewhere inside an error-free body. -/
def Boundary (h : H) : Prop := h.state = .header ∨ (ErrFree h ∧ HookOk h)

theorem headerStep_clean {g : H} {e : Entry} {rest : List Entry} (hg : g.entries = e :: rest)
    (hc : CleanEntry e) :
    (headerStep g).1 = .ok ∧ ErrFree (headerStep g).2 ∧ HookOk (headerStep g).2 ∧
      (headerStep g).2.entries = rest := by
  obtain ⟨h1, h2, h3, h4⟩ := hc
  unfold headerStep headerRest readHeader
  simp only [hg, h1]
  refine ⟨by simp [St.code], ⟨rfl, h2, h3⟩, h4, ?_⟩
  trivial

theorem nextHeader_boundary {h : H} (hb : Boundary h) {e : Entry} {rest : List Entry}
    (hg : h.entries = e :: rest) (hc : CleanEntry e) :
    (nextHeader h).1 = .ok ∧ ErrFree (nextHeader h).2 ∧ HookOk (nextHeader h).2 ∧
      (nextHeader h).2.entries = rest := by
  rcases hb with hs | ⟨he, hk⟩
  · rw [nextHeader_header hs]; exact headerStep_clean (by exact hg) hc
  · rw [nextHeader_data he hk]; exact headerStep_clean (by exact hg) hc

theorem consume_boundary {g : H} (he : ErrFree g) (hk : HookOk g) (c : Consumption) :
    Boundary (consume g c) ∧ (consume g c).entries = g.entries := by
  have f := runActs_frame g c.acts
  unfold consume
  cases c.skip with
  | false => exact ⟨Or.inr ⟨he.frame f, hk.frame f⟩, f.entries⟩
  | true =>
    simp only [if_true]
    rw [dataSkip_clean (he.frame f) (hk.frame f)]
    exact ⟨Or.inl rfl, f.entries⟩

/-- A whole session: header, consume the body in the way `c` says, next header, ...,
and one more header after the last consumption.  The result lists, for every
header call, its status and the complete handle it leaves behind. -/
def session (h : H) : List Consumption → List (St × H)
  | [] => [nextHeader h]
  | c :: cs => nextHeader h :: session (consume (nextHeader h).2 c) cs

theorem session_eq (cs₁ cs₂ : List Consumption) (h₁ h₂ : H) (hl : cs₁.length = cs₂.length)
    (hn : cs₁.length ≤ h₁.entries.length) (he : h₁.entries = h₂.entries)
    (hc : ∀ e ∈ h₁.entries, CleanEntry e) (b₁ : Boundary h₁) (b₂ : Boundary h₂)
    (hh : nextHeader h₁ = nextHeader h₂) : session h₁ cs₁ = session h₂ cs₂ := by
  induction cs₁ generalizing cs₂ h₁ h₂ with
  | nil =>
    cases cs₂ with
    | nil => simp [session, hh]
    | cons _ _ => simp at hl
  | cons c₁ r₁ ih =>
    cases cs₂ with
    | nil => simp at hl
    | cons c₂ r₂ =>
      cases hent : h₁.entries with
      | nil => simp [hent] at hn
      | cons e rest =>
        have hce : CleanEntry e := hc e (by simp [hent])
        obtain ⟨_, e1, k1, n1⟩ := nextHeader_boundary b₁ hent hce
        simp only [session, hh, List.cons.injEq, true_and]
        rw [hh] at e1 k1 n1
        obtain ⟨bb₁, ee₁⟩ := consume_boundary e1 k1 c₁
        obtain ⟨bb₂, ee₂⟩ := consume_boundary e1 k1 c₂
        apply ih
        · simpa using hl
        · rw [ee₁, n1]; simp [hent] at hn; simpa using hn
        · rw [ee₁, ee₂]
        · intro x hx; rw [ee₁, n1] at hx; exact hc x (by simp [hent, hx])
        · exact bb₁
        · exact bb₂
        · rw [nextHeader_consume e1 k1, nextHeader_consume e1 k1]

/-! ### Vocabulary of the C06 statements -/

/-- The handle is at the start of the body of an entry (just after
`__archive_reset_read_data`) whose format reader will deliver the blocks `bl`
and then ARCHIVE_EOF, reporting the end offset `t` with it (`none`: it stores
nothing). -/
structure Fresh (h : H) (bl : List Block) (t : Option Int) : Prop where
  st : h.state = .data
  outOff : h.rd.outOff = 0
  off : h.rd.off = 0
  blk : h.rd.blk = []
  evs : h.evs = bl.map evOfBlock
  term : h.term = { st := .eof, off := t }

/-- The property's premise on the zero-copy blocks: offsets increase from 0 and
blocks do not overlap; the end offset reported with EOF is not before the end of
the last block. -/
def WellFormed (bl : List Block) (t : Option Int) : Prop :=
  Ordered 0 bl ∧ ∀ t', t = some t' → endCursor 0 bl ≤ t'

/-- The dense image: every hole (before the first block, between blocks, between
the last block and the end offset) filled with zero bytes.  For a disordered
block list: up to the first block that lies below the bytes already covered. -/
def dense (bl : List Block) (t : Option Int) : List Nat := (image 0 bl t).1

theorem Fresh.inv {h : H} {bl : List Block} {t : Option Int} (hf : Fresh h bl t)
    (hend : ∀ t', t = some t' → endCursor 0 bl ≤ t') : Inv h bl := by
  refine ⟨hf.st, hf.evs, by rw [hf.term], ?_⟩
  intro t' ht
  rw [hf.term] at ht
  simpa [hf.off, hf.blk] using hend t' ht

theorem Fresh.pend {h : H} {bl : List Block} {t : Option Int} (hf : Fresh h bl t) :
    pend h bl = image 0 bl t := by
  simp [LA.RD.pend, hf.off, hf.outOff, hf.blk, hf.term, zeros]

theorem image_length (pos : Int) (bl : List Block) (t : Option Int) (ho : Ordered pos bl)
    (hend : ∀ t', t = some t' → endCursor pos bl ≤ t') :
    ((image pos bl t).1.length : Int) = t.getD (endCursor pos bl) - pos := by
  induction bl generalizing pos with
  | nil =>
    simp only [image, endCursor, zeros_length]
    cases t with
    | none => simp
    | some t' => have := hend t' rfl; simp [endCursor] at this ⊢; omega
  | cons b r ih =>
    obtain ⟨o, bs⟩ := b
    obtain ⟨h1, h2⟩ := ho
    have hn : ¬ o < pos := by omega
    simp only [image, hn, if_false, endCursor, List.length_append, zeros_length]
    have := ih (o + bs.length) h2 (by simpa [endCursor] using hend)
    push_cast
    rw [this]
    omega

theorem headerStep_fresh {g : H} {e : Entry} {rest : List Entry} (hg : g.entries = e :: rest)
    (h1 : e.hst = .ok) {bl : List Block} (hbl : e.evs = bl.map evOfBlock) (ht : e.term.st = .eof) :
    Fresh (headerStep g).2 bl e.term.off := by
  unfold headerStep headerRest readHeader
  simp only [hg, h1]
  refine ⟨rfl, rfl, rfl, rfl, hbl, ?_⟩
  cases he : e.term with
  | mk st off => simp [he] at ht; simp [ht]

end LA.RD
