/-
C18 — Character-set conversion of names is correct and bounded.

Property theorems over `LA.Unicode`, the model of the hand-written codecs of
libarchive/archive_string.c (`_utf8_to_unicode`, `utf8_to_unicode`, `cesu8_to_unicode`,
`unicode_to_utf8`, `utf16_to_unicode`, `unicode_to_utf16be/le`, `strncat_from_utf8_to_utf8`,
`archive_string_append_unicode`, `best_effort_strncat_to/from_utf16`).

Quantification: every theorem is over all code points / all byte lists / all lengths / all flag
words / all initial buffers; nothing is bounded.  Two facts of the C are visible in the statements:
* a NUL byte ends a UTF-8 string (`_utf8_to_unicode` returns 0 on it), so U+0000 is not carried by a
  UTF-8 source (`Carries .utf8 c` asks `0 < c`);
* UTF-16 theorems that reconstruct bytes ask that list elements are bytes (`< 256`).

The iconv-backed charsets and the NFC/NFD tables are outside these theorems (round-trip tests only).
-/
import LA.Lemmas.Unicode
namespace LA.C18
open LA.Unicode LA.Gen.Utf8Table

/-- `unicode_to_utf8` with room for 4 bytes. -/
abbrev encode8 (c : Nat) : List Nat := unicodeToUtf8 4 c
/-- `unicode_to_utf16be/le` with room for 4 bytes. -/
abbrev encode16 (be : Bool) (c : Nat) : List Nat := unicodeToUtf16 be 4 c

instance (c : Nat) : Decidable (IsScalar c) := by unfold IsScalar; infer_instance
instance (e : Enc) (c : Nat) : Decidable (Carries e c) := by unfold Carries; infer_instance

/-! ## the extracted table -/

/-- Table lemma over `Gen/Utf8Table`: `utf8_count[ch]` is 1 for 00..7F, 2 for C2..DF, 3 for E0..EF,
4 for F0..F4 and 0 for every other byte (80..C1, F5..FF).  Re-checked by evaluation on every build. -/
theorem utf8_count_table (ch : Nat) : utf8Count.getD ch 0 = leadClass ch := count_spec ch

example : utf8Count.getD 0xC1 0 = 0 ∧ utf8Count.getD 0xF4 0 = 4 ∧ utf8Count.getD 0xF5 0 = 0 := by decide +kernel

/-! ## UTF-8, one code point -/

/-- decode ∘ encode = id on all 1 112 063 non-zero scalar values (any bytes may follow). -/
theorem utf8_decode_encode (c : Nat) (hs : IsScalar c) (hc : 0 < c) (rest : List Nat) (n : Nat)
    (hn : (encode8 c).length ≤ n) :
    utf8ToUnicode (encode8 c ++ rest) n = .ret (encode8 c).length (some c) := by
  unfold utf8ToUnicode
  rw [utf8Raw_encode c hc hs.1 rest n hn]
  simp [isSurrogate_false_of_scalar hs]

example : IsScalar 0x1F600 ∧ 0 < 0x1F600 ∧ (encode8 0x1F600).length ≤ 4 := by decide +kernel
example : utf8ToUnicode (encode8 0x10FFFF ++ [0x41]) 5 = .ret 4 (some 0x10FFFF) := by decide +kernel

/-- The same for the internal decoder, which also lets the 3-byte surrogates through (CESU-8). -/
theorem utf8_raw_decode_encode (c : Nat) (hc : 0 < c) (hmax : c ≤ unicodeMax) (rest : List Nat) (n : Nat)
    (hn : (encode8 c).length ≤ n) :
    utf8Raw (encode8 c ++ rest) n = .ret (encode8 c).length (some c) :=
  utf8Raw_encode c hc hmax rest n hn

example : utf8Raw (encode8 0xD800) 3 = .ret 3 (some 0xD800) := by decide +kernel

/-- A decoder success means the consumed bytes are exactly the shortest-form encoding of a scalar
value: no overlong form, no surrogate, nothing above U+10FFFF is ever accepted, so a byte string is
never silently read as a different valid name. -/
theorem utf8_accepts_only_canonical (xs : List Nat) (n : Nat) (r : Int) (uc : Option Nat)
    (h : utf8ToUnicode xs n = .ret r uc) (hr : 0 < r) :
    ∃ c, uc = some c ∧ 0 < c ∧ IsScalar c ∧ xs.take r.toNat = encode8 c ∧
      r.toNat = (encode8 c).length ∧ r.toNat ≤ n := by
  obtain ⟨c, hc, ⟨⟨hp, -, ht, hl⟩, hs⟩, hn⟩ := (utf8ToUnicode_spec xs n).pos h hr
  exact ⟨c, hc, hp, hs, ht, hl, hn⟩

example : utf8ToUnicode [0xE2, 0x82, 0xAC, 0x41] 4 = .ret 3 (some 0x20AC) := by decide +kernel
-- overlong forms, a surrogate, U+110000 and 5/6-byte forms are rejected with the documented counts
example : utf8ToUnicode [0xC0, 0xAF] 2 = .ret (-2) (some 0xFFFD) := by decide +kernel
example : utf8ToUnicode [0xE0, 0x80, 0xAF] 3 = .ret (-3) (some 0xFFFD) := by decide +kernel
example : utf8ToUnicode [0xF0, 0x80, 0x80, 0xAF] 4 = .ret (-4) (some 0xFFFD) := by decide +kernel
example : utf8ToUnicode [0xED, 0xA0, 0x80] 3 = .ret (-3) (some 0xD800) := by decide +kernel
example : utf8ToUnicode [0xF4, 0x90, 0x80, 0x80] 4 = .ret (-4) (some 0xFFFD) := by decide +kernel
example : utf8ToUnicode [0xF8, 0x88, 0x80, 0x80, 0x80] 5 = .ret (-5) (some 0xFFFD) := by decide +kernel

theorem utf8_raw_accepts_only_canonical (xs : List Nat) (n : Nat) (r : Int) (uc : Option Nat)
    (h : utf8Raw xs n = .ret r uc) (hr : 0 < r) :
    ∃ c, uc = some c ∧ 0 < c ∧ c ≤ unicodeMax ∧ xs.take r.toNat = encode8 c ∧
      r.toNat = (encode8 c).length ∧ r.toNat ≤ n := by
  obtain ⟨c, hc, ⟨hp, hmx, ht, hl⟩, hn⟩ := (utf8Raw_spec xs n).pos h hr
  exact ⟨c, hc, hp, hmx, ht, hl, hn⟩

example : utf8Raw [0xDF, 0xBF] 2 = .ret 2 (some 0x7FF) := by decide +kernel

/-- Every return value other than 0 consumes at least one byte and at most `n`: the callers' loops
terminate and never step past the end. -/
theorem utf8_progress (xs : List Nat) (n : Nat) (r : Int) (uc : Option Nat)
    (h : utf8ToUnicode xs n = .ret r uc) (hr : r ≠ 0) : 1 ≤ r.natAbs ∧ r.natAbs ≤ n :=
  (utf8ToUnicode_spec xs n).progress h hr

theorem utf8_raw_progress (xs : List Nat) (n : Nat) (r : Int) (uc : Option Nat)
    (h : utf8Raw xs n = .ret r uc) (hr : r ≠ 0) : 1 ≤ r.natAbs ∧ r.natAbs ≤ n :=
  (utf8Raw_spec xs n).progress h hr

-- truncated sequence: only the bytes that are there are consumed
example : utf8ToUnicode [0xF0, 0x9F, 0x98] 3 = .ret (-3) (some 0xFFFD) := by decide +kernel
example : utf8Raw [0xE2, 0x41] 2 = .ret (-1) (some 0xFFFD) := by decide +kernel

/-- No byte at or beyond index `n` is read: with a block of at least `n` bytes no read is out of range. -/
theorem utf8_no_overread (xs : List Nat) (n : Nat) (hn : n ≤ xs.length) :
    utf8Raw xs n ≠ .oob ∧ utf8ToUnicode xs n ≠ .oob ∧ cesu8ToUnicode xs n ≠ .oob :=
  ⟨(utf8Raw_spec xs n).no_oob hn, (utf8ToUnicode_spec xs n).no_oob hn, (cesu8_spec xs n).no_oob hn⟩

-- the model does notice a read past the block
example : utf8Raw [0xE2, 0x82] 3 = .oob := by decide +kernel

/-- 0 is returned exactly at the end of the string (no bytes left, or a NUL byte). -/
theorem utf8_end_of_string (xs : List Nat) (n : Nat) (r : Int) (uc : Option Nat)
    (h : utf8ToUnicode xs n = .ret r uc) : r = 0 ↔ (n = 0 ∨ xs[0]? = some 0) :=
  (utf8ToUnicode_spec xs n).zero h

example : utf8ToUnicode [0, 0x41] 2 = .ret 0 none := by decide +kernel

/-- A negative return value always comes with U+FFFD (`utf8_to_unicode` keeps the surrogate itself
with -3 so that the CESU-8 path can look at it). -/
theorem utf8_replacement (xs : List Nat) (n : Nat) (r : Int) (uc : Option Nat) (hr : r < 0) :
    (utf8Raw xs n = .ret r uc → uc = some unicodeRChar) ∧
    (cesu8ToUnicode xs n = .ret r uc → uc = some unicodeRChar) ∧
    (utf8ToUnicode xs n = .ret r uc → uc = some unicodeRChar ∨ (r = -3 ∧ isSurrogate (uc.getD 0) = true)) :=
  ⟨fun h => (utf8Raw_spec xs n).neg h hr,
    fun h => (cesu8_spec xs n).neg h hr,
    fun h => ((utf8ToUnicode_spec xs n).neg h hr).imp id fun ⟨h3, hs⟩ => ⟨by omega, hs⟩⟩

/-! ## CESU-8 -/

/-- Two 3-byte surrogates are read as the supplementary code point they spell (6 bytes). -/
theorem cesu8_pairs (c : Nat) (h1 : 0x10000 ≤ c) (h2 : c ≤ 0x10FFFF) (rest : List Nat) (n : Nat) (hn : 6 ≤ n) :
    cesu8ToUnicode (encode8 (hiSur c) ++ encode8 (loSur c) ++ rest) n = .ret 6 (some c) := by
  have hm : unicodeMax = 0x10FFFF := rfl
  have hh := hiSur_range c
  have hl := loSur_range c
  have l1 := enc8_len3 (hiSur c) (by omega) (by omega)
  have l2 := enc8_len3 (loSur c) (by omega) (by omega)
  unfold cesu8ToUnicode
  rw [List.append_assoc, utf8Raw_encode (hiSur c) (by omega) (by omega) _ n (by omega)]
  have e1 : isHigh (hiSur c) = true := (isHigh_iff _).2 hh
  have e2 : isLow (loSur c) = true := (isLow_iff _).2 hl
  have hd : (unicodeToUtf8 4 (hiSur c) ++ (unicodeToUtf8 4 (loSur c) ++ rest)).drop 3
      = unicodeToUtf8 4 (loSur c) ++ rest := by
    rw [← l1]; simp
  have hn3 : ¬ n - 3 < 3 := by omega
  simp only [l1, Option.getD_some, e1, and_true, hn3, if_false, hd]
  rw [utf8Raw_encode (loSur c) (by omega) (by omega) rest (n - 3) (by omega)]
  simp only [l2, Option.getD_some, e2]
  simp [combine_hiSur_loSur c h1 h2]

example : cesu8ToUnicode [0xED, 0xA0, 0xBD, 0xED, 0xB8, 0x80] 6 = .ret 6 (some 0x1F600) := by decide +kernel

/-- …and scalar values in regular UTF-8 decode as before. -/
theorem cesu8_decode_encode (c : Nat) (hs : IsScalar c) (hc : 0 < c) (rest : List Nat) (n : Nat)
    (hn : (encode8 c).length ≤ n) :
    cesu8ToUnicode (encode8 c ++ rest) n = .ret (encode8 c).length (some c) :=
  cesu8_encode c hc hs rest n hn

/-- A success of `cesu8_to_unicode` is the canonical UTF-8 form of a scalar value or a well-formed
surrogate pair; lone or swapped surrogates are never accepted. -/
theorem cesu8_accepts_only_canonical_or_pair (xs : List Nat) (n : Nat) (r : Int) (uc : Option Nat)
    (h : cesu8ToUnicode xs n = .ret r uc) (hr : 0 < r) :
    ∃ c, uc = some c ∧ 0 < c ∧ IsScalar c ∧ r.toNat ≤ n ∧
      ((xs.take r.toNat = encode8 c ∧ r.toNat = (encode8 c).length) ∨
       (r = 6 ∧ 0x10000 ≤ c ∧ xs.take 6 = encode8 (hiSur c) ++ encode8 (loSur c))) := by
  obtain ⟨c, hc, ⟨hs, hform⟩, hn⟩ := (cesu8_spec xs n).pos h hr
  rcases hform with hok | ⟨h6, hsup, ht⟩
  · exact ⟨c, hc, hok.1, hs, hn, .inl hok.2.2⟩
  · exact ⟨c, hc, by omega, hs, hn, .inr ⟨by omega, hsup, ht⟩⟩

-- unpaired high surrogate (followed by a 4-byte character, by NUL), lone low surrogate: -3, U+FFFD
example : cesu8ToUnicode [0xED, 0xA0, 0x80, 0xF0, 0x9F, 0x98, 0x80] 7 = .ret (-3) (some 0xFFFD) := by decide +kernel
example : cesu8ToUnicode [0xED, 0xA0, 0x80, 0x00, 0x41, 0x42] 6 = .ret (-3) (some 0xFFFD) := by decide +kernel
example : cesu8ToUnicode [0xED, 0xB0, 0x80, 0xED, 0xA0, 0x80] 6 = .ret (-3) (some 0xFFFD) := by decide +kernel

theorem cesu8_progress (xs : List Nat) (n : Nat) (r : Int) (uc : Option Nat)
    (h : cesu8ToUnicode xs n = .ret r uc) (hr : r ≠ 0) : 1 ≤ r.natAbs ∧ r.natAbs ≤ n :=
  (cesu8_spec xs n).progress h hr

/-! ## UTF-16 BE / LE, one code point -/

theorem utf16_decode_encode (be : Bool) (c : Nat) (hs : IsScalar c) (rest : List Nat) (n : Nat)
    (hn : (encode16 be c).length ≤ n) :
    utf16ToUnicode be (encode16 be c ++ rest) n = .ret (encode16 be c).length (some c) :=
  utf16_encode be c hs rest n hn

example : utf16ToUnicode true (encode16 true 0x1F600) 4 = .ret 4 (some 0x1F600) := by decide +kernel
example : utf16ToUnicode false [0x3D, 0xD8, 0x00, 0xDE, 0x41] 5 = .ret 4 (some 0x1F600) := by decide +kernel

/-- A success of `utf16_to_unicode` on a byte string consumed exactly the UTF-16 form of a scalar
value (one unit, or a high surrogate followed by a low surrogate). -/
theorem utf16_accepts_only_canonical (be : Bool) (xs : List Nat) (n : Nat) (r : Int) (uc : Option Nat)
    (hbytes : ∀ b ∈ xs, b < 256) (h : utf16ToUnicode be xs n = .ret r uc) (hr : 0 < r) :
    ∃ c, uc = some c ∧ IsScalar c ∧ xs.take r.toNat = encode16 be c ∧
      r.toNat = (encode16 be c).length ∧ r.toNat ≤ n := by
  obtain ⟨c, hc, ⟨hs, hb⟩, hn⟩ := (utf16_spec be xs n).pos h hr
  exact ⟨c, hc, hs, (hb hbytes).1, (hb hbytes).2, hn⟩

-- high followed by a non-low unit, lone low, high at the end
example : utf16ToUnicode true [0xD8, 0x00, 0x00, 0x41] 4 = .ret (-2) (some 0xFFFD) := by decide +kernel
example : utf16ToUnicode true [0xDC, 0x00, 0xD8, 0x00] 4 = .ret (-2) (some 0xFFFD) := by decide +kernel
example : utf16ToUnicode false [0x00, 0xD8] 2 = .ret (-2) (some 0xFFFD) := by decide +kernel

/-- Progress, also for odd lengths: a single trailing byte is answered with -1, never with a read
of the missing byte. -/
theorem utf16_progress (be : Bool) (xs : List Nat) (n : Nat) (r : Int) (uc : Option Nat)
    (h : utf16ToUnicode be xs n = .ret r uc) (hr : r ≠ 0) : 1 ≤ r.natAbs ∧ r.natAbs ≤ n :=
  (utf16_spec be xs n).progress h hr

theorem utf16_odd_tail (be : Bool) (xs : List Nat) :
    utf16ToUnicode be xs 1 = .ret (-1) (some unicodeRChar) := by
  simp [utf16ToUnicode, invalid]

theorem utf16_no_overread (be : Bool) (xs : List Nat) (n : Nat) (hn : n ≤ xs.length) :
    utf16ToUnicode be xs n ≠ .oob :=
  (utf16_spec be xs n).no_oob hn

example : utf16ToUnicode true [0xD8, 0x3D, 0xDE] 3 = .ret (-2) (some 0xFFFD) := by decide +kernel
example : utf16ToUnicode true [0xD8, 0x3D, 0xDE] 4 = .oob := by decide +kernel

theorem utf16_end_of_string (be : Bool) (xs : List Nat) (n : Nat) (r : Int) (uc : Option Nat)
    (h : utf16ToUnicode be xs n = .ret r uc) : r = 0 ↔ n = 0 :=
  (utf16_spec be xs n).zero h

theorem utf16_replacement (be : Bool) (xs : List Nat) (n : Nat) (r : Int) (uc : Option Nat)
    (h : utf16ToUnicode be xs n = .ret r uc) (hr : r < 0) : uc = some unicodeRChar :=
  (utf16_spec be xs n).neg h hr

/-! ## the encoders never write past the room they are given -/

/-- `unicode_to_utf8` / `unicode_to_utf16be/le` store at most `remaining` bytes, and when they store
anything it does not depend on `remaining`. -/
theorem unparse_bounded (e : Enc) (remaining uc : Nat) :
    (unparse e remaining uc).length ≤ remaining ∧ (unparse e remaining uc).length ≤ 4 ∧
      (unparse e remaining uc ≠ [] → unparse e remaining uc = unparse e 4 uc) := by
  obtain ⟨bs, h1, h4, hb⟩ := unparse_room e uc
  have h4' : unparse e 4 uc = bs := by rw [hb 4, if_neg (by omega)]
  rw [h4', hb remaining]
  split
  · exact ⟨Nat.zero_le _, Nat.zero_le _, fun h => absurd rfl h⟩
  · exact ⟨by omega, h4, fun _ => rfl⟩

example : unparse .utf8 2 0x20AC = [] ∧ unparse .utf8 3 0x20AC = [0xE2, 0x82, 0xAC] := by decide +kernel
example : unparse .utf16le 3 0x1F600 = [] ∧ unparse .utf16be 4 0x1F600 = [0xD8, 0x3D, 0xDE, 0x00] := by decide +kernel

/-! ## `strncat_from_utf8_to_utf8` -/

/-- UTF-8 → UTF-8 always terminates with a result (no out-of-range read, no length wrap-around, no
endless loop), returns 0 or -1, and what it appends is well-formed UTF-8 — whatever the input. -/
theorem utf8_to_utf8_canonicalises (xs : List Nat) (len : Nat) (hlen : len ≤ xs.length) :
    ∃ r out, utf8ToUtf8 xs len = .ok r out ∧ WellFormed8 out ∧ (r = 0 ∨ r = -1) := by
  obtain ⟨r, cs, h, hcs, hr⟩ := transcode_total .utf8 .utf8 len xs [] 0 hlen
  exact ⟨r, encSeq .utf8 cs, by rw [utf8ToUtf8, utf8ToUtf8Loop_eq_transcode, h]; rfl, ⟨cs, hcs, rfl⟩, hr⟩

/-- Well-formed UTF-8 is carried verbatim and no failure is reported. -/
theorem utf8_to_utf8_verbatim (cs : List Nat) (hcs : ∀ c ∈ cs, Carries .utf8 c) (rest : List Nat) :
    utf8ToUtf8 (encSeq .utf8 cs ++ rest) (encSeq .utf8 cs).length = .ok 0 (encSeq .utf8 cs) := by
  rw [utf8ToUtf8, utf8ToUtf8Loop_eq_transcode, transcode_encSeq_append .utf8 .utf8 cs hcs rest [] 0]; rfl

example : ∀ c ∈ [0x41, 0xE9, 0x20AC, 0x1F600], Carries .utf8 c := by decide +kernel
example : encSeq .utf8 [0x41, 0xE9, 0x1F600] = [0x41, 0xC3, 0xA9, 0xF0, 0x9F, 0x98, 0x80] := by decide +kernel

/-- Hence the conversion is idempotent: converting its own output changes nothing. -/
theorem utf8_to_utf8_idempotent (xs : List Nat) (len : Nat) (hlen : len ≤ xs.length)
    (r : Int) (out : List Nat) (h : utf8ToUtf8 xs len = .ok r out) :
    utf8ToUtf8 out out.length = .ok 0 out := by
  obtain ⟨r', out', h', ⟨cs, hcs, hout⟩, _⟩ := utf8_to_utf8_canonicalises xs len hlen
  rw [h] at h'
  simp only [Conv.ok.injEq] at h'
  obtain ⟨-, rfl⟩ := h'
  subst hout
  simpa using utf8_to_utf8_verbatim cs hcs []

/-- UTF-8 → UTF-8 that reports no failure preserves the name: the source was well-formed UTF-8
(CESU-8 pairs allowed) read to its end (length exhausted or NUL), and the output is the regular
UTF-8 of the same scalar values.  Contrapositive: every other byte string is reported with -1. -/
theorem utf8_to_utf8_sound (xs : List Nat) (len : Nat) (hlen : len ≤ xs.length) (out : List Nat)
    (h : utf8ToUtf8 xs len = .ok 0 out) :
    ∃ items : List (Nat × Bool),
      (∀ it ∈ items, Carries .utf8 it.1 ∧ (it.2 = true → 0x10000 ≤ it.1)) ∧
      (items.flatMap (fun it => srcItem .utf8 it.1 it.2)).length ≤ len ∧
      xs.take (items.flatMap (fun it => srcItem .utf8 it.1 it.2)).length = items.flatMap (fun it => srcItem .utf8 it.1 it.2) ∧
      ((items.flatMap (fun it => srcItem .utf8 it.1 it.2)).length = len ∨
        xs[(items.flatMap (fun it => srcItem .utf8 it.1 it.2)).length]? = some 0) ∧
      out = encSeq .utf8 (items.map (·.1)) := by
  rw [utf8ToUtf8, utf8ToUtf8Loop_eq_transcode] at h
  obtain ⟨items, h1, h2, h3, h4, h5⟩ := transcode_sound .utf8 .utf8 len xs [] out (fun h => absurd rfl h) hlen h
  exact ⟨items, fun it hit => ⟨(h1 it hit).1, fun hp => ((h1 it hit).2 hp).2⟩, h2, h3, h4.imp id (·.2),
    by simpa using h5⟩

/-! ## where the source string ends -/

/-- `mbsnbytes` (front end of `archive_strncat_l` for every non-UTF-16 source): the length handed to
the converter is at most `n`, lies inside the block, covers no NUL and stops at the first one. -/
theorem source_ends_at_nul (xs : List Nat) (n : Nat) :
    mbsnbytes xs n ≤ n ∧ mbsnbytes xs n ≤ xs.length ∧
      (∀ i, i < mbsnbytes xs n → xs[i]? ≠ some 0) ∧
      (mbsnbytes xs n < n → mbsnbytes xs n < xs.length → xs[mbsnbytes xs n]? = some 0) := by
  induction xs generalizing n with
  | nil => cases n <;> simp [mbsnbytes]
  | cons b xs ih =>
    cases n with
    | zero => simp [mbsnbytes]
    | succ n =>
      simp only [mbsnbytes]
      by_cases hb : b = 0
      · simp [hb]
      · simp only [hb, if_false]
        obtain ⟨h1, h2, h3, h4⟩ := ih n
        refine ⟨by omega, by simp; omega, ?_, ?_⟩
        · intro i hi
          cases i with
          | zero => simp [hb]
          | succ i => simpa using h3 i (by omega)
        · intro ha hb'
          simpa using h4 (by omega) (by simpa using hb')

example : mbsnbytes [0x41, 0x42, 0, 0x43] 4 = 2 := by decide +kernel

/-! ## `archive_string_append_unicode` -/

/-- Every store of `archive_string_append_unicode` — each byte `unparse` writes and the final one or
two NULs — is at an index below `buffer_length`, for every input, every flag word (hence every
(from, to) pair and the "through iconv" shapes) and every initial buffer; the existing content is
kept, the result is `transcode` of the source, and the terminator fits. -/
theorem append_unicode_in_bounds (flag : Nat) (as : AStr) (xs : List Nat) (len : Nat) (hlen : len ≤ xs.length) :
    ∃ r out cap', appendUnicode flag as xs len = .ok r { alloc := true, cap := cap', data := as.data ++ out } ∧
      transcode (fromEnc flag) (toEnc flag) xs len [] 0 = .ok r out ∧
      as.data.length + out.length + (toEnc flag).ts ≤ cap' := by
  unfold appendUnicode
  have hinv : BufInv (toEnc flag).ts (ensure as (as.data.length + len * tmOf flag + (toEnc flag).ts)) :=
    ensure_inv _ as _ (by omega)
  obtain ⟨r, out, cap', ht, ha, hc⟩ := appendLoop_spec (fromEnc flag) (toEnc flag) (tmOf flag) len xs _ 0 [] hlen hinv
  rw [ensure_data] at ha hc
  exact ⟨r, out, cap', ha, by simpa using ht, hc⟩

theorem append_unicode_never_out_of_bounds (flag : Nat) (as : AStr) (xs : List Nat) (len : Nat)
    (hlen : len ≤ xs.length) :
    (∀ i c, appendUnicode flag as xs len ≠ .oobWrite i c) ∧ appendUnicode flag as xs len ≠ .oobRead ∧
      appendUnicode flag as xs len ≠ .lenWrap := by
  obtain ⟨r, out, cap', ha, _, _⟩ := append_unicode_in_bounds flag as xs len hlen
  rw [ha]
  exact ⟨fun _ _ => by simp, by simp, by simp⟩

-- the invariant is what keeps the stores inside: without the initial `ensure` a store would be flagged
example : unparseGrow .utf16le 0 0x41 { alloc := true, cap := 32, data := List.replicate 31 0x61 }
    = .oobWrite 32 32 := by
  rw [unparseGrow]; decide +kernel

/-- A conversion that reports no failure preserves the name: the source was a sequence of scalar
values (CESU-8 pairs allowed in UTF-8) consumed to its end, and exactly that sequence was appended in
the target encoding.  Contrapositive: anything else is reported with -1. -/
theorem append_unicode_sound (flag : Nat) (as as' : AStr) (xs : List Nat) (len : Nat) (hlen : len ≤ xs.length)
    (hbytes : fromEnc flag ≠ .utf8 → ∀ b ∈ xs, b < 256)
    (h : appendUnicode flag as xs len = .ok 0 as') :
    ∃ items : List (Nat × Bool),
      (∀ it ∈ items, Carries (fromEnc flag) it.1 ∧ (it.2 = true → fromEnc flag = .utf8 ∧ 0x10000 ≤ it.1)) ∧
      (items.flatMap (fun it => srcItem (fromEnc flag) it.1 it.2)).length ≤ len ∧
      xs.take (items.flatMap (fun it => srcItem (fromEnc flag) it.1 it.2)).length
        = items.flatMap (fun it => srcItem (fromEnc flag) it.1 it.2) ∧
      ((items.flatMap (fun it => srcItem (fromEnc flag) it.1 it.2)).length = len ∨
        (fromEnc flag = .utf8 ∧ xs[(items.flatMap (fun it => srcItem (fromEnc flag) it.1 it.2)).length]? = some 0)) ∧
      as'.data = as.data ++ encSeq (toEnc flag) (items.map (·.1)) := by
  obtain ⟨r, out, cap', ha, ht, _⟩ := append_unicode_in_bounds flag as xs len hlen
  rw [ha] at h
  simp only [AppRes.ok.injEq] at h
  obtain ⟨rfl, rfl⟩ := h
  obtain ⟨items, h1, h2, h3, h4, h5⟩ := transcode_sound (fromEnc flag) (toEnc flag) len xs [] out hbytes hlen ht
  exact ⟨items, h1, h2, h3, h4, by simp [h5]⟩

/-- The return value is 0 or -1. -/
theorem append_unicode_result (flag : Nat) (as as' : AStr) (xs : List Nat) (len : Nat) (r : Int)
    (h : appendUnicode flag as xs len = .ok r as') (hlen : len ≤ xs.length) : r = 0 ∨ r = -1 := by
  obtain ⟨r', out, cap', ha, ht, _⟩ := append_unicode_in_bounds flag as xs len hlen
  rw [ha] at h
  simp only [AppRes.ok.injEq] at h
  obtain ⟨rfl, -⟩ := h
  obtain ⟨r, cs, ht', -, hr⟩ := transcode_total (fromEnc flag) (toEnc flag) len xs [] 0 hlen
  rw [ht] at ht'
  cases ht'
  exact hr

/-! ## sequences: UTF-8 ↔ UTF-16 round trip -/

/-- Converting the encoding of any sequence of scalar values gives the encoding of the same
sequence in the target encoding, with return value 0, from any initial buffer. -/
theorem append_unicode_encSeq (flag : Nat) (as : AStr) (cs : List Nat) (hcs : ∀ c ∈ cs, Carries (fromEnc flag) c)
    (rest : List Nat) :
    ∃ cap', appendUnicode flag as (encSeq (fromEnc flag) cs ++ rest) (encSeq (fromEnc flag) cs).length
      = .ok 0 { alloc := true, cap := cap', data := as.data ++ encSeq (toEnc flag) cs } := by
  obtain ⟨r, out, cap', ha, ht, _⟩ := append_unicode_in_bounds flag as (encSeq (fromEnc flag) cs ++ rest)
    (encSeq (fromEnc flag) cs).length (by simp)
  rw [transcode_encSeq_append (fromEnc flag) (toEnc flag) cs hcs rest [] 0] at ht
  simp only [Conv.ok.injEq, List.nil_append] at ht
  obtain ⟨rfl, rfl⟩ := ht
  exact ⟨cap', ha⟩

/-- flag words of the conversion objects UTF-8 → UTF-16 and UTF-16 → UTF-8 -/
def flag8to16 (be : Bool) : Nat := 2 ^ bitFromUtf8 + 2 ^ (if be then bitToUtf16be else bitToUtf16le)
def flag16to8 (be : Bool) : Nat := 2 ^ (if be then bitFromUtf16be else bitFromUtf16le) + 2 ^ bitToUtf8
def enc16 (be : Bool) : Enc := if be then .utf16be else .utf16le

theorem flag8to16_encs (be : Bool) : fromEnc (flag8to16 be) = .utf8 ∧ toEnc (flag8to16 be) = enc16 be := by
  cases be <;> decide
theorem flag16to8_encs (be : Bool) : fromEnc (flag16to8 be) = enc16 be ∧ toEnc (flag16to8 be) = .utf8 := by
  cases be <;> decide

/-- UTF-8 → UTF-16 (either byte order) → UTF-8 is the identity on every sequence of non-zero scalar
values (BMP, astral, combining sequences, U+FFFD, noncharacters alike), with both conversions
reporting success, whatever the two destination buffers held before. -/
theorem utf8_utf16_roundtrip (be : Bool) (cs : List Nat) (hcs : ∀ c ∈ cs, IsScalar c ∧ 0 < c) (as1 as2 : AStr) :
    ∃ cap1 cap2,
      appendUnicode (flag8to16 be) as1 (encSeq .utf8 cs) (encSeq .utf8 cs).length
        = .ok 0 { alloc := true, cap := cap1, data := as1.data ++ encSeq (enc16 be) cs } ∧
      appendUnicode (flag16to8 be) as2 (encSeq (enc16 be) cs) (encSeq (enc16 be) cs).length
        = .ok 0 { alloc := true, cap := cap2, data := as2.data ++ encSeq .utf8 cs } := by
  obtain ⟨hf1, ht1⟩ := flag8to16_encs be
  obtain ⟨hf2, ht2⟩ := flag16to8_encs be
  obtain ⟨cap1, h1⟩ := append_unicode_encSeq (flag8to16 be) as1 cs
    (fun c h => by rw [hf1]; exact ⟨(hcs c h).1, fun _ => (hcs c h).2⟩) []
  obtain ⟨cap2, h2⟩ := append_unicode_encSeq (flag16to8 be) as2 cs
    (fun c h => by rw [hf2]; exact ⟨(hcs c h).1, fun hh => by cases be <;> simp [enc16] at hh⟩) []
  rw [hf1, ht1] at h1
  rw [hf2, ht2] at h2
  exact ⟨cap1, cap2, by simpa using h1, by simpa using h2⟩

example : ∀ c ∈ [0x41, 0x301, 0xFFFD, 0xFFFE, 0x1F600, 0x10FFFF], IsScalar c ∧ 0 < c := by decide +kernel
example : encSeq (enc16 true) [0x41, 0x1F600] = [0x00, 0x41, 0xD8, 0x3D, 0xDE, 0x00] := by decide +kernel

/-! ## best-effort UTF-16 paths -/

theorem best_effort_to_utf16_in_bounds (be : Bool) (as : AStr) (xs : List Nat) (length : Nat) (hl : length ≤ xs.length) :
    ∃ r as', bestEffortToUtf16 be as xs length = .ok r as' ∧
      as'.data.length = as.data.length + 2 * length ∧ as'.data.length + 2 ≤ as'.cap := by
  unfold bestEffortToUtf16
  have hc := ensure_cap_ge as (as.data.length + (length + 1) * 2)
  obtain ⟨r, as', he, hd, hcap⟩ := bestEffortToUtf16_go_spec be length xs
    (ensure as (as.data.length + (length + 1) * 2)) 0 hl (by rw [ensure_data]; omega)
  rw [ensure_data] at hd
  exact ⟨r, as', he, hd, hcap⟩

theorem best_effort_from_utf16_in_bounds (be : Bool) (as : AStr) (xs : List Nat) (bytes : Nat) (hl : bytes ≤ xs.length) :
    ∃ r as', bestEffortFromUtf16 be as xs bytes = .ok r as' ∧ as'.data.length + 1 ≤ as'.cap := by
  unfold bestEffortFromUtf16
  have hc := ensure_cap_ge as (as.data.length + bytes + 1)
  exact bestEffortFromUtf16Loop_spec be bytes xs _ 0 hl (by rw [ensure_data]; omega)

end LA.C18
