/-
C11 — Writer output is deterministic and contains no uninitialised bytes.

Determinism.  Every writer function of the model (`LA.CW.session`,
`LA.WC.apiHeader/apiData/…`, `LA.Ustar.formatHeader`) is a Lean function of the
entries, data, options and callback it is given and of nothing else: there is no
heap, stack, clock or process id in its domain, so "repeating the same calls
yields the same bytes" is `rfl` (`deterministic` below states it for the record).
What has content is the tie to the C (engine `det`: identical output under
different heap and stack poison) and the absence of uninitialised bytes, which
the model makes visible: buffers start as `none` cells (fresh `malloc`, fresh
stack array) and the theorems say no `none` cell can reach the output.
-/
import LA.Lemmas.ClientWriteSession
import LA.Lemmas.Ustar
import LA.Lemmas.WriteCoreDef
namespace LA.C11
open LA.CW LA.Ustar LA.Gen.WriteLayout

/-- Determinism is definitional: equal inputs, equal results. -/
theorem deterministic {σ : Type} (W : Writer σ) (w : σ) (bpb : Nat) (bil : Int) (ds : List (List Cell)) :
    session W w bpb bil ds = session W w bpb bil ds := rfl

/-- **C11, client write layer.**  If every byte the format/filter layer hands
down is initialised, then so is every byte of every offer made to the client
write callback — for every callback behaviour (short writes, failures), block
size, last-block setting and sequence of writes. -/
theorem all_offered_defined {σ : Type} (W : Writer σ) (w : σ) (bpb : Nat) (bil : Int) (ds : List (List Cell))
    (hdef : ∀ d ∈ ds, ∀ c ∈ d, c.isSome = true) :
    ∀ e ∈ allEvents (session W w bpb bil ds).1, ∀ c ∈ e.offer, c.isSome = true := by
  obtain ⟨_, ⟨n, _, _, _, h4, _⟩, _, _⟩ := session_spec W w bpb bil ds
  intro e he c hc
  rcases List.mem_append.mp (h4 e he c hc) with h | h
  · obtain ⟨d, hd, hcd⟩ := List.mem_flatten.mp h
    exact hdef d hd c hcd
  · rw [List.eq_of_mem_replicate h]; rfl

/-- Non-vacuity: 3 bytes into a 4-byte block buffer; the last offer is `[1,2,3,0]`, not `[1,2,3,<junk>]`. -/
example : (allEvents (session scriptWriter [] 4 (-1) [[some 1, some 2, some 3]]).1).map (·.offer) =
    [[some 1, some 2, some 3, some 0]] := by
  decide +kernel

/-- The extracted `memcpy(h, &template_header, N)` covers the whole header. -/
theorem template_covers_header : (templateHeader.take templateCopyLen).length = 512 := template_covers

/-- **C11, ustar header.**  `__archive_write_format_header_ustar` run on an
uninitialised 512-byte array (all cells `none`): whenever it produces a header,
that header has 512 bytes and every one of them has been stored to — for every
entry. -/
theorem header_fully_defined (e : Entry) (st : Int) (h : List Cell) (hh : formatHeader e = some (st, h)) :
    h.length = 512 ∧ ∀ c ∈ h, c.isSome = true := formatHeader_defined e st h hh

/-! ### through the write core -/

/-- The API calls of a writing session. -/
inductive Call
  | open_
  | header (e : Entry)
  | data (d : List Nat)
  | finishEntry
  | close
  | free

open LA.WC in
def step {σ : Type} (W : Writer σ) (w : σ) (h : Handle) : Call → Int × Handle × List Event × σ
  | .open_ => apiOpen W w h
  | .header e => apiHeader W w h e
  | .data d => apiData W w h (d.map some)
  | .finishEntry => apiFinishEntry W w h
  | .close => apiClose W w h
  | .free => apiFree W w h

/-- All callback invocations of a sequence of API calls (whatever they return). -/
def runCalls {σ : Type} (W : Writer σ) (w : σ) (h : LA.WC.Handle) : List Call → List Event
  | [] => []
  | c :: cs => (step W w h c).2.2.1 ++ runCalls W (step W w h c).2.2.2 (step W w h c).2.1 cs

open LA.WC in
theorem step_def {σ : Type} (W : Writer σ) (w : σ) (h : Handle) (c : Call) (hc : COk h.cs) :
    Dfn (step W w h c) := by
  cases c with
  | open_ => exact apiOpen_def W w h hc
  | header e => exact apiHeader_def W w h e hc
  | data d => exact apiData_def W w h _ hc (cellsDef_map_some d)
  | finishEntry => exact apiFinishEntry_def W w h hc
  | close => exact apiClose_def W w h hc
  | free => exact apiFree_def W w h hc

/-- **C11, modelled writers.**  Start from any handle that has not been opened yet
(any format among raw/ustar, any filter among none/b64encode/uuencode, any block
size, last-block setting, open-callback result) and make any sequence of API
calls with initialised data, against any callback: no uninitialised byte is ever
offered to the write callback. -/
theorem api_all_offered_defined {σ : Type} (W : Writer σ) (w : σ) (h : LA.WC.Handle) (hnew : h.cs = none)
    (calls : List Call) :
    ∀ e ∈ runCalls W w h calls, ∀ c ∈ e.offer, c.isSome = true := by
  have hc : LA.WC.COk h.cs := by rw [hnew]; exact LA.WC.cOk_none
  clear hnew
  induction calls generalizing w h with
  | nil => intro e he; cases he
  | cons c cs ih =>
    have hs := step_def W w h c hc
    intro e he
    simp only [runCalls] at he
    rcases List.mem_append.mp he with he | he
    · exact hs.1 e he
    · exact ih _ _ hs.2 e he

/-- Non-vacuity: a raw archive of 3 bytes through a 4-byte block buffer: one offer, `[1,2,3,0]`. -/
example : (runCalls scriptWriter [] { fmt := .raw, bpb := 4 }
    [.open_, .header { pathname := [97] }, .data [1, 2, 3], .close]).map (·.offer) =
    [[some 1, some 2, some 3, some 0]] := by
  decide +kernel

/-- Non-vacuity: the header writer does produce a header for an ordinary entry. -/
def exEntry : Entry := {
  pathname := [97]
  size := 5
  mode := 420
  uid := 1000
  gid := 100
  mtime := 1700000000
  uname := [117]
  gname := [103] }

set_option maxRecDepth 16384 in
example : (formatHeader exEntry).isSome = true := by decide +kernel

end LA.C11
