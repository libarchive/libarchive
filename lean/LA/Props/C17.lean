/-
C17 — The hard-link resolver neither loses nor duplicates entries.
Property theorems over `LA.Lnk` (model of archive_entry_link_resolver.c).
Helper lemmas live in `LA/Lemmas/Lnk.lean`; the bucket table under the flat record list is
`LA/Lemmas/LnkHash.lean`, instantiated in the last section.
-/
import LA.Lemmas.Lnk
import LA.Lemmas.LnkHash
import LA.Gen.Limits
namespace LA.C17
open LA.Lnk

def tags (es : List Ent) : List Nat := es.map (·.tag)

def pushed : List Op → List Ent
  | [] => []
  | .push e :: ops => e :: pushed ops
  | _ :: ops => pushed ops

/-- Only the new-cpio strategy parks entries inside the resolver. -/
def Inv (s : State) : Prop := s.strategy ≠ .newCpio → ∀ le ∈ s.tbl, le.held = none

theorem inv_init (st : Strategy) : Inv { strategy := st } := by
  intro _ le h; simp at h

theorem push_strategy (s : State) (e : Ent) : (push s e).1.strategy = s.strategy := push_keeps_strategy s e

theorem push_inv (s : State) (e : Ent) (hi : Inv s) : Inv (push s e).1 := fun hne =>
  have hne' : s.strategy ≠ .newCpio := push_keeps_strategy s e ▸ hne
  push_noHeld s e hne' (hi hne')

/-- One `linkify` call with a non-NULL entry: what comes out plus what is held
afterwards is what was held before plus the entry pushed (as identities). -/
theorem push_conserves (s : State) (e : Ent) (hi : Inv s) :
    let r := push s e
    (tags (r.2.1.toList ++ r.2.2.toList) ++ tags (heldOf r.1.tbl)).Perm
      (tags (heldOf s.tbl) ++ [e.tag]) := push_conserves_map (·.tag) (fun _ _ _ => rfl) s e hi

theorem drainAt_conserves (s : State) (k : Nat) :
    ((drainAt s k).2.toList ++ heldOf (drainAt s k).1.tbl).Perm (heldOf s.tbl) := drainAt_held s k

theorem drainAt_none (s : State) (k : Nat) (h : (drainAt s k).2 = none) : heldOf s.tbl = [] :=
  drainAt_none_held s k h

theorem drainAt_inv (s : State) (k : Nat) (hi : Inv s) : Inv (drainAt s k).1 :=
  fun hne x hx => hi ((drainAt_state s k).1 ▸ hne) x ((drainAt_state s k).2.subset hx)

theorem partialAt_held (s : State) (k : Nat) : heldOf (partialAt s k).1.tbl = heldOf s.tbl := by
  unfold partialAt
  rcases takeNth_spec (fun le => le.held.isNone) s.tbl k with ⟨h1, _⟩ | ⟨pre, le, post, h1, h2, h3⟩
  · simp [h1]
  · rw [h3]; simp only [h1]
    cases hh : le.held <;> simp [hh] at h2
    simp [heldOf_append, heldOf_cons, hh]

theorem partialAt_inv (s : State) (k : Nat) (hi : Inv s) : Inv (partialAt s k).1 :=
  fun hne x hx => hi ((partialAt_state s k).1 ▸ hne) x ((partialAt_state s k).2.subset hx)

theorem step_inv (s : State) (op : Op) (hi : Inv s) : Inv (step s op).1 := by
  cases op with
  | push e => exact push_inv s e hi
  | drain k => exact drainAt_inv s k hi
  | partialLinks k => exact partialAt_inv s k hi

theorem step_conserves (s : State) (op : Op) (hi : Inv s) :
    (tags (step s op).2 ++ tags (heldOf (step s op).1.tbl)).Perm
      (tags (heldOf s.tbl) ++ tags (pushed [op])) := by
  cases op with
  | push e => simpa [step, pushed, tags] using push_conserves s e hi
  | drain k =>
    have := (drainAt_conserves s k).map (·.tag)
    simpa [step, pushed, tags] using this
  | partialLinks k => simp [step, pushed, tags, partialAt_held]

theorem pushed_cons (op : Op) (ops : List Op) : pushed (op :: ops) = pushed [op] ++ pushed ops := by
  cases op <;> simp [pushed]

theorem run_inv (s : State) (ops : List Op) (hi : Inv s) : Inv (run s ops).1 := by
  induction ops generalizing s with
  | nil => simpa [run] using hi
  | cons op ops ih => simpa [run] using ih _ (step_inv s op hi)

/-- Conservation over any history of pushes, single drains and partial-link
queries, with any choice of record at every draining call. -/
theorem run_conserves (s : State) (ops : List Op) (hi : Inv s) :
    (tags (run s ops).2 ++ tags (heldOf (run s ops).1.tbl)).Perm
      (tags (heldOf s.tbl) ++ tags (pushed ops)) := by
  induction ops generalizing s with
  | nil => simp [run, pushed, tags]
  | cons op ops ih =>
    have h1 := step_conserves s op hi
    have h2 := ih _ (step_inv s op hi)
    rw [pushed_cons]
    simp only [run, tags, List.map_append] at h1 h2 ⊢
    rw [List.perm_iff_count] at h1 h2 ⊢
    intro a
    have := h1 a
    have := h2 a
    simp only [List.count_append] at *
    omega

/-- The final draining loop hands out everything that is still held, whatever
record each call picks, provided it is continued until NULL is returned. -/
theorem drainLoop_complete (s : State) (ks : List Nat) (hk : (heldOf s.tbl).length ≤ ks.length) :
    (drainLoop s ks).2.Perm (heldOf s.tbl) ∧ heldOf (drainLoop s ks).1.tbl = [] := by
  obtain ⟨h1, h2⟩ := drainLoop_spec s ks
  rw [h2 hk, List.append_nil] at h1
  exact ⟨h1, h2 hk⟩

/-- **C17, exactly once.**  For every strategy, every sequence of entries pushed
through the resolver (interleaved with single draining calls and partial-link
queries, each picking any record), followed by draining until NULL: the
identities that came out are exactly the identities that went in, each once. -/
theorem exactly_once (st : Strategy) (ops : List Op) (ks : List Nat)
    (hk : (pushed ops).length ≤ ks.length) :
    (tags ((run { strategy := st } ops).2 ++
           (drainLoop (run { strategy := st } ops).1 ks).2)).Perm (tags (pushed ops)) := by
  have hi := inv_init st
  have hc := run_conserves { strategy := st } ops hi
  generalize run { strategy := st } ops = r1 at hc ⊢
  have hlen : (heldOf r1.1.tbl).length ≤ ks.length := by
    have := hc.length_eq
    simp [tags, heldOf] at this
    simp only [heldOf] at *
    omega
  have ⟨d1, _⟩ := drainLoop_complete r1.1 ks hlen
  have d1' := d1.map (·.tag)
  generalize drainLoop r1.1 ks = r2 at d1'
  simp only [tags, List.map_append] at hc ⊢
  rw [List.perm_iff_count] at hc d1' ⊢
  intro a
  have := hc a
  have := d1' a
  simp only [List.count_append, heldOf, List.filterMap_nil, List.map_nil, List.count_nil] at *
  omega

/-! ### Entries come out unmodified except for link bookkeeping -/

/-- Agreement on everything the resolver must not touch. -/
def sameBut (a b : Ent) : Prop :=
  a.tag = b.tag ∧ a.dev = b.dev ∧ a.ino = b.ino ∧ a.nlink = b.nlink ∧ a.ftype = b.ftype

theorem sameBut_refl (a : Ent) : sameBut a a := ⟨rfl, rfl, rfl, rfl, rfl⟩
theorem sameBut_mkLink (a : Ent) (c : Nat) (u : Bool) : sameBut (a.mkLink c u) a := ⟨rfl, rfl, rfl, rfl, rfl⟩

/-- `Pres src out`: every entry in `out` is some entry of `src` up to hardlink/size. -/
def Pres (src out : List Ent) : Prop := ∀ o ∈ out, ∃ i ∈ src, sameBut o i

theorem pres_mono {a b c : List Ent} (h : Pres a c) (hs : ∀ x ∈ a, x ∈ b) : Pres b c :=
  fun o ho => let ⟨i, hi, hsb⟩ := h o ho; ⟨i, hs i hi, hsb⟩

theorem push_pres (s : State) (e : Ent) :
    Pres (heldOf s.tbl ++ [e]) ((push s e).2.1.toList ++ (push s e).2.2.toList ++ heldOf (push s e).1.tbl) := by
  intro o ho
  obtain ⟨i, hi, he⟩ := List.mem_map.mp
    (push_nothing_new (fun x => (x.tag, x.dev, x.ino, x.nlink, x.ftype)) (fun _ _ _ => rfl) s e o ho)
  simp only [Prod.mk.injEq] at he
  exact ⟨i, hi, he.1.symm, he.2.1.symm, he.2.2.1.symm, he.2.2.2.1.symm, he.2.2.2.2.symm⟩

theorem sameBut_trans {a b c : Ent} (h1 : sameBut a b) (h2 : sameBut b c) : sameBut a c :=
  ⟨h1.1.trans h2.1, h1.2.1.trans h2.2.1, h1.2.2.1.trans h2.2.2.1, h1.2.2.2.1.trans h2.2.2.2.1,
   h1.2.2.2.2.trans h2.2.2.2.2⟩

theorem pres_trans {a b c : List Ent} (h1 : Pres a b) (h2 : Pres b c) : Pres a c := by
  intro o ho
  obtain ⟨m, hm, s1⟩ := h2 o ho
  obtain ⟨i, hi, s2⟩ := h1 m hm
  exact ⟨i, hi, sameBut_trans s1 s2⟩

theorem pres_of_subset {a b : List Ent} (h : ∀ x ∈ b, x ∈ a) : Pres a b :=
  fun o ho => ⟨o, h o ho, sameBut_refl o⟩

theorem step_pres (s : State) (op : Op) :
    Pres (heldOf s.tbl ++ pushed [op]) ((step s op).2 ++ heldOf (step s op).1.tbl) := by
  cases op with
  | push e => simpa [step, pushed] using push_pres s e
  | drain k =>
    apply pres_of_subset
    intro x hx
    have := (drainAt_conserves s k).mem_iff (a := x)
    simp only [step, pushed, List.append_nil] at hx ⊢
    exact this.mp hx
  | partialLinks k =>
    apply pres_of_subset
    intro x hx
    simpa [step, pushed, partialAt_held] using hx

theorem run_pres (s : State) (ops : List Op) :
    Pres (heldOf s.tbl ++ pushed ops) ((run s ops).2 ++ heldOf (run s ops).1.tbl) := by
  induction ops generalizing s with
  | nil => exact pres_of_subset (by simp [run, pushed])
  | cons op ops ih =>
    have h1 := step_pres s op
    have h2 := ih (step s op).1
    rw [pushed_cons]
    -- what the first step hands back or still holds comes from what was held or from `op`
    have h1' : ∀ m ∈ (step s op).2 ++ heldOf (step s op).1.tbl,
        ∃ i ∈ heldOf s.tbl ++ (pushed [op] ++ pushed ops), sameBut m i := fun m hm =>
      let ⟨i, hi, sb⟩ := h1 m hm
      ⟨i, by rw [← List.append_assoc]; exact List.mem_append_left _ hi, sb⟩
    intro o ho
    simp only [run, List.append_assoc, List.mem_append] at ho
    rcases ho with ho | ho
    · exact h1' o (List.mem_append_left _ ho)
    · obtain ⟨m, hm, sb⟩ := h2 o (List.mem_append.mpr ho)
      rcases List.mem_append.mp hm with hm | hm
      · obtain ⟨i, hi, sb2⟩ := h1' m (List.mem_append_right _ hm)
        exact ⟨i, hi, sameBut_trans sb sb2⟩
      · exact ⟨m, by simp [hm], sb⟩

/-- **C17, unmodified except for link bookkeeping.**  Everything that comes out
of the resolver — during the pushes or in the final draining — is one of the
entries that went in, changed at most in its hardlink target and size-is-set. -/
theorem unmodified_except_link (st : Strategy) (ops : List Op) (ks : List Nat) :
    Pres (pushed ops) ((run { strategy := st } ops).2 ++
                       (drainLoop (run { strategy := st } ops).1 ks).2) := by
  have h := run_pres { strategy := st } ops
  simp only [heldOf_nil, List.nil_append] at h
  intro o ho
  rcases List.mem_append.mp ho with ho | ho
  · exact h o (by simp [ho])
  · -- drained entries were held
    have hd := (drainLoop_spec (run { strategy := st } ops).1 ks).1.subset (List.mem_append_left _ ho)
    exact h o (by simp [hd])

/-! ### Pass-through cases -/

/-- Entries with link count one, directories and device nodes pass straight
through under every strategy; so does everything under the old-cpio strategy. -/
theorem passthrough_unchanged (s : State) (e : Ent)
    (h : e.nlink = 1 ∨ e.ftype = .dir ∨ e.ftype = .blk ∨ e.ftype = .chr ∨ s.strategy = .oldCpio) :
    push s e = (s, some e, none) := by
  refine push_passthrough s e ?_
  rcases h with h | h | h | h | h
  · exact .inl (by simp [passthrough, h])
  · exact .inl (by simp [passthrough, h])
  · exact .inl (by simp [passthrough, h])
  · exact .inl (by simp [passthrough, h])
  · exact .inr h

/-! ### Group structure (tar, mtree, new cpio) -/

def lookup (tbl : List LE) (d i : Int) : Option LE := tbl.find? (·.hasKey d i)

/-- At most one record per (dev, ino). -/
def KeysNodup (tbl : List LE) : Prop := (tbl.map fun le => (le.dev, le.ino)).Nodup

theorem hasKey_iff (le : LE) (d i : Int) : le.hasKey d i = true ↔ (le.dev, le.ino) = (d, i) := Lnk.hasKey_iff le d i

theorem lookup_none_of_all (tbl : List LE) (d i : Int) (h : ∀ le ∈ tbl, le.hasKey d i = false) :
    lookup tbl d i = none := find?_hasKey_none tbl d i h

theorem lookup_split (pre post : List LE) (le0 : LE) (d i : Int) (h0 : le0.hasKey d i = true)
    (hpre : ∀ le ∈ pre, le.hasKey d i = false) : lookup (pre ++ le0 :: post) d i = some le0 :=
  find?_hasKey_split pre post le0 d i h0 hpre

/-- With unique keys, no record after the first match has the key. -/
theorem nodup_post (pre post : List LE) (le0 : LE) (d i : Int) (h0 : le0.hasKey d i = true)
    (hn : KeysNodup (pre ++ le0 :: post)) : ∀ le ∈ post, le.hasKey d i = false := hasKey_post pre post le0 d i h0 hn

/-- What `find_entry` does to the record of its own key and to the others. -/
theorem findEntry_lookup (tbl : List LE) (d i : Int) (h : Option Ent → Option Ent) (hn : KeysNodup tbl) :
    (findEntry tbl d i h).1 = (lookup tbl d i).map (fun le => { le with links := u32dec le.links }) ∧
    lookup (findEntry tbl d i h).2 d i =
      (match lookup tbl d i with
       | none => none
       | some le => if u32dec le.links > 0 then some { le with links := u32dec le.links, held := h le.held } else none) ∧
    (∀ d' i', (d', i') ≠ (d, i) → lookup (findEntry tbl d i h).2 d' i' = lookup tbl d' i') ∧
    KeysNodup (findEntry tbl d i h).2 := findEntry_find? tbl d i h hn

theorem insertEntry_lookup (tbl : List LE) (e : Ent) (held : Option Ent) (hn : KeysNodup tbl)
    (hnone : lookup tbl e.dev e.ino = none) :
    lookup (insertEntry tbl e held) e.dev e.ino = some (LE.ofEnt e held) ∧
    (∀ d' i', (d', i') ≠ (e.dev, e.ino) → lookup (insertEntry tbl e held) d' i' = lookup tbl d' i') ∧
    KeysNodup (insertEntry tbl e held) := insertEntry_find? tbl e held hn hnone

/-- tar and mtree: first member of a key is kept and recorded, later members
become hard links to the recorded first pathname; other keys are not disturbed. -/
theorem tarlike_push (s : State) (e : Ent) (u : Bool)
    (hs : (s.strategy = .tar ∧ u = true) ∨ (s.strategy = .mtree ∧ u = false))
    (hp : passthrough e = false) (hn : KeysNodup s.tbl) :
    KeysNodup (push s e).1.tbl ∧ (push s e).1.strategy = s.strategy ∧
    (∀ d' i', (d', i') ≠ (e.dev, e.ino) → lookup (push s e).1.tbl d' i' = lookup s.tbl d' i') ∧
    (match lookup s.tbl e.dev e.ino with
     | none => (push s e).2 = (some e, none) ∧
               lookup (push s e).1.tbl e.dev e.ino = some (LE.ofEnt e none)
     | some le => (push s e).2 = (some (e.mkLink le.canon u), none) ∧
               lookup (push s e).1.tbl e.dev e.ino =
                 if u32dec le.links > 0 then some { le with links := u32dec le.links } else none) := by
  have hne : s.strategy ≠ .oldCpio := by rcases hs with ⟨h, _⟩ | ⟨h, _⟩ <;> simp [h]
  obtain ⟨k1, k2, k3⟩ := push_find? s e hp hne hn
  refine ⟨k1, push_keeps_strategy s e, k2, ?_⟩
  rcases hs with ⟨h, rfl⟩ | ⟨h, rfl⟩ <;> rw [h] at k3 <;> exact k3

theorem u32dec_pos (m : Nat) (h1 : 1 ≤ m) (h2 : m < 4294967296) : u32dec m = m - 1 := u32dec_of_pos m h1 h2

def TarLike (s : State) (u : Bool) : Prop :=
  (s.strategy = .tar ∧ u = true) ∨ (s.strategy = .mtree ∧ u = false)

/-- Remaining members of an open group: each comes out as a hard link to the
group's first pathname and the group is forgotten after the last one. -/
theorem tarlike_rest (u : Bool) (d i : Int) (es : List Ent) :
    ∀ (s : State) (le : LE), TarLike s u → KeysNodup s.tbl → lookup s.tbl d i = some le →
      (∀ e ∈ es, e.dev = d ∧ e.ino = i ∧ passthrough e = false) →
      es.length = le.links → 1 ≤ le.links → le.links < 4294967296 →
      (run s (es.map .push)).2 = es.map (·.mkLink le.canon u) ∧
      lookup (run s (es.map .push)).1.tbl d i = none ∧ KeysNodup (run s (es.map .push)).1.tbl := by
  induction es with
  | nil => intro s le _ _ _ _ hlen h1 _; rw [← hlen] at h1; cases h1
  | cons e rest ih =>
    intro s le hs hn hl hall hlen h1 h2
    obtain ⟨ed, ei, ep⟩ := hall e (List.mem_cons_self ..)
    obtain ⟨p1, p2, _, p4⟩ := tarlike_push s e u hs ep hn
    rw [ed, ei, hl] at p4
    obtain ⟨q1, q2⟩ := p4
    have hu : u32dec le.links = rest.length := by rw [u32dec_pos _ h1 h2, ← hlen]; rfl
    rw [hu] at q2
    rw [List.map_cons, run_push_cons, q1]
    cases rest with
    | nil => exact ⟨rfl, q2, p1⟩
    | cons r rs =>
      have hs' : TarLike (push s e).1 u := by unfold TarLike at hs ⊢; rw [p2]; exact hs
      obtain ⟨r1, r2, r3⟩ := ih (push s e).1 { le with links := (r :: rs).length } hs' p1 q2
        (fun x hx => hall x (List.mem_cons_of_mem _ hx)) rfl (Nat.succ_pos _)
        (by rw [← hlen] at h2; exact Nat.lt_of_succ_lt h2)
      exact ⟨by rw [r1]; rfl, r2, r3⟩

/-- **C17, tar and mtree groups.**  Members `e₁ … eₙ` of one (dev, ino) group with
link count `n`, pushed in this order (entries of *other* groups may be pushed in
between: `tarlike_push` shows they do not disturb the record): the first comes
out unchanged and carries the body, every other one comes out as a hard link to
the first one's pathname (size unset under tar), and the resolver forgets the
group, so a later entry with the same key starts a new one. -/
theorem tarlike_group (s : State) (u : Bool) (e1 : Ent) (rest : List Ent)
    (hs : TarLike s u) (hn : KeysNodup s.tbl) (hnone : lookup s.tbl e1.dev e1.ino = none)
    (h1 : passthrough e1 = false)
    (hall : ∀ e ∈ rest, e.dev = e1.dev ∧ e.ino = e1.ino ∧ passthrough e = false)
    (hcount : e1.nlink = rest.length + 1) (hrest : 1 ≤ rest.length) (hlt : e1.nlink < 4294967296) :
    (run s ((e1 :: rest).map .push)).2 = e1 :: rest.map (·.mkLink e1.tag u) ∧
    lookup (run s ((e1 :: rest).map .push)).1.tbl e1.dev e1.ino = none := by
  obtain ⟨p1, p2, _, p4⟩ := tarlike_push s e1 u hs h1 hn
  rw [hnone] at p4
  have hs' : TarLike (push s e1).1 u := by unfold TarLike at hs ⊢; rw [p2]; exact hs
  have hlinks : (LE.ofEnt e1 none).links = rest.length := by
    rw [ofEnt_links e1 none (hcount ▸ Nat.succ_pos _) hlt, hcount]; rfl
  obtain ⟨r1, r2, _⟩ := tarlike_rest u e1.dev e1.ino rest (push s e1).1 (LE.ofEnt e1 none) hs' p1 p4.2 hall
    hlinks.symm (hlinks ▸ hrest) (by rw [hlinks]; omega)
  rw [List.map_cons, run_push_cons, p4.1, r1]
  exact ⟨rfl, r2⟩

/-- Non-vacuity: a three-member group under the tar strategy. -/
example :
    let e (t : Nat) : Ent := { tag := t, dev := 5, ino := 7, nlink := 3, ftype := .reg }
    (run { strategy := .tar } ([e 1, e 2, e 3].map .push)).2 =
      [e 1, (e 2).mkLink 1 true, (e 3).mkLink 1 true] := by decide

/-- new cpio: the first member is parked; each later member swaps places with the
parked one, which comes out as a hard link to the first pathname; the last
member also comes out itself, unchanged, carrying the body. -/
theorem newcpio_push (s : State) (e : Ent) (hs : s.strategy = .newCpio)
    (hp : passthrough e = false) (hn : KeysNodup s.tbl) :
    KeysNodup (push s e).1.tbl ∧ (push s e).1.strategy = s.strategy ∧
    (∀ d' i', (d', i') ≠ (e.dev, e.ino) → lookup (push s e).1.tbl d' i' = lookup s.tbl d' i') ∧
    (match lookup s.tbl e.dev e.ino with
     | none => (push s e).2 = (none, none) ∧
               lookup (push s e).1.tbl e.dev e.ino = some (LE.ofEnt e (some e))
     | some le =>
       if u32dec le.links > 0 then
         (push s e).2 = (le.held.map (·.mkLink le.canon true), none) ∧
         lookup (push s e).1.tbl e.dev e.ino = some { le with links := u32dec le.links, held := some e }
       else
         (push s e).2 = (le.held.map (·.mkLink le.canon true), some e) ∧
         lookup (push s e).1.tbl e.dev e.ino = none) := by
  obtain ⟨k1, k2, k3⟩ := push_find? s e hp (by simp [hs]) hn
  refine ⟨k1, push_keeps_strategy s e, k2, ?_⟩
  rw [hs] at k3
  cases hl : lookup s.tbl e.dev e.ino with
  | none => rw [show s.tbl.find? _ = none from hl] at k3; exact k3
  | some le =>
    rw [show s.tbl.find? _ = some le from hl] at k3
    dsimp only at k3 ⊢
    have q1 := k3.1
    have q2 : lookup _ _ _ = _ := k3.2
    generalize u32dec le.links = n at q1 q2 ⊢
    rw [q1, q2]
    by_cases hgt : n > 0
    · have : (n == 0) = false := by simp; omega
      simp [hgt, Strategy.onHit, Strategy.swap, this]
    · have : (n == 0) = true := by simp; omega
      simp [hgt, Strategy.onHit, this]

theorem newcpio_rest (d i : Int) (mid : List Ent) :
    ∀ (s : State) (le : LE) (h last : Ent), s.strategy = .newCpio → KeysNodup s.tbl →
      lookup s.tbl d i = some le → le.held = some h →
      (∀ e ∈ mid ++ [last], e.dev = d ∧ e.ino = i ∧ passthrough e = false) →
      mid.length + 1 = le.links → le.links < 4294967296 →
      (run s ((mid ++ [last]).map .push)).2 = (h :: mid).map (·.mkLink le.canon true) ++ [last] ∧
      lookup (run s ((mid ++ [last]).map .push)).1.tbl d i = none := by
  induction mid with
  | nil =>
    intro s le h last hs hn hl hh hall hlen h2
    obtain ⟨ed, ei, ep⟩ := hall last (List.mem_cons_self ..)
    obtain ⟨_, _, _, p4⟩ := newcpio_push s last hs ep hn
    rw [ed, ei, hl] at p4
    have hu : u32dec le.links = 0 := by rw [u32dec_pos _ (hlen ▸ Nat.succ_pos _) h2, ← hlen]; rfl
    dsimp only at p4
    rw [hu, if_neg (Nat.lt_irrefl 0)] at p4
    rw [List.nil_append, List.map_cons, run_push_cons, p4.1, hh]
    exact ⟨rfl, p4.2⟩
  | cons e mid ih =>
    intro s le h last hs hn hl hh hall hlen h2
    obtain ⟨ed, ei, ep⟩ := hall e (List.mem_cons_self ..)
    obtain ⟨p1, p2, _, p4⟩ := newcpio_push s e hs ep hn
    rw [ed, ei, hl] at p4
    have hu : u32dec le.links = mid.length + 1 := by
      rw [u32dec_pos _ (hlen ▸ Nat.succ_pos _) h2, ← hlen]; rfl
    dsimp only at p4
    rw [hu, if_pos (Nat.succ_pos _)] at p4
    obtain ⟨r1, r2⟩ := ih (push s e).1 { le with links := mid.length + 1, held := some e } e last
      (p2.trans hs) p1 p4.2 rfl (fun x hx => hall x (List.mem_cons_of_mem _ hx)) rfl
      (by rw [← hlen] at h2; exact Nat.lt_of_succ_lt h2)
    rw [List.cons_append, List.map_cons, run_push_cons, p4.1, hh, r1]
    exact ⟨rfl, r2⟩

/-- **C17, new-cpio groups.**  Members `e₁, mid…, last` (link count = their number,
at least 2) pushed in this order come out as `e₁, mid…` marked as hard links to
`e₁`'s pathname with their size unset, followed by `last` unchanged: exactly the
last member carries the body. -/
theorem newcpio_group (s : State) (e1 last : Ent) (mid : List Ent)
    (hs : s.strategy = .newCpio) (hn : KeysNodup s.tbl) (hnone : lookup s.tbl e1.dev e1.ino = none)
    (h1 : passthrough e1 = false)
    (hall : ∀ e ∈ mid ++ [last], e.dev = e1.dev ∧ e.ino = e1.ino ∧ passthrough e = false)
    (hcount : e1.nlink = mid.length + 2) (hlt : e1.nlink < 4294967296) :
    (run s ((e1 :: (mid ++ [last])).map .push)).2 =
      (e1 :: mid).map (·.mkLink e1.tag true) ++ [last] ∧
    lookup (run s ((e1 :: (mid ++ [last])).map .push)).1.tbl e1.dev e1.ino = none := by
  obtain ⟨p1, p2, _, p4⟩ := newcpio_push s e1 hs h1 hn
  rw [hnone] at p4
  have hlinks : (LE.ofEnt e1 (some e1)).links = mid.length + 1 := by
    rw [ofEnt_links e1 _ (hcount ▸ Nat.succ_pos _) hlt, hcount]; rfl
  obtain ⟨r1, r2⟩ := newcpio_rest e1.dev e1.ino mid (push s e1).1 (LE.ofEnt e1 (some e1)) e1 last
    (p2.trans hs) p1 p4.2 rfl hall hlinks.symm (by rw [hlinks]; omega)
  rw [List.map_cons, run_push_cons, p4.1, r1]
  exact ⟨rfl, r2⟩

example :
    let e (t : Nat) : Ent := { tag := t, dev := 5, ino := 7, nlink := 3, ftype := .reg }
    (run { strategy := .newCpio } ([e 1, e 2, e 3].map .push)).2 =
      [(e 1).mkLink 1 true, (e 2).mkLink 1 true, e 3] := by decide

theorem keys_nodup_init (st : Strategy) : KeysNodup ({ strategy := st } : State).tbl := by
  simp [KeysNodup]

theorem push_keys (s : State) (e : Ent) (hn : KeysNodup s.tbl) : KeysNodup (push s e).1.tbl := by
  by_cases hp : passthrough e = true
  · rw [push_passthrough s e (.inl hp)]; exact hn
  by_cases hs : s.strategy = .oldCpio
  · rw [push_passthrough s e (.inr hs)]; exact hn
  exact (push_find? s e (by simpa using hp) hs hn).1

theorem takeNth_keys (p : LE → Bool) (tbl : List LE) (k : Nat) (hn : KeysNodup tbl) :
    ∀ x t, takeNth p tbl k = some (x, t) → KeysNodup t := fun x t h => ((takeNth_sublist p tbl k x t h).map _).nodup hn

/-- Every reachable resolver state has at most one record per (dev, ino): the
hypothesis `KeysNodup` of the group theorems is not a restriction. -/
theorem reachable_keys_nodup (st : Strategy) (ops : List Op) :
    KeysNodup (run { strategy := st } ops).1.tbl := by
  have h0 := keys_nodup_init st
  generalize ({ strategy := st } : State) = s at h0
  induction ops generalizing s with
  | nil => exact h0
  | cons op ops ih =>
    simp only [run]
    apply ih
    cases op with
    | push e => exact push_keys s e h0
    | drain k => exact ((drainAt_state s k).2.map _).nodup h0
    | partialLinks k => exact ((partialAt_state s k).2.map _).nodup h0

/-! ### The bucket layer under the flat table

`State.tbl` is a flat list; the C keeps the records in `buckets[hash & (number_buckets - 1)]` and re-chains
them in `grow_hash`.  These theorems instantiate `LA.LnkHash` (any record type, any hash) with the real record,
the real hash `(size_t)(dev ^ ino)`, the extracted initial size, and the extracted shape of the three index
computations: the bucket table is a container with exactly the flat list's contents after any insertion history
(any number of growths), and the chain walk of `find_entry` finds every record that is in it. -/

/-- `(size_t)(dev ^ ino)` on an LP64 target. -/
def leHash (le : LE) : Nat :=
  (le.dev % 18446744073709551616).toNat ^^^ (le.ino % 18446744073709551616).toNat

/-- The table of `archive_entry_linkresolver_new`. -/
def bucketsInit : LnkHash.HT LE := { nb := Gen.Limits.linksCacheInitialSize, bk := fun _ => [], n := 0 }

/-- Source-shape obligations of the bucket model (regenerated from the C on every run): `find_entry` masks with
the current `number_buckets - 1`; `insert_entry` tests `number_entries > number_buckets * 2`, grows *first* and
computes the bucket index *afterwards*; `grow_hash` doubles, re-masks every record's stored hash with the new
size, and publishes the new size. -/
theorem bucket_source_shape :
    Gen.Limits.findMasksCurrentSize = true ∧ Gen.Limits.insertGrowsBeforeIndex = true ∧
    Gen.Limits.insertGrowthTest = "res->number_entries > res->number_buckets * 2" ∧
    Gen.Limits.growDoublesAndRemasks = true := by decide +kernel

theorem bucketsInit_wf : LnkHash.WF bucketsInit leHash :=
  ⟨⟨10, by decide⟩, by intro i x hx; simp [bucketsInit] at hx⟩

theorem bucketsInit_flat : bucketsInit.flat = [] := LnkHash.flatUpTo_nil _

theorem eq_of_keysNodup (l : List LE) (hn : KeysNodup l) (a b : LE) (ha : a ∈ l) (hb : b ∈ l)
    (h : (a.dev, a.ino) = (b.dev, b.ino)) : a = b := by
  unfold KeysNodup at hn
  induction l with
  | nil => cases ha
  | cons x xs ih =>
    rw [List.map_cons, List.nodup_cons] at hn
    rcases List.mem_cons.mp ha with rfl | ha' <;> rcases List.mem_cons.mp hb with rfl | hb'
    · rfl
    · exact absurd (List.mem_map.mpr ⟨b, hb', h.symm⟩) hn.1
    · exact absurd (List.mem_map.mpr ⟨a, ha', h⟩) hn.1
    · exact ih hn.2 ha' hb'

/-- Whatever records are inserted, in whatever number (the table grows at 2049, 4097, … live records), the
bucket table holds each of them exactly once. -/
theorem buckets_no_loss_no_dup (les : List LE) :
    (LnkHash.insertAll bucketsInit leHash les).flat.Perm les.reverse := by
  have h := (LnkHash.insertAll_spec bucketsInit leHash les bucketsInit_wf).2
  simpa [bucketsInit_flat] using h

/-- …and the chain walk of `find_entry` reaches every one of them through its own (dev, ino): no record is
stranded in a chain the lookup does not visit. -/
theorem buckets_find_every_record (les : List LE) (le : LE) (hm : le ∈ les) :
    ((LnkHash.insertAll bucketsInit leHash les).find leHash (fun x => x.hasKey le.dev le.ino) (leHash le)).isSome
      = true := by
  obtain ⟨hw, hp⟩ := LnkHash.insertAll_spec bucketsInit leHash les bucketsInit_wf
  apply LnkHash.find_complete _ _ _ le hw
  · exact hp.symm.subset (by simp [hm])
  · simp [LE.hasKey]

/-- With unique keys (`reachable_keys_nodup`) the walk returns exactly the flat model's `lookup`. -/
theorem buckets_find_eq_lookup (les : List LE) (hn : KeysNodup les) (le : LE) (hm : le ∈ les) :
    (LnkHash.insertAll bucketsInit leHash les).find leHash (fun x => x.hasKey le.dev le.ino) (leHash le)
      = some le := by
  obtain ⟨hw, hp⟩ := LnkHash.insertAll_spec bucketsInit leHash les bucketsInit_wf
  apply LnkHash.find_unique _ _ _ le hw
  · exact hp.symm.subset (by simp [hm])
  · simp [LE.hasKey]
  · intro y hy _ hk
    have hy' : y ∈ les := by
      have := hp.subset hy
      simpa [bucketsInit_flat] using this
    rw [hasKey_iff] at hk
    -- two records of `les` with the same (dev, ino) are the same record
    exact eq_of_keysNodup les hn y le hy' hm hk

/-- Any history of insertions and unlinkings on the bucket table (records leave their chain when a group
completes or is drained): each record still in the table is reached by the `find_entry` walk for its own key. -/
theorem buckets_history_reachable (ops : List (LnkHash.BOp LE)) (le : LE)
    (hm : le ∈ (LnkHash.runB bucketsInit leHash ops).flat) :
    ((LnkHash.runB bucketsInit leHash ops).find leHash (fun x => x.hasKey le.dev le.ino) (leHash le)).isSome
      = true :=
  LnkHash.runB_reachable bucketsInit leHash _ ops bucketsInit_wf le hm (by simp [LE.hasKey])

/-- Non-vacuity (the growth case itself is exercised in `Lemmas/LnkHash.lean` on a 2-bucket table): three
records with negative and large keys in the initial table, the middle one is found. -/
example : (LnkHash.insertAll bucketsInit leHash
    [({ dev := -1, ino := 7, canon := 1, held := none, links := 1 } : LE),
     { dev := 5, ino := 4611686018427387904, canon := 2, held := none, links := 2 },
     { dev := 0, ino := 1031, canon := 3, held := none, links := 1 }]).find leHash
      (fun x => x.hasKey 5 4611686018427387904)
      (leHash { dev := 5, ino := 4611686018427387904, canon := 2, held := none, links := 2 })
    = some { dev := 5, ino := 4611686018427387904, canon := 2, held := none, links := 2 } := by
  decide +kernel

end LA.C17
