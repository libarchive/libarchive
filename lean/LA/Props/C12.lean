/-
C12 — disk -> archive -> disk reproduces the tree.

Property theorems over `LA.Tree` (lean/LA/Model/Tree.lean): the walk of
archive_read_disk (`capture`), the C17 link resolver (`linkify`), an abstract POSIX
tree, and archive_write_disk with deferred directory fix-ups (`restore`).  Helper
lemmas live in LA/Lemmas/Tree*.lean.
-/
import LA.Lemmas.TreeFinal
namespace LA.C12
open LA.Tree

/-! ### witnesses used by the `example`s -/

def tm (s : Int) : Time := ⟨s, 500⟩
def fileA : Inode := { ino := 10, nlink := 2, ftype := .reg, md := ⟨0o444, tm 7⟩, payload := .data ⟨3, 1, [(0, 3)]⟩ }
def linkB : Inode := { ino := 11, nlink := 1, ftype := .lnk, md := ⟨0o777, tm 8⟩, payload := .target [46, 46] }
/-- `.`(0755) ⊃ `a`(0555) ⊃ {`x` (file, 2 links), `d`(0700, empty)}, `b` = second link of `a/x`,
`c`(0777) ⊃ `s` (symlink). -/
def sample : Node :=
  .dir ⟨0o755, tm 1⟩
    (.cons [97] (.dir ⟨0o555, tm 2⟩ (.cons [120] (.leaf fileA) (.cons [100] (.dir ⟨0o700, tm 9⟩ .nil) .nil)))
    (.cons [98] (.leaf fileA)
    (.cons [99] (.dir ⟨0o777, tm 3⟩ (.cons [115] (.leaf linkB) .nil)) .nil)))

/-! ### the walk -/

/-- **Each object of the tree is visited exactly once**: whatever the `readdir` order, the entries
`archive_read_disk` hands out are a permutation of the tree's objects, and (sibling names being
distinct) no path comes twice. -/
theorem capture_visits_once (t : Node) (h : t.namesOk = true) :
    (capture t).Perm (t.objects []) ∧ ((capture t).map (·.path)).Nodup :=
  ⟨capture_perm_objects t, capture_paths_nodup t h⟩

example : sample.namesOk = true ∧ (capture sample).length = 7 := by decide +kernel

/-- A directory is handed out before anything below it. -/
theorem capture_parents_first (m : Meta) (cs : Forest) :
    ParentsOk [[]] ((capture (.dir m cs)).drop 1) := by
  simpa [capture] using capture_parents m cs

/-! ### capture -> linkify -> restore -/

/-- **Disk → archive → disk is the identity on trees** (tar link strategy, "matching
options": permissions and times restored by the owner).  For every finite tree with
consistent hard-link groups, every `readdir` order, every umask, for root and for a
non-root user extracting into a directory he may write: every entry is restored without
error and the result has the same names, and per name the same type and content, mode
and mtime — including read-only and unsearchable directories and the mtimes of
directories — and the same hard-link structure. -/
theorem restore_capture_id (t : Node) (ht : TreeOk t) (o : Opts) (ho : OptsOk o) (dstMode : Nat)
    (hdst : o.root = true ∨ (dstMode &&& 0o200 ≠ 0 ∧ dstMode &&& 0o100 ≠ 0)) :
    (∀ s ∈ (restore o dstMode (linkify .tar (capture t))).2, s = .ok) ∧
      SameTree (restore o dstMode (linkify .tar (capture t))).1 (toFS t) := by
  obtain ⟨hlk, hP, hok⟩ := restoreAll_capture t ht o ho dstMode hdst
  rw [hlk]
  simp only [restore]
  generalize restoreAll o (emptyDst dstMode) (tarSpec (capture t)) = rw at hP hok ⊢
  refine ⟨hok, ?_⟩
  obtain ⟨hnames, -, hleafs, hdirs⟩ := closeDisk_spec o rw.1 hP.closeReady
  -- a non-directory is what the entry phase left
  have hleaf : ∀ e ∈ capture t, e.ftype ≠ .dir → ∃ n, (closeDisk o rw.1).lookup e.path = some n ∧
      rw.1.fs.lookup e.path = some n ∧ n.kind = kindOf e ∧ n.mode = e.mode ∧ n.mtime = some e.mtime :=
    fun e he hd =>
      let ⟨n, hn, hk, hm⟩ := hP.seenLeaf e he hd
      ⟨n, hleafs e.path n hn (hk ▸ kindOf_ne_dir hd), hn, hk, hm⟩
  have hnd : ∀ e : Entry, e.fnode.kind ≠ .dir → e.ftype ≠ .dir := fun e hk hd => hk (kindOf_dir hd)
  refine { names := ?_, attrs := ?_, links := ?_ }
  · rw [hnames, hP.names]
    obtain ⟨r, hr, -⟩ := capture_head t
    simp [toFS, hr, Node.entry_path, List.map_map, Function.comp_def]
  · intro p x y hx hy
    obtain ⟨e, he, rfl, rfl⟩ := toFS_lookup hy
    by_cases hd : e.ftype = .dir
    · obtain ⟨n, hn, hk⟩ := hP.seenDir e he hd
      have := hdirs _ (hP.fxAll e he hd)
      rw [show (fixupOf o dstMode e).path = e.path from rfl, hn, hx] at this
      obtain rfl := Option.some.inj this
      refine ⟨hk.trans (kindOf_dir hd).symm, ?_, rfl⟩
      -- the root keeps the mode it has when the archived mode is the same; every other directory gets its own
      show (if (fixupOf o dstMode e).doMode then e.mode &&& 0o7777 else n.mode) = e.mode
      rw [mode_mask _ (ht.modes e he)]
      split
      · rfl
      · next hdo =>
        by_cases hroot : e.path = []
        · rw [hroot, hP.root] at hn
          simp only [fixupOf, hroot, if_true, ho.perm, Bool.and_true, bne_iff_ne, ne_eq, Decidable.not_not] at hdo
          rw [← Option.some.inj hn, hdo]
        · simp [fixupOf, hroot] at hdo
    · obtain ⟨n, hn, -, hk⟩ := hleaf e he hd
      rw [hn] at hx
      exact Option.some.inj hx ▸ hk
  · intro p q x x' y y' hx hx' hy hy' hyk hyk'
    obtain ⟨e, he, rfl, rfl⟩ := toFS_lookup hy
    obtain ⟨e', he', rfl, rfl⟩ := toFS_lookup hy'
    obtain ⟨n, hn, hl, -⟩ := hleaf e he (hnd e hyk)
    obtain ⟨n', hn', hl', -⟩ := hleaf e' he' (hnd e' hyk')
    rw [hn] at hx; rw [hn'] at hx'
    rw [← Option.some.inj hx, ← Option.some.inj hx']
    exact hP.inos e he e' he' (hnd e hyk) (hnd e' hyk') n n' hl hl'

/-- `TreeOk` holds of the sample tree (read-only directory, a hard-link group spanning two
directories, an empty directory, a symlink). -/
example : TreeOk sample :=
  { isDir := ⟨_, _, rfl⟩, names := by decide +kernel, leaves := by decide +kernel, modes := by decide +kernel,
    links := by decide +kernel, counts := by decide +kernel }

/-- The hypotheses of `restore_capture_id` are satisfiable by a tree with a read-only
directory, a hard-link group spanning two directories, an empty directory and a symlink;
on it the model computes what the theorem says, as root and as a non-root user. -/
example : sample.namesOk = true ∧ (∃ m cs, sample = .dir m cs) ∧
    (∀ e ∈ capture sample, e.mode < 4096) ∧
    (restore { root := false, umask := 0o077 } 0o700 (linkify .tar (capture sample))).2.all (· == .ok) = true := by
  refine ⟨by decide +kernel, ⟨_, _, rfl⟩, by decide +kernel, by decide +kernel⟩

/-! ### deferred directory fix-ups -/

/-- **Fix-ups after children.**  When a captured tree is restored, `archive_write_close` runs the
fix-up loop only after every entry has been restored (`restore` = entry phase, then
`closeDisk`), every directory of the tree has a fix-up carrying its archived mode and mtime,
and in the order `sort_dir_list` produces the fix-up of a directory comes after the fix-ups of
all directories below it.  (Together with the kernel model — creating a child touches the
parent's mtime, a non-root caller needs search permission on the way — this is why read-only
directories still receive their children and why directory mtimes survive:
`restore_capture_id`.) -/
theorem fixups_after_children (t : Node) (ht : TreeOk t) (o : Opts) (ho : OptsOk o) (dstMode : Nat)
    (hdst : o.root = true ∨ (dstMode &&& 0o200 ≠ 0 ∧ dstMode &&& 0o100 ≠ 0))
    (d c : Entry) (hd : d ∈ capture t) (hc : c ∈ capture t) (hdd : d.ftype = .dir) (hcd : c.ftype = .dir)
    (n : Name) (r : Path) (hbelow : c.path = d.path ++ n :: r) :
    let w := (restoreAll o (emptyDst dstMode) (linkify .tar (capture t))).1
    ∃ fd fc a b z, fd.path = d.path ∧ fd.mode = d.mode ∧ fd.mtime = d.mtime ∧ fd.doTimes = true ∧
      fc.path = c.path ∧ fc.mode = c.mode ∧ fc.mtime = c.mtime ∧ fc.doTimes = true ∧ fc.doMode = true ∧
      sortDir w.fixups = a ++ fc :: b ++ fd :: z := by
  obtain ⟨hlk, hP, -⟩ := restoreAll_capture t ht o ho dstMode hdst
  rw [hlk]
  obtain ⟨a, b, z, hs⟩ := fixup_order _ (fixupOf o dstMode d) (fixupOf o dstMode c) (hP.fxAll d hd hdd)
    (hP.fxAll c hc hcd) n r hbelow
  refine ⟨_, _, a, b, z, rfl, rfl, rfl, rfl, rfl, rfl, rfl, rfl, ?_, hs⟩
  have : c.path ≠ [] := by rw [hbelow]; simp
  simp [fixupOf, this]

/-- The order matters: applying the two fix-ups of `a/` (0555) and `a/d/` parent-first, a non-root
user can still fix `a/d` only because `a` keeps its search bit; with `a` = 0600 it fails, which is
what the sorted order avoids.  (A test on one tree, not a theorem.) -/
example :
    let fs : FS := [([], ⟨0, .dir, 0o700, none⟩), ([[97]], ⟨1, .dir, 0o700, none⟩), ([[97], [100]], ⟨2, .dir, 0o700, none⟩)]
    let fa : Fixup := ⟨[[97]], 0o600, tm 1, true, true⟩
    let fd : Fixup := ⟨[[97], [100]], 0o500, tm 2, true, true⟩
    ((applyFixup { root := false } (applyFixup { root := false } fs fa) fd).lookup [[97], [100]]).map (·.mode) = some 0o700 ∧
    ((applyFixup { root := false } (applyFixup { root := false } fs fd) fa).lookup [[97], [100]]).map (·.mode) = some 0o500 := by
  decide +kernel

/-! ### listing -/

/-- **`bsdtar -t` lists exactly the objects archived**: the names printed for the archive written
from a captured tree are the captured paths, in capture order — hence (with
`capture_visits_once`) each object of the tree exactly once. -/
theorem list_eq_capture (t : Node) (ht : TreeOk t) :
    listing (linkify .tar (capture t)) = (capture t).map (·.path) ∧
      (listing (linkify .tar (capture t))).Perm ((t.objects []).map (·.path)) := by
  have hes := entriesOk_of_treeOk ht
  have h1 : listing (linkify .tar (capture t)) = (capture t).map (·.path) := by
    rw [linkify_tar_eq _ hes.linkOk hes.fresh]
    exact tarSpec_paths _
  exact ⟨h1, h1 ▸ (capture_perm_objects t).map _⟩

example : listing (linkify .tar (capture sample)) =
    [[], [[97]], [[98]], [[99]], [[99], [115]], [[97], [120]], [[97], [100]]] := by decide +kernel

/-! ### cpio: the full statement is false of the code as it is -/

/-- The same statement for the cpio pipeline (`bsdcpio -o | bsdcpio -i`). -/
def CpioRoundTrip : Prop :=
  ∀ (t : Node), TreeOk t → ∀ (o : Opts), OptsOk o → ∀ (dstMode : Nat),
    (o.root = true ∨ (dstMode &&& 0o200 ≠ 0 ∧ dstMode &&& 0o100 ≠ 0)) →
    ∀ s ∈ (restore o dstMode (cpioArchive .newCpio (capture t))).2, s = .ok

def roFile : Inode := { ino := 10, nlink := 2, ftype := .reg, md := ⟨0o444, tm 7⟩, payload := .data ⟨3, 1, [(0, 3)]⟩ }
/-- `.` ⊃ {`a`, `b`}: two names of one read-only file. -/
def roLinks : Node := .dir ⟨0o755, tm 1⟩ (.cons [97] (.leaf roFile) (.cons [98] (.leaf roFile) .nil))

theorem roLinks_ok : TreeOk roLinks :=
  { isDir := ⟨_, _, rfl⟩, names := by decide +kernel, leaves := by decide +kernel, modes := by decide +kernel,
    links := by decide +kernel, counts := by decide +kernel }

/-- Witness (known finding `cpio-readonly-hardlink-nonroot`): a non-root user restoring two
names of a read-only file from a new-cpio archive — the body comes with the last name, the
file was already created empty with mode 0444, `open(O_WRONLY|O_TRUNC)` is refused. -/
theorem cpio_round_trip_false : ¬ CpioRoundTrip := by
  intro h
  have := h roLinks roLinks_ok { root := false } ⟨rfl, rfl, rfl⟩ 0o755 (Or.inr (by decide +kernel))
  revert this
  decide +kernel

set_option linter.unusedVariables false in
/-- Without hard links the cpio pipeline hands the entries through unchanged, so
`restore_capture_id` covers it. -/
theorem cpio_partial_no_links (es : List Entry) (st : Lnk.Strategy)
    (h1 : ∀ e ∈ es, e.ftype ≠ .dir → e.nlink = 1)
    (h2 : ∀ e ∈ es, e.hardlink = none ∧ e.sizeSet = true)
    (h3 : ∀ e ∈ es, e.size = e.payload.size ∧ (e.ftype ≠ .reg → e.size = 0)) :
    (cpioArchive st es).map (·.path) = es.map (·.path) ∧ ∀ e ∈ cpioArchive st es, e.hardlink = none := by
  have hpt : ∀ e ∈ es, e.pt = true := by
    intro e he
    by_cases hd : e.ftype = .dir
    · simp [Entry.pt, hd]
    · simp [Entry.pt, h1 e he hd]
  unfold cpioArchive
  rw [linkify_no_links es st hpt (fun e he => (h2 e he).1)]
  -- the cpio writer leaves path, type and link count alone and clears the hardlink field
  have hno : ∀ e ∈ es.map Entry.cpioWritten, e.nlink ≤ 1 ∨ e.ftype = .dir := by
    intro x hx
    obtain ⟨e, he, rfl⟩ := List.mem_map.mp hx
    by_cases hd : e.ftype = .dir
    · exact .inr hd
    · exact .inl (Nat.le_of_eq (h1 e he hd))
  rw [cpioReadLinks_no_links _ hno, List.map_map]
  refine ⟨List.map_congr_left fun _ _ => rfl, fun x hx => ?_⟩
  obtain ⟨e, _, rfl⟩ := List.mem_map.mp hx
  rfl

end LA.C12
