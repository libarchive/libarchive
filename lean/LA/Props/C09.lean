/-
C09 — Output is correctly blocked and write faults are always reported.

Theorems over the model of the client write layer of archive_write.c
(`LA.CW`: `archive_write_client_open/_write/_close`, the last filter of every
write pipeline) and of the memory sink (`LA.MemSink`: `memory_write`).

A *session* is one life of that layer: open with `bytes_per_block = bpb`, any
sequence of writes `ds` (the byte chunks the format/filter layer hands down),
then close with `bytes_in_last_block = bil`; it stops at the first call that
reports failure.  The client write callback is an arbitrary deterministic state
machine `W : Writer σ` started in any state `w` — every theorem is quantified
over all of them, over all block sizes, all last-block settings and all write
sequences.  An `Event` is one invocation of the callback (bytes offered, value
returned).  The filter-level results (`b64_fault_reported`, `uu_fault_reported`,
`ustar_fault_reported`) are in `LA.Props.C09Filters`.
-/
import LA.Lemmas.ClientWriteSession
import LA.Lemmas.MemSink
namespace LA.C09
open LA.CW LA.MemSink

/-- The caller's chunks as cells (caller data is initialised memory). -/
def cells (ds : List (List Nat)) : List (List Cell) := ds.map (·.map some)
/-- The byte stream the caller wrote. -/
def bytes (ds : List (List Nat)) : List Cell := ds.flatten.map some
/-- `n` zero bytes. -/
def zeros (n : Nat) : List Cell := List.replicate n (some 0)

theorem cells_flatten (ds : List (List Nat)) : (cells ds).flatten = bytes ds := by
  simp [cells, bytes, List.map_flatten]

/-- **C09, exactly once and in order.**  For every callback and every schedule of
(possibly short) positive answers: every call succeeds, close is reached, and the
concatenation of the accepted bytes is the concatenation of all writes followed
by `n` zero bytes of padding (`n = 0` or `n < bpb`). -/
theorem stream_exact {σ : Type} (W : Writer σ) (w : σ) (bpb : Nat) (bil : Int) (ds : List (List Nat))
    (hgood : ∀ e ∈ allEvents (session W w bpb bil (cells ds)).1, 0 < e.ret) :
    (∀ x ∈ (session W w bpb bil (cells ds)).1, x.1 = .ok) ∧
    (session W w bpb bil (cells ds)).1.length = ds.length + 1 ∧
    ∃ n, (n = 0 ∨ n < bpb) ∧
      taken (allEvents (session W w bpb bil (cells ds)).1) = bytes ds ++ zeros n := by
  obtain ⟨h1, ⟨n, hn, _, _, _, h5⟩, _, _⟩ := session_spec W w bpb bil (cells ds)
  have hok : ∀ x ∈ (session W w bpb bil (cells ds)).1, x.1 = .ok := by
    intro x hx
    have := h1 x hx
    cases hst : x.1 with
    | ok => rfl
    | oob => exact absurd hst this.1
    | fatal =>
      obtain ⟨e, he, hb⟩ := this.2.mp hst
      have := hgood e (mem_allEvents_iff.mpr ⟨x, hx, he⟩)
      simp only [Event.bad] at hb; omega
  have := h5 hok
  rw [cells_flatten] at this
  exact ⟨hok, by simpa [cells] using this.1, n, hn, this.2⟩

/-- Non-vacuity: a callback that takes 2 bytes, then 5, then everything; 4-byte blocks. -/
example : (∀ e ∈ allEvents (session scriptWriter [.accept 2, .accept 5] 4 (-1) (cells [[1,2,3],[4,5,6,7,8]])).1,
    0 < e.ret) ∧
    taken (allEvents (session scriptWriter [.accept 2, .accept 5] 4 (-1) (cells [[1,2,3],[4,5,6,7,8]])).1)
      = bytes [[1,2,3],[4,5,6,7,8]] ++ zeros 0 := by
  decide +kernel

/-- **C09, blocking.**  With a non-zero block size and a callback that accepts what
it is offered: the offers, concatenated, are the written bytes followed by the
zero padding the last-block rule prescribes; every offer except the last carries
exactly `bpb` bytes; the last carries `bpb` bytes when the stream is a whole
number of blocks and `lastBlockLen bpb bil r` bytes (`r` = bytes in the partial
block) otherwise.  Independent of how the writes were chunked. -/
theorem blocked {σ : Type} (W : Writer σ) (w : σ) (bpb : Nat) (bil : Int) (ds : List (List Nat))
    (hb : 0 < bpb)
    (hall : ∀ e ∈ allEvents (session W w bpb bil (cells ds)).1, e.ret = e.offer.length) :
    let offers := (allEvents (session W w bpb bil (cells ds)).1).map (·.offer)
    let r := (bytes ds).length % bpb
    offers.flatten = bytes ds ++ zeros (padLen bpb bil r) ∧
    (∀ o ∈ offers.dropLast, o.length = bpb) ∧
    (∀ o, offers.getLast? = some o → o.length = if r = 0 then bpb else lastBlockLen bpb bil r) := by
  obtain ⟨_, _, _, h4⟩ := session_spec W w bpb bil (cells ds)
  obtain ⟨wo, hwo1, hwo2, hwo3⟩ := h4 hb hall
  rw [cells_flatten] at hwo2 hwo3
  rw [hwo3]
  by_cases hr : (bytes ds).length % bpb = 0
  · simp only [hr, if_true, List.append_nil, Nat.sub_zero] at hwo2 ⊢
    refine ⟨?_, fun o ho => hwo1 o (List.dropLast_subset _ ho), ?_⟩
    · rw [hwo2, List.take_length]; simp [padLen, zeros]
    · intro o ho; exact hwo1 o (List.mem_of_getLast? ho)
  · simp only [hr, if_false]
    refine ⟨?_, ?_, ?_⟩
    · rw [List.flatten_append, hwo2]
      simp only [List.flatten_cons, List.flatten_nil, List.append_nil, zeros]
      rw [← List.append_assoc, List.take_append_drop]
    · intro o ho
      rw [List.dropLast_concat] at ho
      exact hwo1 o ho
    · intro o ho
      rw [List.getLast?_concat] at ho
      injection ho with ho; subst ho
      have hlt : (bytes ds).length % bpb < bpb := Nat.mod_lt _ hb
      have hle : (bytes ds).length % bpb ≤ (bytes ds).length := Nat.mod_le _ _
      have hge := lastBlockLen_ge bpb bil ((bytes ds).length % bpb)
      simp only [List.length_append, List.length_drop, List.length_replicate, padLen, hr, if_false]
      omega

/-- Non-vacuity: 10 bytes in three chunks, 4-byte blocks, last block rounded up to a multiple of 3. -/
example : (∀ e ∈ allEvents (session scriptWriter [] 4 3 (cells [[1,2,3],[4,5,6,7,8],[9,10]])).1,
    e.ret = e.offer.length) ∧
    (allEvents (session scriptWriter [] 4 3 (cells [[1,2,3],[4,5,6,7,8],[9,10]])).1).map (·.offer)
      = [[some 1, some 2, some 3, some 4], [some 5, some 6, some 7, some 8], [some 9, some 10, some 0]] := by
  decide +kernel

/-- **C09, block-size independence.**  The same writes through two block sizes
(any last-block settings, any two callbacks that never fail): both accepted
streams are the written bytes followed by zeros — they differ only in the
amount of trailing zero padding. -/
theorem blocksize_independent {σ τ : Type} (W : Writer σ) (w : σ) (V : Writer τ) (v : τ)
    (bpb1 bpb2 : Nat) (bil1 bil2 : Int) (ds : List (List Nat))
    (h1 : ∀ e ∈ allEvents (session W w bpb1 bil1 (cells ds)).1, 0 < e.ret)
    (h2 : ∀ e ∈ allEvents (session V v bpb2 bil2 (cells ds)).1, 0 < e.ret) :
    ∃ n1 n2, (n1 = 0 ∨ n1 < bpb1) ∧ (n2 = 0 ∨ n2 < bpb2) ∧
      taken (allEvents (session W w bpb1 bil1 (cells ds)).1) = bytes ds ++ zeros n1 ∧
      taken (allEvents (session V v bpb2 bil2 (cells ds)).1) = bytes ds ++ zeros n2 := by
  obtain ⟨_, _, n1, hn1, e1⟩ := stream_exact W w bpb1 bil1 ds h1
  obtain ⟨_, _, n2, hn2, e2⟩ := stream_exact V v bpb2 bil2 ds h2
  exact ⟨n1, n2, hn1, hn2, e1, e2⟩

/-- With a zero block size (pass-through) or `bytes_in_last_block = 1` there is no padding at all. -/
example : taken (allEvents (session scriptWriter [.accept 1] 0 (-1) (cells [[1,2,3],[4,5]])).1) =
    bytes [[1,2,3],[4,5]] ∧
    taken (allEvents (session scriptWriter [.accept 1] 4 1 (cells [[1,2,3],[4,5]])).1) =
    bytes [[1,2,3],[4,5]] := by
  decide +kernel

/-- **C09, a short write is resumed where it stopped.**  In every session (any
answers, up to the first reported failure) each offer begins exactly at the
first byte of the intended stream that the callback has not yet accepted. -/
theorem short_write_resumed {σ : Type} (W : Writer σ) (w : σ) (bpb : Nat) (bil : Int) (ds : List (List Nat)) :
    ∃ n, ∀ pre e post, allEvents (session W w bpb bil (cells ds)).1 = pre ++ e :: post →
      e.offer <+: (bytes ds ++ zeros n).drop (taken pre).length := by
  obtain ⟨_, ⟨n, _, _, h3, _, _⟩, _, _⟩ := session_spec W w bpb bil (cells ds)
  rw [cells_flatten] at h3
  refine ⟨n, fun pre e post h => ?_⟩
  rw [h] at h3
  simpa [zeros] using resumes_at h3

/-- Non-vacuity: a callback that takes one byte at a time sees 4, 3, 2, 1 bytes of the first block. -/
example : ((allEvents (session scriptWriter [.accept 1, .accept 1, .accept 1] 4 (-1) (cells [[1],[2,3,4,5]])).1).map
    (·.offer)).take 4 = [[some 1, some 2, some 3, some 4], [some 2, some 3, some 4], [some 3, some 4], [some 4]] := by
  decide +kernel

/-- **C09, write faults are always reported.**  In every session, for every
callback: a call returns fatal exactly when one of the callback invocations made
during that call returned a non-positive value — whichever invocation that is —
no call ever stores outside the copy buffer, and the bytes accepted so far are a
prefix of the written bytes (followed by padding zeros if the failure is in close). -/
theorem fault_reported {σ : Type} (W : Writer σ) (w : σ) (bpb : Nat) (bil : Int) (ds : List (List Nat)) :
    (∀ x ∈ (session W w bpb bil (cells ds)).1,
      x.1 ≠ .oob ∧ (x.1 = .fatal ↔ ∃ e ∈ x.2, e.ret ≤ 0)) ∧
    ∃ n, taken (allEvents (session W w bpb bil (cells ds)).1) <+: bytes ds ++ zeros n := by
  obtain ⟨h1, ⟨n, _, h2, _, _, _⟩, _, _⟩ := session_spec W w bpb bil (cells ds)
  rw [cells_flatten] at h2
  exact ⟨h1, n, h2⟩

/-- **C09, the n-th invocation fails — for every n.**  With the scripted callback:
if answer number `i` of the script is `zero` or `error` and the session gets as
far as invocation `i`, then that invocation is reported: the call during which it
happened returns fatal. -/
theorem fault_reported_script (sc : List Ans) (bpb : Nat) (bil : Int) (ds : List (List Nat)) (i : Nat)
    (hi : i < sc.length) (hbad : sc[i] = .zero ∨ sc[i] = .error ∨ sc[i] = .accept 0)
    (hreach : i < (allEvents (session scriptWriter sc bpb bil (cells ds)).1).length) :
    ∃ x ∈ (session scriptWriter sc bpb bil (cells ds)).1,
      (allEvents (session scriptWriter sc bpb bil (cells ds)).1)[i] ∈ x.2 ∧ x.1 = .fatal := by
  obtain ⟨h1, _, h3, _⟩ := session_spec scriptWriter sc bpb bil (cells ds)
  have hs := (Threads.script h3).2 i hreach hi
  have hret : (allEvents (session scriptWriter sc bpb bil (cells ds)).1)[i].ret ≤ 0 := by
    rw [hs]
    rcases hbad with h | h | h <;> rw [h] <;> simp [Ans.ret]
  obtain ⟨x, hx, he⟩ := mem_allEvents_iff.mp (List.getElem_mem hreach)
  exact ⟨x, hx, he, (h1 x hx).2.mpr ⟨_, he, hret⟩⟩

/-- Non-vacuity: the third invocation (the padded last block, in close) fails. -/
example : (session scriptWriter [.accept 9, .accept 2, .error] 4 (-1) (cells [[1,2,3,4,5,6,7,8,9]])).1.map (·.1)
    = [.ok, .fatal] ∧
    (allEvents (session scriptWriter [.accept 9, .accept 2, .error] 4 (-1) (cells [[1,2,3,4,5,6,7,8,9]])).1).length = 3 := by
  decide +kernel

/-! ### memory sink -/

/-- `memory_write`: a write that does not fit returns `ARCHIVE_FATAL` and changes nothing. -/
theorem memory_write_overflow (m : Mem) (d : List Cell) (h : m.used + d.length > m.size) :
    memoryWrite m d = (-30, m) := by
  simp [memoryWrite, h]

/-- **C09, memory sink.**  `archive_write_open_memory` with a caller block of
`block` cells and a declared size `size ≤ block`, any block size, last-block
setting and writes: at the end (and, the invariant being preserved by every
invocation, at every moment) `used ≤ size`, `*used` mirrors it, and no `memcpy`
left the caller's block.  An invocation that would overflow is answered with
`ARCHIVE_FATAL` without storing anything (`memory_write_overflow`), which the
call in progress reports (`fault_reported`). -/
theorem memory_sink_bounded (block size bpb : Nat) (bil : Int) (ds : List (List Nat)) (h : size ≤ block) :
    let m := (session memWriter (memOpen block size) bpb bil (cells ds)).2
    m.used ≤ size ∧ m.oob = false ∧ m.clientUsed = m.used ∧ m.size = size := by
  obtain ⟨_, _, h3, _⟩ := session_spec memWriter (memOpen block size) bpb bil (cells ds)
  have hP : ∀ (w : Mem) (o : List Cell), (MemOk w ∧ w.size = size) →
      (MemOk (memWriter.ask w o).2 ∧ (memWriter.ask w o).2.size = size) := by
    intro w o ⟨hw, hs⟩
    refine ⟨memoryWrite_ok w o hw, ?_⟩
    simp only [Writer.ask, memWriter, memoryWrite]
    split
    · exact hs
    · split <;> exact hs
  have h0 : MemOk (memOpen block size) ∧ (memOpen block size).size = size :=
    ⟨⟨by simp [memOpen], by simpa [memOpen] using h, rfl, rfl⟩, rfl⟩
  have := Threads.inv (fun m => MemOk m ∧ m.size = size) hP h3 h0
  obtain ⟨⟨a, _, c, d⟩, e⟩ := this
  rw [e] at a
  exact ⟨a, c, d, e⟩

/-- Non-vacuity: a 6-byte block receiving 9 bytes in 4-byte blocks: the second block is refused. -/
example : (session memWriter (memOpen 6 6) 4 1 (cells [[1,2,3,4,5,6,7,8,9]])).1.map (·.1) = [.fatal] ∧
    (session memWriter (memOpen 6 6) 4 1 (cells [[1,2,3,4,5,6,7,8,9]])).2.used = 4 := by
  decide +kernel

end LA.C09
