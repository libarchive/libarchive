/-
C04 — Secure extraction never touches anything outside the target directory.

First the pathname editing: `LA.PathClean.cleanup` is the in-place model of
`cleanup_pathname_fsobj`, `LA.PathClean.cleanSpec` its meaning on '/'-separated
components, `LA.PathClean.stripAbsolute` bsdtar's `strip_absolute_path` (helper
lemmas in `LA/Lemmas/PathClean.lean`).  Then the symlink check and whole
extractions over the abstract POSIX tree.
-/
import LA.Lemmas.PathClean
import LA.Lemmas.XtrConfine
import LA.Lemmas.XtrDemo
namespace LA.C04
open LA.PathClean

/-- A C string: the bytes before the terminator. -/
def NulFree (p : List Nat) : Prop := ∀ x ∈ p, x ≠ 0
instance (p : List Nat) : Decidable (NulFree p) := by unfold NulFree; infer_instance

/-- `ARCHIVE_EXTRACT_SECURE_NODOTDOT | ARCHIVE_EXTRACT_SECURE_NOABSOLUTEPATHS`. -/
def secure : Flags := { nodotdot := true, noabs := true }

/-- The in-place C loop computes the component-level meaning, for every string
and every flag set. -/
theorem cleanup_meaning (f : Flags) (p : List Nat) (hp : NulFree p) : cleanup f p = cleanSpec f p :=
  cleanup_eq_spec f p hp

/-- If `cleanup_pathname_fsobj` returns ARCHIVE_OK under NODOTDOT|NOABSOLUTEPATHS
then the rewritten path `q` is relative; it is exactly "." or all its components
are non-empty and none is "." or ".."; and it is the lexical normalisation of the
input: its components are the input's components with the empty ones and the "."
ones dropped ("." when nothing is left). -/
theorem cleanup_sound (p q : List Nat) (hp : NulFree p) (h : cleanup secure p = .ok q) :
    q.head? ≠ some SLASH ∧
    ((q = [DOT] ∧ keep (splitSlash p) = []) ∨
     (splitSlash q = keep (splitSlash p) ∧
      ∀ c ∈ splitSlash q, c ≠ [] ∧ c ≠ [DOT] ∧ c ≠ [DOT, DOT])) := by
  obtain ⟨_, _, hdd, hq⟩ := cleanup_secure_ok hp h
  rcases hq with ⟨rfl, hk⟩ | ⟨hk, rfl, hsj⟩
  · exact ⟨by decide, Or.inl ⟨rfl, hk⟩⟩
  · refine ⟨?_, Or.inr ⟨hsj, ?_⟩⟩
    · -- first component is non-empty and has no '/'
      cases hkk : keep (splitSlash p) with
      | nil => exact absurd hkk hk
      | cons c K =>
        have hm : c ∈ keep (splitSlash p) := by rw [hkk]; simp
        obtain ⟨hc1, hc2, _⟩ := keep_mem hm
        cases c with
        | nil => exact absurd rfl hc2
        | cons x c' =>
          rw [join_eq_emit]
          simp only [List.cons_append, List.head?_cons, ne_eq, Option.some.injEq]
          exact (split_clean p hp _ hc1 x (by simp)).2
    · intro c hc
      rw [hsj] at hc
      obtain ⟨h1, h2, h3⟩ := keep_mem hc
      exact ⟨h2, h3, fun e => hdd (e ▸ h1)⟩

example : cleanup secure [97, 47, 46, 47, 47, 98, 47] = .ok [97, 47, 98] := by   -- "a/.//b/" ↦ "a/b"
  rw [cleanup_eq_spec _ _ (by decide)]; decide
example : cleanup secure [46, 47, 46] = .ok [DOT] := by                           -- "./." ↦ "."
  rw [cleanup_eq_spec _ _ (by decide)]; decide

/-- Refusals, for all strings: the empty path; under NOABSOLUTEPATHS every path
that starts with '/'; under NODOTDOT every path with a ".." component, however
it is spelled (see `dotdot_spelled`: at the start or after any '/', at the end or
before any '/'). -/
theorem cleanup_rejects (f : Flags) (p : List Nat) (hp : NulFree p) :
    (p = [] → cleanup f p = .failed .empty) ∧
    (f.noabs = true → p.head? = some SLASH → cleanup f p = .failed .absolute) ∧
    (f.nodotdot = true → [DOT, DOT] ∈ splitSlash p → ∃ w, cleanup f p = .failed w) := by
  rw [cleanup_eq_spec _ _ hp]
  obtain ⟨h0, he⟩ | ⟨h0, _, _, he⟩ | ⟨h0, hna, _, _, he⟩ | ⟨h0, hna, hdd, he⟩ := cleanSpec_cases f p
  · subst h0; rw [he]; exact ⟨fun _ => rfl, fun _ h2 => (nomatch h2), fun _ _ => ⟨_, rfl⟩⟩
  · rw [he]; exact ⟨fun e => absurd e h0, fun _ _ => rfl, fun _ _ => ⟨_, rfl⟩⟩
  · rw [he]; exact ⟨fun e => absurd e h0, fun h1 h2 => absurd ⟨h2, h1⟩ hna, fun _ _ => ⟨_, rfl⟩⟩
  · exact ⟨fun e => absurd e h0, fun h1 h2 => absurd ⟨h2, h1⟩ hna,
      fun h1 h2 => absurd ⟨h1, (any_isDotDot_iff _).mpr h2⟩ hdd⟩

/-- The spelled form of `cleanup_rejects`: `a ++ ".." ++ b` with `a` empty or
ending in '/', `b` empty or starting with '/'. -/
theorem cleanup_rejects_dotdot (f : Flags) (a b : List Nat) (hf : f.nodotdot = true)
    (hp : NulFree (a ++ [DOT, DOT] ++ b))
    (ha : a = [] ∨ ∃ a', a = a' ++ [SLASH]) (hb : b = [] ∨ ∃ b', b = SLASH :: b') :
    ∃ w, cleanup f (a ++ [DOT, DOT] ++ b) = .failed w :=
  (cleanup_rejects f _ hp).2.2 hf (dotdot_spelled a b ha hb)

example : ∃ w, cleanup secure ([97, 47] ++ [DOT, DOT] ++ [47, 98]) = .failed w :=   -- "a/../b"
  cleanup_rejects_dotdot secure _ _ rfl (by decide) (Or.inr ⟨[97], rfl⟩) (Or.inr ⟨[98], rfl⟩)

/-- Nothing else is refused: a non-empty relative path without a ".." component
is accepted (so the entries that do not offend are restored). -/
theorem cleanup_accepts (p : List Nat) (hp : NulFree p) (h1 : p ≠ []) (h2 : p.head? ≠ some SLASH)
    (h3 : [DOT, DOT] ∉ splitSlash p) : ∃ q, cleanup secure p = .ok q := by
  rw [cleanup_eq_spec _ _ hp]
  unfold cleanSpec
  rw [if_neg h1, if_neg (by simp [h2]), if_neg (by rw [any_isDotDot_iff]; simp [h3]), if_neg h2]
  split <;> exact ⟨_, rfl⟩

/-- The C rewrites the string in place: the result is never longer than the input
(so the terminator is written inside the original block). -/
theorem cleanup_in_place (f : Flags) (p q : List Nat) (hp : NulFree p) (h : cleanup f p = .ok q) :
    q.length ≤ p.length := cleanup_len_le f p q hp h

/-- All reads and writes of `cleanup_pathname_fsobj` stay inside the
`strlen(path) + 1` bytes of the string. -/
theorem cleanup_no_oob (f : Flags) (p : List Nat) (hp : NulFree p) : cleanup f p ≠ .oob := by
  rw [cleanup_eq_spec _ _ hp]
  obtain ⟨_, he⟩ | ⟨_, _, _, he⟩ | ⟨_, _, _, _, he⟩ | ⟨_, _, _, he⟩ := cleanSpec_cases f p
  all_goals rw [he]; exact nofun

example : NulFree [47, 46, 46, 47, 97] ∧ cleanup ⟨false, false⟩ [47, 46, 46, 47, 97] = .ok [47, 46, 46, 47, 97] := by
  refine ⟨by decide, ?_⟩; rw [cleanup_eq_spec _ _ (by decide)]; decide

/-- bsdtar's `strip_absolute_path`: every read is inside the string (the result
is never `none`), the returned pointer is inside the string (so the result is a
suffix of the input), and what it points at starts neither with '/' or '\\' nor
with a drive-letter prefix "X:". -/
theorem strip_absolute_sound (s : List Nat) :
    ∃ k, stripAbsolute s = some k ∧ k ≤ s.length ∧ (s.drop k) <:+ s ∧
      (s.drop k).head? ≠ some SLASH ∧ (s.drop k).head? ≠ some BSLASH ∧
      ¬ (∃ c r, s.drop k = c :: 58 :: r ∧ isAlpha c = true) := by
  obtain ⟨k, h1, h2, h3, h4⟩ := stripAbsolute_spec s
  have hsep : ∀ c, isSep c = true → (s.drop k).head? ≠ some c := by
    intro c hc hh
    rw [List.head?_drop] at hh
    obtain ⟨hk, hv⟩ := List.getElem?_eq_some_iff.mp hh
    simp [tst, rd, hk] at h3
    rw [hv, hc] at h3
    cases h3
  refine ⟨k, h1, h2, List.drop_suffix k s, hsep _ (by decide), hsep _ (by decide), ?_⟩
  · rintro ⟨c, r, hd, hc⟩
    have hl : k + 1 < s.length := by
      have := congrArg List.length hd
      simp at this; omega
    have e0 : s[k]? = some c := by
      have := congrArg (·[0]?) hd; simpa using this
    have e1 : s[k + 1]? = some 58 := by
      have := congrArg (·[1]?) hd; simpa using this
    have hk : k < s.length := by omega
    obtain ⟨_, v0⟩ := List.getElem?_eq_some_iff.mp e0
    obtain ⟨_, v1⟩ := List.getElem?_eq_some_iff.mp e1
    simp [tst, rd, hk, hl, andRd] at h4
    rw [v0, hc] at h4
    simp [v1] at h4

example : ∃ k, stripAbsolute [47, 47, 63, 47, 99, 58, 47, 46, 46, 47, 120] = some k :=   -- "//?/c:/../x"
  (strip_absolute_sound _).imp fun _ h => h.1

/-! ## Symlink check and whole extractions over the abstract POSIX tree

`LA.FS` is the tree, `LA.Xtr` the model of the disk writer (programs over system
calls).  Helper lemmas: `LA/Lemmas/FS*.lean`, `LA/Lemmas/Xtr*.lean`. -/

open LA.FS LA.Xtr

/-- `check_symlinks_fsobj` under SECURE_SYMLINKS on a cleaned path `q` (the output of
`cleanup_pathname_fsobj`, other than "."): if it returns ARCHIVE_OK then, in the
file system as it is at that moment, no component of `q` is a symlink; so the kernel
resolution of every prefix of `q` goes nowhere but down from the working
directory — it ends at `cwd ++ prefix` — and stays inside the target.  The
working directory and the umask are what they were. -/
theorem check_symlinks_sound (fl : XFlags) (hsec : fl.secureSymlinks = true) (p q : List Nat) (hp : NulFree p)
    (hcl : cleanup secure p = .ok q) (hq : q ≠ [DOT]) (pr : Proc)
    (h : ((checkSymlinks fl false q).run pr).1 = .ok) :
    NoLinkAt ((checkSymlinks fl false q).run pr).2.fs pr.cwd (compsOf q) ∧
    (∀ b cs r, cs <+: compsOf q → walk ((checkSymlinks fl false q).run pr).2.fs b pr.cwd cs = .ok r →
      r = pr.cwd ++ cs ∧ pr.cwd <+: r) ∧
    ((checkSymlinks fl false q).run pr).2.cwd = pr.cwd ∧ ((checkSymlinks fl false q).run pr).2.umask = pr.umask := by
  have hg : Good q := by
    rcases nameOK_of_cleanup hp hcl with h | h
    · exact absurd h hq
    · exact h
  let c : Ctx := ⟨pr.cwd, fun _ => True, 0, pr.fs.root, pr.fs.files⟩
  have hnl := (checkSymlinks_spec c fl hsec false q hg pr).2 h
  simp only [loopTarget, Bool.false_eq_true, if_false] at hnl
  refine ⟨hnl, ?_, triple_plain (plain_checkSymlinks fl false q) (fun c _ => c = pr.cwd) pr rfl, run_umask _ pr⟩
  intro b cs r hpre hw
  have hnd : NoDots cs := fun x hx => (rel_good hg).noDots x (hpre.subset hx)
  cases walk_noLinkAt hnd (noLinkAt_prefix hpre hnl) hw
  exact ⟨rfl, List.prefix_append _ _⟩

/-- Non-vacuity: "a" in an empty target directory passes the check. -/
example : NoLinkAt ((checkSymlinks {} false [97]).run demoProc).2.fs demoProc.cwd (compsOf [97]) :=
  (check_symlinks_sound {} rfl [97] [97] (by decide) (by rw [cleanup_eq_spec _ _ (by decide)]; decide) (by decide)
    demoProc demo_check).1

/-- Entries are C strings; the confinement theorem covers pathnames shorter than PATH_MAX
(beyond that `edit_deep_directories` moves the process: see `umask_cwd_restored`, which has no such bound). -/
def EntryStrings (e : Entry) : Prop := NulFree e.path ∧ NulFree e.link ∧ e.path.length < pathMax

/-- What "nothing outside the target was touched" means for an extraction that
started in state `pr` and ended in `pr'`.  `S` is any set of inodes containing
every inode that had a name inside the target at the start. -/
structure Confined (S : Nat → Prop) (pr pr' : Proc) : Prop where
  /-- the directory tree with the target subtree cut out is identical: every
  directory outside (entries, mode, mtime) and every name outside still refers
  to what it referred to -/
  outside_tree : mask pr.cwd pr'.fs.root = mask pr.cwd pr.fs.root
  /-- every inode that had no name inside the target is identical (type, content, mode, mtime, link target) -/
  outside_inodes : ∀ i, i < pr.fs.next → ¬ S i → pr'.fs.files i = pr.fs.files i
  /-- no name inside the target refers to such an inode: no hard link to an outside object was made
  (so, with `outside_tree`, link counts of outside inodes are unchanged) -/
  no_new_links : ∀ t, get pr'.fs.root pr.cwd = some t → RefsIn (fun i => S i ∨ pr.fs.next ≤ i) t
  cwd : pr'.cwd = pr.cwd
  umask : pr'.umask = pr.umask

/-- A process about to extract: it stands in a directory, holds no descriptor,
and the inode table is consistent with the tree. -/
structure Start (S : Nat → Prop) (pr : Proc) : Prop where
  tdir : ∃ t, get pr.fs.root pr.cwd = some t ∧ t.isDir = true
  inside : ∀ t, get pr.fs.root pr.cwd = some t → RefsIn S t
  wf : WF pr.fs
  nofd : pr.fd = none ∧ pr.dfd = none ∧ pr.xfd = none

theorem sem_of_start {S : Nat → Prop} {pr : Proc} (h : Start S pr) :
    Sem ⟨pr.cwd, S, pr.fs.next, pr.fs.root, pr.fs.files⟩ [] pr := by
  refine ⟨⟨rfl, fun _ _ _ => rfl, ?_, Nat.le_refl _, h.tdir, rfl, ?_, ?_, ?_⟩, h.wf, fun _ _ => trivial⟩
  · intro t ht p ino hp; exact Or.inl (h.inside t ht p ino hp)
  · intro i hi; rw [h.nofd.1] at hi; simp at hi
  · intro d hd; rw [h.nofd.2.1] at hd; simp at hd
  · intro x hx; rw [h.nofd.2.2] at hx; simp at hx

/-- **The property** (`extract_confined`): for every finite sequence of entries of the five kinds
with arbitrary names (shorter than PATH_MAX) and link targets (hard links with or without a body), every
initial content of the file system (inside and outside the target) and every option
set with the three SECURE flags (UNLINK / NO_OVERWRITE / SAFE_WRITES / PERM / TIME on or
off), a whole extraction — every header / data / finish_entry and the deferred fix-ups
at close — touches nothing outside the directory it started in: the tree outside, every
inode without a name inside, and the links across the boundary are identical afterwards;
the working directory and the umask are unchanged. -/
theorem extract_confined (fl : XFlags) (es : List Entry) (S : Nat → Prop) (pr : Proc)
    (hfl : SecureFlags fl) (hes : ∀ e ∈ es, EntryStrings e) (hst : Start S pr) :
    Confined S pr ((extractArchive fl es).run pr).2 := by
  have h0 := sem_of_start hst
  have := extractArchive_spec ⟨pr.cwd, S, pr.fs.next, pr.fs.root, pr.fs.files⟩ fl hfl es
    (fun e he => hes e he) pr h0
  exact ⟨this.inv.tree, this.inv.files, this.inv.refs, this.inv.cwd, run_umask _ pr⟩

/-- Non-vacuity: the hypotheses hold for a sequence that plants a symlink to the outside, writes and
hard-links through it, queues a fix-up for "d/." and then replaces "d" by a symlink to "/". -/
example : Confined (fun _ => False) demoProc
    ((extractArchive {} [
        { kind := .symlink, path := [115], link := [46, 46] },                 -- s -> ..
        { kind := .file, path := [115, 47, 111], data := [112] },              -- s/o
        { kind := .hardlink, path := [104], link := [115, 47, 111], data := [100] },  -- h => s/o, with a body
        { kind := .dir, path := [100, 47, 46], mode := 448 },                  -- d/.
        { kind := .symlink, path := [100], link := [47] } ]).run demoProc).2 :=
  extract_confined {} _ _ demoProc ⟨rfl, rfl, rfl⟩
    (by intro e he; simp at he; rcases he with rfl | rfl | rfl | rfl | rfl <;> exact ⟨by decide, by decide, by decide⟩)
    ⟨demo_tdir, demo_inside _, demo_wf, ⟨rfl, rfl, rfl⟩⟩

/-- Offending names are refused with ARCHIVE_FAILED, never ARCHIVE_FATAL, without a
single system call; the writer is left ready for the next entry. -/
theorem refused_not_fatal (w : Writer) (e : Entry) (pr : Proc) (hfl : SecureFlags w.flags) (hp : NulFree e.path)
    (hbad : e.path = [] ∨ e.path.head? = some SLASH ∨ [DOT, DOT] ∈ splitSlash e.path) :
    (header w e).run pr = ((.failed, { w with cur := none }), pr) := by
  have hrej : ∃ x, cleanup w.flags.clean e.path = .failed x := by
    rw [clean_secure hfl]
    obtain ⟨h1, h2, h3⟩ := cleanup_rejects { nodotdot := true, noabs := true } e.path hp
    rcases hbad with h | h | h
    · exact ⟨_, h1 h⟩
    · exact ⟨_, h2 rfl h⟩
    · exact h3 rfl h
  obtain ⟨x, hx⟩ := hrej
  unfold header
  simp only [hx]
  rfl

example : (header { flags := {} } { kind := .file, path := [46, 46, 47, 120] }).run demoProc   -- "../x"
    = ((.failed, { flags := {}, cur := none }), demoProc) :=
  refused_not_fatal _ _ _ ⟨rfl, rfl, rfl⟩ (by decide) (Or.inr (Or.inr (by decide)))

/-- The process working directory and umask are the same after every call of the writer
API as before it — for entries with pathnames of ANY length, PATH_MAX and beyond included
(`edit_deep_directories` `chdir()`s into intermediate directories and `fchdir()`s back before
`archive_write_header` returns), for every file-system state and every option set.  `EnvOK X pr`:
the process stands in `X` and holds no left-over `restore_pwd` descriptor. -/
theorem umask_cwd_restored (X : List Name) (w : Writer) (e : Entry) (d : List Nat) (pr : Proc) (h : EnvOK X pr) :
    (EnvOK X ((header w e).run pr).2 ∧ ((header w e).run pr).2.umask = pr.umask) ∧
    (EnvOK X ((writeData w d).run pr).2 ∧ ((writeData w d).run pr).2.umask = pr.umask) ∧
    (EnvOK X ((finishEntry w).run pr).2 ∧ ((finishEntry w).run pr).2.umask = pr.umask) ∧
    (EnvOK X ((close w).run pr).2 ∧ ((close w).run pr).2.umask = pr.umask) :=
  ⟨⟨header_env X w e pr h, run_umask _ pr⟩, ⟨envOK_plain (plain_writeData w d) pr h, run_umask _ pr⟩,
   ⟨envOK_plain (plain_finishEntry w) pr h, run_umask _ pr⟩, ⟨close_env X w pr h, run_umask _ pr⟩⟩

/-- … and after a whole extraction, whatever the entries. -/
theorem extract_cwd_umask (fl : XFlags) (es : List Entry) (pr : Proc) (h : pr.rfd = none) :
    ((extractArchive fl es).run pr).2.cwd = pr.cwd ∧ ((extractArchive fl es).run pr).2.umask = pr.umask :=
  ⟨(extractArchive_env pr.cwd fl es pr ⟨rfl, h⟩).1, run_umask _ pr⟩

example : EnvOK demoProc.cwd demoProc := ⟨rfl, rfl⟩

end LA.C04
