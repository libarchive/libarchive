/-
C07 — Any call sequence on a handle is safe; illegal order fails fatally.
Property theorems over `LA.Handle` (model of archive_check_magic.c,
archive_virtual.c and the life-cycle entry points of archive_read.c,
archive_write.c, archive_write_disk_posix.c, archive_read_disk_posix.c,
archive_match.c).  Helper lemmas live in `LA/Lemmas/Handle.lean` and
`LA/Lemmas/HandleInv.lean`.

The allowed-state masks come from `LA.Gen.ApiStates.sites`, regenerated from the
C on every run.  Theorems that are generic in the table take the site as a
hypothesis; facts about the *current* table are proved by evaluation (`decide`)
and are marked "table fact" — they are re-checked against each regenerated table.
-/
import LA.Lemmas.HandleInv
namespace LA.C07
open LA.Handle LA.Gen.ApiStates

/-! ## The table -/

/-- The calls that are *not* refused on a failed handle, per kind: computed from
the table as the functions whose mask contains the FATAL bit. -/
def exempt (k : Kind) : List String :=
  ((sites.filter fun s => s.kind == k && allowed .fatal s.mask).map (·.func)).eraseDups

/-- Table fact: the exempt set is exactly close and free, for every kind. -/
theorem exempt_read : exempt .read = ["_archive_read_close", "_archive_read_free"] := by decide +kernel
theorem exempt_write : exempt .write = ["_archive_write_close", "_archive_write_free"] := by decide +kernel
theorem exempt_writeDisk :
    exempt .writeDisk = ["_archive_write_disk_close", "_archive_write_disk_free"] := by decide +kernel
theorem exempt_readDisk : exempt .readDisk = ["_archive_read_close", "_archive_read_free"] := by decide +kernel
theorem exempt_match : exempt .«match» = ["archive_match_free"] := by decide +kernel

/-! ## illegal_is_fatal -/

/-- The first `archive_check_magic` a call goes through (none: the call has no
check of its own — error accessors, `archive_write_fail`, `archive_read_data`). -/
def firstCheck (k : Kind) : Op → Option String
  | .plain f | .wSetFormat f | .wAddFilter f => some f
  | .lookup pre _ => some pre
  | .rOpen (some w) _ => some w
  | .rOpen none true | .rSetReader => some "archive_read_set_read_callback"
  | .rOpen none false => some "archive_read_open1"
  | .rNextHeader => some "_archive_read_next_header2"
  | .rReadDataBlock => some "_archive_read_data_block"
  | .rDataSkip => some "archive_read_data_skip"
  | .rSeekData => some "archive_seek_data"
  | .wOpen (some w) => some w
  | .wOpen none => some "archive_write_open2"
  | .wHeader => some "_archive_write_header"
  | .wData => some "_archive_write_data"
  | .wFinishEntry => some "_archive_write_finish_entry"
  | .dHeader => some "_archive_write_disk_header"
  | .dData => some "_archive_write_disk_data"
  | .dDataBlock => some "_archive_write_disk_data_block"
  | .dFinishEntry => some "_archive_write_disk_finish_entry"
  | .kOpen => some "archive_read_disk_open"
  | .kNextHeader => some "_archive_read_next_header2"
  | .kReadDataBlock => some "_archive_read_data_block"
  | .close => match k with
    | .read | .readDisk => some "_archive_read_close"
    | .write => some "_archive_write_close"
    | .writeDisk => some "_archive_write_disk_close"
    | .«match» => none
  | .free => match k with
    | .read | .readDisk => some "_archive_read_free"
    | .write => some "_archive_write_free"
    | .writeDisk => some "_archive_write_disk_free"
    | .«match» => some "archive_match_free"
  | .unchecked | .fail | .rReadData => none

/-- Table fact used below: the reader's `archive_read_open1` is refused on a failed handle. -/
theorem open1_refuses_fatal :
    ∃ s, siteOf .read "archive_read_open1" = some s ∧ allowed .fatal s.mask = false :=
  let ⟨s, hs, hm⟩ := siteOf_of_mask tbl_read_archive_read_open1
  ⟨s, hs, by rw [hm]; rfl⟩

/-- **illegal_is_fatal.**  A call whose entry check does not allow the handle's
current state returns ARCHIVE_FATAL, leaves the handle in the FATAL state and
touches nothing else — for every handle, every call, every lower-layer outcome,
and whatever the mask in the table is. -/
theorem illegal_is_fatal (h : Handle) (op : Op) (o : Outcome) (f : String) (s : Site)
    (halive : h.alive = true) (hb : op.belongs h.kind = true)
    (hf : firstCheck h.kind op = some f) (hs : siteOf h.kind f = some s)
    (hbad : allowed h.st s.mask = false) :
    step h op o = ({ h with st := .fatal }, .fatal) := by
  rw [step_core h op o halive hb]
  have hr : ∀ body, checked h f body = ({ h with st := .fatal }, .fatal) :=
    fun _ => checked_refused hs hbad
  -- `stepCore` unfolds to the first check applied to the rest of the call
  cases op with
  | rOpen w reg =>
    cases w with
    | some w => cases hf; apply hr
    | none =>
      cases reg with
      | false => cases hf; apply hr
      | true =>
        -- the callback setter is refused, and then so is `open1` on the failed handle
        cases hf
        obtain ⟨t, ht, hta⟩ := open1_refuses_fatal
        simp only [stepCore, if_true, hr]
        refine checked_refused (h := { h with st := .fatal }) ?_ hta
        rw [show h.kind = .read from eq_of_beq hb]
        exact ht
  | close | free =>
    -- the result is named first, so that the case split on `h.kind` leaves `hr` in step with the goal
    generalize ({ h with st := St.fatal }, Rc.fatal) = r at hr ⊢
    simp only [stepCore]
    revert hf
    cases h.kind
    all_goals
      intro hf
      cases hf <;> apply hr
  | wOpen w => cases w <;> cases hf <;> apply hr
  | _ => cases hf <;> apply hr

/-! ## fatal_absorbing -/

/-- The calls that a failed handle refuses: every call with an entry check,
except close and free.  Where the op carries a C function name, that name must
not be one of the functions the table lets through in the FATAL state
(`acceptFatal` = close/free of the five kinds, see `acceptFatal_eq`). -/
def refusedWhenFailed : Op → Bool
  | .unchecked | .fail | .close | .free => false
  | .plain f | .wSetFormat f | .wAddFilter f => !acceptFatal.contains f
  | .lookup pre _ => !acceptFatal.contains pre
  | .rOpen (some w) _ | .wOpen (some w) => !acceptFatal.contains w
  | _ => true

/-- **fatal_absorbing.**  On a failed handle every call other than the error
accessors, `archive_write_fail`, close and free returns ARCHIVE_FATAL and leaves
the handle exactly as it was (state FATAL, nothing acquired or released) — for
every outcome of the lower layers.  (`nosite` only for a function name the table
does not know for this handle kind.) -/
theorem fatal_absorbing (h : Handle) (op : Op) (o : Outcome)
    (halive : h.alive = true) (hb : op.belongs h.kind = true) (hst : h.st = .fatal)
    (hop : refusedWhenFailed op = true) :
    step h op o = (h, .fatal) ∨ step h op o = (h, .nosite) := by
  rw [step_core h op o halive hb]
  -- a check of a function outside `acceptFatal` is refused on the failed handle and changes nothing
  have refused : ∀ (f : String) body, f ∉ acceptFatal →
      checked h f body = (h, .fatal) ∨ checked h f body = (h, .nosite) := fun _ _ => checked_fatal hst
  -- a function name carried by the call is outside it by assumption
  have named : ∀ f, (!acceptFatal.contains f) = true → f ∉ acceptFatal := fun f hc hm => by
    rw [List.contains_iff_mem.mpr hm] at hc
    cases hc
  cases op with
  | unchecked | fail | close | free => cases hop
  | plain f | wSetFormat f | wAddFilter f => apply refused f _ (named f hop)
  | lookup pre st => apply refused pre _ (named pre hop)
  | rOpen w reg =>
    cases w with
    | some w => apply refused w _ (named w hop)
    | none =>
      cases reg with
      | false => apply refused _ _ (by simp [acceptFatal_eq])
      | true =>
        -- refused or unknown, the callback setter leaves the handle as it was; then `open1` is refused
        have h1 := refused "archive_read_set_read_callback" (fun h => ({ h with hasReader := true }, Rc.ok))
          (by simp [acceptFatal_eq])
        simp only [stepCore, if_true]
        rw [show (checked h "archive_read_set_read_callback" _).1 = h by rcases h1 with e | e <;> rw [e]]
        apply refused _ _ (by simp [acceptFatal_eq])
  | wOpen w =>
    cases w with
    | some w => apply refused w _ (named w hop)
    | none => apply refused _ _ (by simp [acceptFatal_eq])
  | rReadData =>
    simp only [stepCore, hst, show (St.fatal == St.data) = false from rfl, Bool.and_false,
      Bool.false_eq_true, if_false]
    apply refused _ _ (by simp [acceptFatal_eq])
  -- every other call begins with the check of a fixed function, none of them close or free
  | _ => apply refused _ _ (by simp [acceptFatal_eq])

/-! ## close_idempotent, free_from_any_state -/

/-- close twice = close once, as a statement about one handle and two outcomes. -/
abbrev CloseIdem (h : Handle) (o1 o2 : Outcome) : Prop :=
  (step (step h .close o1).1 .close o2).1 = (step h .close o1).1

/-- Full strength: for every live handle and all outcomes. -/
def CloseIdempotent : Prop := ∀ h o1 o2, h.alive = true → CloseIdem h o1 o2

/-- The full statement is false of the disk writer: when `finish_entry` leaves
through one of its error exits (`close_file_descriptor(a); return (ret);`) the
handle stays in the DATA state with `a->entry` still set, and a second close
finishes that entry after all (state HEADER, entry released).  Witness: a disk
writer with an entry open, first close with the error exit, second without. -/
theorem closeIdempotent_false : ¬ CloseIdempotent := by
  intro hc
  have := hc (run (new .writeDisk) [(.dHeader, { flag := true })]).1 { alt := 2, rc2 := .failed } {} (by decide +kernel)
  revert this
  decide +kernel

/-- What `closeIdempotent_false` shows is the only exception: the disk writer's
first close took an error exit of `finish_entry` (`o1.alt = 2` in DATA). -/
def ErrorExitOfFinish (h : Handle) (o1 : Outcome) : Prop :=
  h.kind = .writeDisk ∧ h.st = .data ∧ o1.alt = 2

/-- The states a disk writer can be in (it is created in HEADER, and no call of
its own leads to NEW, EOF or CLOSED; `wdisk_states` below). -/
def DiskState (h : Handle) : Prop :=
  h.kind = .writeDisk → (h.st = .header ∨ h.st = .data ∨ h.st = .fatal)

/-- **close_idempotent** (`_partial`: excludes the error exit named above).  A
second close changes nothing — same state, same ledger, no callback runs again —
from every state a handle can be in (`DiskState`), for every outcome of the lower layers. -/
theorem close_idempotent_partial (h : Handle) (o1 o2 : Outcome) (halive : h.alive = true)
    (hds : DiskState h) (hne : ¬ ErrorExitOfFinish h o1) :
    CloseIdem h o1 o2 := by
  unfold CloseIdem
  -- a freed handle is left alone by the second call; on a live one it is a close again
  refine step_ind (P := fun p => p.1 = (step h .close o1).1) _ .close o2 rfl rfl fun _ _ => ?_
  rw [step_close h o1 halive]
  cases hk : h.kind with
  | «match» => simp only [stepCore, hk]
  | read =>
    simp only [stepCore, (rClose_kind o1 h).trans hk]
    exact rClose_idem o1 o2 h hk
  | write =>
    simp only [stepCore, (wClose_kind o1 h).trans hk]
    exact wClose_idem o1 o2 h hk
  | readDisk =>
    simp only [stepCore, (kClose_kind h).trans hk]
    exact kClose_idem h hk
  | writeDisk =>
    simp only [stepCore, (dClose_kind o1 h).trans hk]
    exact dClose_idem o1 o2 h hk (hds hk) fun ⟨hd, ha⟩ => hne ⟨hk, hd, ha⟩

example : CloseIdem (run (new .read) [(.plain "archive_read_support_format_all", {}),
    (.rOpen none true, { n := 2 }), (.rNextHeader, {})]).1 { rc2 := .warn } {} := by decide +kernel

/-- **free_from_any_state.**  `free` is accepted in every state — NEW, HEADER,
DATA, EOF, CLOSED and FATAL alike, whatever the handle owns — for all five
kinds: the struct is gone afterwards (and the call was not refused). -/
theorem free_from_any_state (h : Handle) (o : Outcome) (halive : h.alive = true) :
    (step h .free o).1.alive = false := by
  rw [step_core h .free o halive rfl]
  simp only [stepCore]
  split
  · next hk => simp [rFree, checked_k hk tbl_read_archive_read_free]
  · next hk => simp [wFree, checked_k hk tbl_write_archive_write_free]
  · next hk => simp [dFree, checked_k hk tbl_writeDisk_archive_write_disk_free]
  · next hk => simp [kFree, checked_k hk tbl_readDisk_archive_read_free]
  · next hk => simp [checked_k hk tbl_match_archive_match_free]

/-- **close_accepted.**  `close` is not refused in any state a handle can be in
(every state for readers, writers and disk readers; HEADER/DATA/FATAL for the
disk writer, which has no others): it never turns a handle FATAL. -/
theorem close_accepted (h : Handle) (o : Outcome) (halive : h.alive = true) (hds : DiskState h)
    (hst : h.st ≠ .fatal) : (step h .close o).1.st ≠ .fatal := by
  rw [step_close h o halive]
  cases hk : h.kind with
  | read =>
    simp only
    rw [rClose_fst o h hk]
    split
    · exact hst
    · simp
  | write =>
    simp only
    rw [wClose_fst o h hk]
    by_cases h1 : h.st = .new ∨ h.st = .closed <;> simp [h1, hst]
  | writeDisk =>
    simp only
    rw [dClose_fst o h hk]
    rcases hds hk with h1 | h1 | h1
    · simp [h1]
    · simp [h1]
      split <;> simp
    · exact absurd h1 hst
  | readDisk =>
    simp only
    rw [kClose_fst h hk]
    simp [hst]
  | «match» => simpa using hst

example : (step (new .writeDisk) .free {}).1.alive = false := by decide +kernel

/-! ## no_entry_after_eof_or_fatal (reader) -/

/-- **no_entry_after_eof_or_fatal.**  Once `archive_read_next_header` has
returned ARCHIVE_EOF or ARCHIVE_FATAL, no later `next_header` on that reader
returns an entry (OK or WARN) — for every continuation of calls (including
close, re-open attempts, free) and every outcome of the lower layers. -/
theorem no_entry_after_eof_or_fatal (h : Handle) (hk : h.kind = .read) (halive : h.alive = true)
    (o : Outcome) (hr : (step h .rNextHeader o).2 = .eof ∨ (step h .rNextHeader o).2 = .fatal)
    (rest : List (Op × Outcome)) :
    yields rest (run (step h .rNextHeader o).1 rest).2 = false :=
  ended_never_yields rest _ (by rw [step_kind]; exact hk) (next_header_ends h hk halive o hr)

/-- A failed reader (state FATAL, however it got there) never yields an entry again. -/
theorem no_entry_after_failure (h : Handle) (hk : h.kind = .read) (hf : h.st = .fatal)
    (rest : List (Op × Outcome)) : yields rest (run h rest).2 = false :=
  ended_never_yields rest h hk (Or.inr (Or.inr hf))

example : let h := (run (new .read) [(.plain "archive_read_support_format_all", {}),
      (.rOpen none true, {}), (.rNextHeader, {})]).1
    (step h .rNextHeader { rc := .eof }).2 = .eof ∧ h.st = .data := by decide +kernel

/-! ## released_exactly_once -/

/-- Full strength: after `free`, whatever came before, nothing is left, nothing
was released twice, nothing was dropped. -/
def ReleasedExactlyOnce : Prop :=
  ∀ (k : Kind) (hist : List (Op × Outcome)) (o : Outcome), Clean (step (run (new k) hist).1 .free o).1

/-- The full statement is false: a writer whose format allocated a per-entry
compressor in `write_header` (zip: one deflate stream per regular file) and that
is failed before `finish_entry` ran never releases it — `close` skips
`finish_entry` in the FATAL state and the format's `free` does not know about it.
Witness: set_format, open, write_header (compressor allocated), fail, free. -/
theorem releasedExactlyOnce_false : ¬ ReleasedExactlyOnce := by
  intro hr
  have := hr .write [(.wSetFormat "archive_write_set_format_zip", {}), (.wOpen none, { n := 1 }),
    (.wHeader, { flag := true }), (.fail, {})] {}
  revert this
  decide +kernel

/-- **released_exactly_once** (`_partial`: excludes formats with a per-entry
compressor, see `releasedExactlyOnce_false`).  For every handle kind and every
history of calls — any order, repeated, after errors, with any lower-layer
outcomes, including earlier frees — `free` leaves the ledger empty (handle,
registered blocks, filter objects and their open state, the client's stream or
data, the entry clone and descriptor, the fix-up list, the directory tree and
its handles), and no resource was released twice or dropped along the way. -/
theorem released_exactly_once_partial (k : Kind) (hist : List (Op × Outcome)) (o : Outcome)
    (hn : NoEntryCompressor hist) : Clean (step (run (new k) hist).1 .free o).1 := by
  rcases good_run hist (new k) (Or.inl (inv_new k)) hn with hi | hc
  · exact free_clean _ o hi
  · rw [clean_dead _ hc]; exact hc

/-- Nothing is released twice or dropped at any point of any history (not only at the end). -/
theorem never_double_release (k : Kind) (hist : List (Op × Outcome)) (hn : NoEntryCompressor hist) :
    (run (new k) hist).1.bad = 0 ∧ (run (new k) hist).1.lost = 0 := by
  rcases good_run hist (new k) (Or.inl (inv_new k)) hn with hi | hc
  · exact ⟨hi.2.1, hi.2.2.1⟩
  · exact ⟨hc.2.1, hc.2.2⟩

/-- The disk writer is only ever in HEADER, DATA or FATAL: the hypothesis `DiskState` of
`close_idempotent_partial` and `close_accepted` holds along every history. -/
theorem wdisk_states (hist : List (Op × Outcome)) (hn : NoEntryCompressor hist)
    (ha : (run (new .writeDisk) hist).1.alive = true) : DiskState (run (new .writeDisk) hist).1 := by
  intro hk
  rcases good_run hist (new .writeDisk) (Or.inl (inv_new _)) hn with hi | hc
  · exact hi.disk_st hk
  · have := ((clean_iff _).mp hc).1
    rw [ha] at this
    cases this

example : NoEntryCompressor [(.dHeader, { flag := true, n := 2 }), (.fail, {})] := by
  intro p hp
  simp at hp
  rcases hp with rfl | rfl <;> simp

example : Clean (step (run (new .writeDisk) [(.dHeader, { flag := true, n := 2 }), (.fail, {})]).1 .free {}).1 := by
  decide +kernel

end LA.C07
