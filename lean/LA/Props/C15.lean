/-
C15 — ACLs survive conversion to text and back.

Property theorems over `LA.Acl` (model of libarchive/archive_acl.c: `archive_acl_to_text_l` /
`_w`, `archive_acl_text_len`, `archive_acl_from_text_nl` / `_w`, `archive_acl_add_entry*`).
Helper lemmas live in `LA/Lemmas/Acl.lean`.  `wide = false` is the `char` copy of the code,
`wide = true` the `wchar_t` copy; every theorem is for both.

Hypotheses that recur:
* `WF acl` — what `archive_acl_add_entry` builds (`wf_reachable` below): entries of one family
  whose type is one of the six ACL types, C `int` ids, no mode-mapped ACCESS entry in the list,
  no two POSIX.1e entries with the same key, `acl_types` the OR of the entry types.
* `QualProp e` — the quantifier of the property: a user/group entry has an id in 0..2^31-1 (a
  named one may also have none) and a name free of colon, comma and white space, not purely
  numeric (and, being a C string, free of NUL); the other tags carry no qualifier.
* `hasFlag flags styleExtraId` — "a style that includes ids".
-/
import LA.Lemmas.Acl
namespace LA.C15
open LA.Acl LA.Gen.AclMaps

/-! ## Table lemmas (re-checked against the regenerated `Gen/AclMaps` on every run) -/

/-- The characters of each NFSv4 map are distinct, and so are the bits. -/
theorem map_chars_and_bits_distinct :
    (permMap.map (·.2)).Nodup ∧ (flagMap.map (·.2)).Nodup ∧
    (permMap.map (·.1)).Nodup ∧ (flagMap.map (·.1)).Nodup := by decide

/-- Every map entry is a single bit, the parser's `switch` maps its character back to exactly
that bit, and `-` is accepted without setting anything — for all four (map, switch) pairs. -/
theorem maps_agree_with_parser :
    MapOK permMap permParse ∧ MapOK permMapW permParseW ∧
    MapOK flagMap flagParse ∧ MapOK flagMapW flagParseW := maps_ok

/-- The maps cover exactly `ARCHIVE_ENTRY_ACL_PERMS_NFS4` and `..._INHERITANCE_NFS4`. -/
theorem maps_cover_the_masks :
    maskOf permMap = permsNfs4 ∧ maskOf permMapW = permsNfs4 ∧
    maskOf flagMap = inheritanceNfs4 ∧ maskOf flagMapW = inheritanceNfs4 := masks

/-- The `char` and the `wchar_t` tables are the same tables. -/
theorem narrow_and_wide_tables_equal :
    permMap = permMapW ∧ flagMap = flagMapW ∧ modeParse = modeParseW ∧
    permParse = permParseW ∧ flagParse = flagParseW := by decide

/-- No map character is one the text form reserves (NUL, blank, tab, newline, `,` `:` `#`). -/
theorem map_chars_not_reserved :
    (∀ x ∈ permMap, CleanCh x.2) ∧ (∀ x ∈ permMapW, CleanCh x.2) ∧
    (∀ x ∈ flagMap, CleanCh x.2) ∧ (∀ x ∈ flagMapW, CleanCh x.2) := maps_clean

/-- Tags are pairwise different; the six types are different single bits. -/
theorem tags_and_types_distinct :
    [tagUser, tagUserObj, tagGroup, tagGroupObj, tagMask, tagOther, tagEveryone].Nodup ∧
    [typeAccess, typeDefault, typeAllow, typeDeny, typeAudit, typeAlarm] = [256, 512, 1024, 2048, 4096, 8192] ∧
    typePosix1e = typeAccess ||| typeDefault ∧
    typeNfs4 = typeAllow ||| typeDeny ||| typeAudit ||| typeAlarm := by decide

/-! ## `text_len_sufficient` -/

/-- For every ACL whose entries are ones `acl_new_entry` admits (`EntryWF`: one of the six types,
a tag that goes with it, a C `int` id), every flag word and both variants, the text
`archive_acl_to_text_*` writes plus its terminator fits in what `archive_acl_text_len` computed:
the "Buffer overrun" abort, and the write past the allocation that would precede it, are
unreachable. -/
theorem text_len_sufficient (wide : Bool) (acl : Acl) (flags : Nat)
    (hwf : ∀ e ∈ acl.entries, EntryWF e) (t : List Ch) :
    toText wide acl flags ≠ .overrun t :=
  toText_no_overrun wide acl flags hwf t

/-- The same as an inequality on the two quantities of the C. -/
theorem text_len_inequality (wide : Bool) (acl : Acl) (flags : Nat)
    (hwf : ∀ e ∈ acl.entries, EntryWF e)
    (hne : textLen acl (textWantType acl flags) (textFlags (textWantType acl flags) flags) ≠ 0)
    (hw : textWantType acl flags ≠ 0) :
    (textBody wide acl (textWantType acl flags) (textFlags (textWantType acl flags) flags)).length + 1 ≤
      textLen acl (textWantType acl flags) (textFlags (textWantType acl flags) flags) := by
  apply textBody_length wide acl _ _ _ hwf hne
  rcases textWantType_cases acl flags with h | h
  · exact (hw h).elim
  · exact h

/-- Before the repair (`fix: ACL text length did not count the ID …`) the bound was false: an
unnamed NFSv4 group entry with a nine-digit id, style without EXTRA_ID, needs 55 characters
where `archive_acl_text_len` without the unconditional id field gives 49.  With the repaired
computation the bound holds for this ACL as for every other. -/
example : EntryWF ⟨typeAlarm, tagGroup, 0, 564742899, []⟩ :=
  ⟨by decide, by decide, by decide, by decide, by decide⟩

/-! ## Well-formed ACLs are the reachable ones -/

/-- The empty ACL is well-formed and `archive_acl_add_entry` keeps an ACL well-formed, whatever
type, tag, permset, C `int` id and name it is given (what does not fit is refused and changes
nothing): every ACL the API can build satisfies `WF`. -/
theorem wf_reachable :
    WF {} ∧
    ∀ (acl : Acl) (ty pm tg : Nat) (id : Int) (nm : List Ch), WF acl →
      -2147483648 ≤ id ∧ id ≤ 2147483647 → WF (addEntry acl ty pm tg id nm).1 :=
  ⟨WF_empty, fun acl ty pm tg id nm hwf hid => addEntry_WF acl hwf ty pm tg id nm hid⟩

example : WF (addEntry (addEntry {} typeDefault 7 tagUser 1000 (str "bob")).1 (typeAllow ||| typeDeny) 5 tagMask (-1) []).1 :=
  wf_reachable.2 _ _ _ _ _ _ (wf_reachable.2 _ _ _ _ _ _ wf_reachable.1 (by decide)) (by decide)

/-! ## `entry_roundtrip` -/

/-- A POSIX.1e entry printed with ids (any of prefix / Solaris / separator styles), followed by
an entry separator or the end of the text, is read back by the parser loop as the call
`archive_acl_add_entry(type, permset, tag, id, name)` with exactly its own fields (an entry
without a name comes back named by its id), after which the loop goes on with the rest. -/
theorem entry_roundtrip_posix (wide : Bool) (flags wantType : Nat) (e : Entry) (tl rest : List Ch)
    (o : ParseOut) (hwf : EntryWF e) (hq : QualOK e) (hp : IsPosix e.type)
    (hx : hasFlag flags styleExtraId = true)
    (hwant : wantType = typeAccess ∨ wantType = typeDefault)
    (hty : e.type = wantType ∨ (e.type = typeDefault ∧ hasFlag flags styleMarkDefault = true))
    (hend : EntryEnd wide tl rest) :
    parseLoop wide wantType (entryText wide flags e ++ tl) o =
      afterAdd wide wantType rest o e.type e.permset e.tag e.id (rtName e) :=
  posix_entry_parses wide flags wantType e hwf hq hp hx hwant hty tl rest o hend

/-- The same for an NFSv4 entry (compact or not). -/
theorem entry_roundtrip_nfs4 (wide : Bool) (flags : Nat) (e : Entry) (tl rest : List Ch)
    (o : ParseOut) (hwf : EntryWF e) (hq : QualOK e) (hn : IsNfs4 e.type)
    (hx : hasFlag flags styleExtraId = true) (hend : EntryEnd wide tl rest) :
    parseLoop wide typeNfs4 (entryText wide flags e ++ tl) o =
      afterAdd wide typeNfs4 rest o e.type e.permset e.tag e.id (rtName e) :=
  nfs4_text_parses wide flags e hwf hq hn hx tl rest o hend

-- The hypotheses of `entry_roundtrip_posix` can be met (wide text ending at its terminator).
example : EntryWF ⟨typeDefault, tagUser, 5, 1000, str "zoë"⟩ ∧ IsPosix typeDefault ∧
    hasFlag 13 styleExtraId = true ∧ EntryEnd true [0] [0] :=
  ⟨⟨by decide, by decide, by decide, by decide, by decide⟩, by decide, by decide, EntryEnd.endW rfl⟩

/-! ## `acl_roundtrip` -/

/-- The name side condition exactly as the property states it: no colon, comma or white space,
not purely numeric (and no NUL, as in any C string). -/
def NameProp (name : List Ch) : Prop :=
  (∀ c ∈ name, c ≠ 0 ∧ c ≠ 58 ∧ c ≠ 44 ∧ c ≠ 32 ∧ c ≠ 9 ∧ c ≠ 10) ∧
  (name ≠ [] → ∃ c ∈ name, ¬ isDigit c)

/-- The property's quantifier over qualifiers. -/
structure QualProp (e : Entry) : Prop where
  ug : IsUG e.tag → NameProp e.name ∧ (if e.name = [] then 0 ≤ e.id else -1 ≤ e.id)
  other : ¬ IsUG e.tag → e.id = -1 ∧ e.name = []

/-- What "converting to text and parsing the text back yields the same entries" means on the
model: parsing into a fresh ACL succeeds with status OK and yields `rtAcl acl flags` — the
listed entries in order with their type, tag, id, permset and name (unnamed ones named by their
id), and the permission bits of `mode` when the ACCESS part was printed. -/
def RoundTrips (wide : Bool) (acl : Acl) (flags : Nat) : Prop :=
  ∀ t, toText wide acl flags = .text t →
    ∃ n, fromText wide {} t (parseWant acl flags) =
      .ok { acl := rtAcl acl flags, status := .ok, skipped := 0, added := n }

/-- The property at full strength, quantified as in `properties.jsonl`. -/
def acl_roundtrip : Prop :=
  ∀ (wide : Bool) (acl : Acl) (flags : Nat), WF acl → (∀ e ∈ acl.entries, QualProp e) →
    hasFlag flags styleExtraId = true → RoundTrips wide acl flags

/-- It is false of the code: a name containing `#` is inside the quantifier, and the parser
takes the `#` for the start of a comment.  Witness: the NFSv4 ACL `user:a#b` with id 5, style
EXTRA_ID|COMPACT, narrow variant; its text `user:a#b:::allow:5` parses to an empty ACL with
ARCHIVE_WARN.  (Replayed on the implementation as known finding F15-hash-in-name.) -/
theorem acl_roundtrip_false : ¬ acl_roundtrip := by
  intro h
  have hwf : WF hashAcl := by
    refine ⟨?_, Or.inr ?_, by decide, by simp [hashAcl]⟩
    · intro e he; simp [hashAcl] at he; subst he
      exact ⟨by decide, by decide, by decide, by decide, by decide⟩
    · intro e he; simp [hashAcl] at he; subst he; exact Or.inl rfl
  have hq : ∀ e ∈ hashAcl.entries, QualProp e := by
    intro e he; simp [hashAcl] at he; subst he
    refine ⟨fun _ => ⟨⟨by decide, fun _ => ⟨97, by decide, by unfold isDigit; decide⟩⟩, by decide⟩,
      fun hn => (hn (Or.inl rfl)).elim⟩
  obtain ⟨n, hn⟩ := h false hashAcl 17 hwf hq (by decide) _ hashAcl_text
  have hw : parseWant hashAcl 17 = typeNfs4 := by decide
  rw [hw, hashAcl_parse] at hn
  simp at hn

/-- The round trip with the one extra hypothesis the proof forces: no `#` in a qualifier name.
For every well-formed POSIX.1e or NFSv4 ACL inside the property's quantifier, every style that
includes ids (default marking, Solaris, comma or newline separator, compact), both variants. -/
theorem acl_roundtrip_partial (wide : Bool) (acl : Acl) (flags : Nat) (hwf : WF acl)
    (hq : ∀ e ∈ acl.entries, QualProp e) (hnohash : ∀ e ∈ acl.entries, 35 ∉ e.name)
    (hx : hasFlag flags styleExtraId = true) : RoundTrips wide acl flags := by
  intro t ht
  apply roundtrip wide acl flags hwf _ hx t ht
  intro e he
  have hqe := hq e he
  refine ⟨fun hug => ?_, hqe.other⟩
  obtain ⟨⟨hchars, hnum⟩, hid⟩ := hqe.ug hug
  refine ⟨⟨?_, hnum⟩, hid⟩
  intro c hc
  obtain ⟨h0, h58, h44, h32, h9, h10⟩ := hchars c hc
  have h35 : c ≠ 35 := fun h => hnohash e he (h ▸ hc)
  exact ⟨h0, h32, h9, h10, h44, h58, h35⟩

/-- "The same set of entries": when the text covers the whole ACL (an NFSv4 ACL, or a POSIX.1e
ACL printed with both or neither of the ACCESS/DEFAULT selectors) the entries after the round
trip are all the entries of the ACL, in order, each with its own type, tag, permset and id. -/
theorem roundtrip_covers_all_entries (acl : Acl) (flags : Nat) (hwf : WF acl)
    (hall : textWantType acl flags = typeNfs4 ∨ textWantType acl flags = typePosix1e) :
    (rtAcl acl flags).entries = acl.entries.map img ∧
    ∀ e, (img e).type = e.type ∧ (img e).tag = e.tag ∧ (img e).permset = e.permset ∧ (img e).id = e.id ∧
      (e.name ≠ [] → (img e).name = e.name) := by
  refine ⟨?_, fun e => ⟨rfl, rfl, rfl, rfl, fun hne => by simp [img, rtName, hne]⟩⟩
  have hl : listed acl (textWantType acl flags) = acl.entries := by
    unfold listed
    apply List.filter_eq_self.mpr
    intro e he
    have hwe := hwf.entries e he
    have hnm : ¬ (e.type = typeAccess ∧ (e.tag = tagUserObj ∨ e.tag = tagGroupObj ∨ e.tag = tagOther)) :=
      hwe.not_mode
    have hbit : e.type &&& textWantType acl flags ≠ 0 := by
      rcases hwf.wantType_family flags with ⟨h4, hn⟩ | ⟨hp3, hp⟩
      · rw [h4]; exact (nfs4_bits (hn e he)).2
      · have hP : textWantType acl flags = typePosix1e := by
          rcases hall with h | h
          · rcases hp3 with h' | h' | h' <;> rw [h] at h' <;> exact absurd h' (by decide)
          · exact h
        rw [hP]; exact (posix_bits (hp e he)).1
    simp [skipped, hbit, hnm]
  simp [rtAcl, hl]

/-- The hypotheses of `acl_roundtrip_partial` are met by a non-trivial ACL, and its conclusion
then gives the parse result of a concrete text. -/
example : ∃ n, fromText false {} (str "user:a-b:::allow:5") typeNfs4 =
    .ok { acl := rtAcl goodAcl 17, status := .ok, skipped := 0, added := n } := by
  have hwf : WF goodAcl := by
    refine ⟨?_, Or.inr ?_, by decide, by simp [goodAcl]⟩
    · intro e he; simp [goodAcl] at he; subst he
      exact ⟨by decide, by decide, by decide, by decide, by decide⟩
    · intro e he; simp [goodAcl] at he; subst he; exact Or.inl rfl
  have hq : ∀ e ∈ goodAcl.entries, QualProp e := by
    intro e he; simp [goodAcl] at he; subst he
    refine ⟨fun _ => ⟨⟨by decide, fun _ => ⟨97, by decide, by unfold isDigit; decide⟩⟩, by decide⟩,
      fun hn => (hn (Or.inl rfl)).elim⟩
  have hh : ∀ e ∈ goodAcl.entries, 35 ∉ e.name := by
    intro e he; simp [goodAcl] at he; subst he; decide
  have := acl_roundtrip_partial false goodAcl 17 hwf hq hh (by decide) _ goodAcl_text
  have hw : parseWant goodAcl 17 = typeNfs4 := by decide
  rwa [hw] at this

/-! ## `parser_total`, `parser_no_oob` -/

/-- Both parsers terminate with a result on every input: any character list (any byte string
for `archive_acl_from_text_nl`, without terminator; any `wchar_t` string), any `want_type`, any
ACL to add to. -/
theorem parser_total (wide : Bool) (acl : Acl) (text : List Ch) (wantType : Nat) :
    ∃ o, fromText wide acl text wantType = .ok o :=
  fromText_ok wide acl text wantType

/-- No read of the parser is outside the text: the narrow one never looks at `text[length]`
or beyond (no terminator needed), the wide one never beyond the terminating NUL, and no NULL
field pointer is dereferenced. -/
theorem parser_no_oob (wide : Bool) (acl : Acl) (text : List Ch) (wantType : Nat) :
    fromText wide acl text wantType ≠ .error .oob ∧ fromText wide acl text wantType ≠ .error .null := by
  obtain ⟨o, ho⟩ := parser_total wide acl text wantType
  rw [ho]; exact ⟨by simp, by simp⟩

/-- The same for the parser loop started anywhere: whatever is left of a text (for the wide
variant: as long as the terminator is still ahead), the loop finishes without a fault. -/
theorem parser_loop_no_oob (wide : Bool) (wantType : Nat) (r : List Ch) (o : ParseOut)
    (h : wide = true → 0 ∈ r) : ∃ o', parseLoop wide wantType r o = .ok o' :=
  parseLoop_ok wide wantType r o h

-- The hypothesis of `parser_loop_no_oob` can be met by a wide text.
example : (35 : Nat) :: 0 :: 58 :: [10, 100] ≠ [] ∧ (true = true → (0 : Nat) ∈ [100, 0]) := by decide

/-! ## `malformed_skipped_with_warn` -/

/-- Whenever the parser skips an entry it reports it: the result is not ARCHIVE_OK; and a
warning is never given without a skipped entry. -/
theorem malformed_skipped_with_warn (wide : Bool) (acl : Acl) (text : List Ch) (wantType : Nat)
    (o : ParseOut) (h : fromText wide acl text wantType = .ok o) :
    (o.skipped > 0 → o.status ≠ .ok) ∧ (o.status = .warn → o.skipped > 0) := by
  unfold fromText at h
  simp only [] at h
  generalize (if wantType = typePosix1e then typeAccess else wantType) = wt at h
  by_cases hc : wt = typeAccess ∨ wt = typeDefault ∨ wt = typeNfs4
  · rw [if_pos hc] at h
    exact parseLoop_skipInv wide _ _ _ o h ⟨fun h0 => by simp at h0, fun h0 => by simp at h0⟩ (Or.inl rfl)
  · rw [if_neg hc] at h
    cases h; exact ⟨fun h0 => by simp at h0, fun h0 => by simp at h0⟩

/-- What is *not* skipped is well-formed where it matters: a POSIX.1e entry is only accepted
with a non-empty mode field made of `rwxRWX-` only, and its permset is that field's value.
(False before `fix: ACL text parser accepted "other:rz" …`: `ismode` used to leave a partial
permset behind and "other:rz" was accepted as `other::r--` with ARCHIVE_OK.) -/
theorem accepted_mode_field_valid (wide : Bool) (fields : Nat) (fld : Nat → Option Field) (n type : Nat)
    (hf : ∀ i, OFieldOK wide (fld i)) (ty pm tg : Nat) (id : Int) (nm : Option Field)
    (h : parsePosixRest wide fields fld n type = .ok (.entry ty pm tg id nm)) :
    ∃ k, obody (fld k) ≠ [] ∧ ismode wide (obody (fld k)) 0 = (pm, true) := by
  obtain ⟨p, hp, hspec, _⟩ := parsePosixRest_spec wide fields fld n type hf
  rw [h] at hp
  cases hp
  -- the parse is an `if` tree whose leaves are `skip` or the outcome of a last `ismode` test
  let P (s : PSpec) : Prop := s = .entry ty pm tg id (obody nm) →
    ∃ k, obody (fld k) ≠ [] ∧ ismode wide (obody (fld k)) 0 = (pm, true)
  have skip : P .skip := fun h => nomatch h
  have ite {c : Prop} [Decidable c] {a b : PSpec} (h1 : c → P a) (h2 : ¬ c → P b) :
      P (if c then a else b) := by
    split
    · exact h1 ‹_›
    · exact h2 ‹_›
  have mode (k t g : Nat) (i : Int) (name : List Ch) :
      P (if (ismode wide (obody (fld k)) 0).2 then .entry t (ismode wide (obody (fld k)) 0).1 g i name
        else .skip) := by
    intro hk
    rcases ismode_cases wide (obody (fld k)) 0 with h1 | ⟨hne, p, h1⟩
    · rw [h1] at hk; cases hk
    · rw [h1] at hk
      cases hk
      exact ⟨k, hne, h1 0⟩
  simp only [posixRestCore, posixOtherMaskCore, posixUserGroupCore] at hspec
  exact (ite (fun _ => skip) fun _ => ite (fun _ => ite (fun _ => skip) fun _ => mode _ _ _ _ _) fun _ =>
    ite (fun _ => mode _ _ _ _ _) fun _ => skip) hspec.symm

-- The mode field `rz` of "other:rz" is rejected.
example : OFieldOK false (some ⟨[111, 116, 104, 101, 114, 58, 114, 122], 5⟩) ∧
    ismode false [114, 122] 0 = (0, false) := ⟨⟨by decide, fun h => by cases h⟩, by decide⟩

end LA.C15
