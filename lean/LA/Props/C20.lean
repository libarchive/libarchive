/-
C20 — Passphrase-protected entries decrypt only with the right passphrase.

Property theorems over the models of
  archive_cryptor.c (`LA.Ctr`), the PKWARE functions of the zip reader/writer
  (`LA.ZipCrypt`), archive_read_add_passphrase.c and the two retry loops of the
  zip reader (`LA.Passphrase`), and the WinZip-AES entry layout (`LA.WinZipAes`).
The cryptographic primitives (AES block function, PBKDF2, HMAC, the CRC-32
step) are *parameters*; nothing is assumed about them except where a hypothesis
says so.  Helper lemmas live in `LA/Lemmas/*.lean`.
-/
import LA.Lemmas.Ctr
import LA.Lemmas.ZipCrypt
import LA.Lemmas.Passphrase
import LA.Lemmas.WinZipAes
namespace LA.C20

/-! ## 1. AES-CTR (`aes_ctr_update`) -/
section ctr
open LA.Ctr

/-- `ctr_keystream`: for an arbitrary block function `E`, an arbitrary start
counter `k0` and an arbitrary chunking of the input, successive `aes_ctr_update`
calls never read outside `encr_buf`, return as many bytes as they got, and the
concatenated output is the input XORed with `E(k0+1) ‖ E(k0+2) ‖ …` (little-endian
64-bit counter in the first 8 nonce bytes, incremented before use). -/
theorem ctr_keystream (E : Block → Block) (k0 : Nat) (chunks : List (List UInt8)) :
    ∃ c os, run E (initAt k0) chunks = some (c, os) ∧
      os.flatten = xorStream (ksByte E k0) 0 chunks.flatten ∧
      os.map List.length = chunks.map List.length := by
  obtain ⟨c, os, h1, h2, h3, _⟩ := run_spec E k0 chunks 0 (initAt k0) (inv_initAt E k0)
  exact ⟨c, os, h1, h2, h3⟩

/-- The same from `aes_ctr_init` itself (counter 0: first block used is `E(1)`). -/
theorem ctr_keystream_init (E : Block → Block) (chunks : List (List UInt8)) :
    ∃ c os, run E init chunks = some (c, os) ∧
      os.flatten = xorStream (ksByte E 0) 0 chunks.flatten :=
  run_init E chunks

/-- non-vacuity: a concrete block function, three chunks (17 bytes: crosses a block border) -/
example : ∃ c os, run (fun b => b.map (· + 7)) init [List.replicate 15 1, [], [2, 3]] = some (c, os) ∧
    os.flatten.length = 17 := by
  obtain ⟨c, os, h, hf⟩ := ctr_keystream_init (fun b => b.map (· + 7)) [List.replicate 15 1, [], [2, 3]]
  exact ⟨c, os, h, by rw [hf, xorStream_length]; rfl⟩

/-- A single call with a short output buffer: exactly `min(in_len, cap)` bytes are
processed and they are the corresponding prefix of the stream. -/
theorem ctr_update_capacity (E : Block → Block) (k0 : Nat) (inp : List UInt8) (cap : Nat) :
    ∃ c, update E (initAt k0) inp cap =
      .ok c (xorStream (ksByte E k0) 0 (inp.take (min inp.length cap))) := by
  obtain ⟨c, h, _⟩ := update_spec E k0 0 (initAt k0) inp cap (inv_initAt E k0)
  exact ⟨c, h⟩

/-- `ctr_chunking_independent`: how the caller cuts the input into calls does not
matter. -/
theorem ctr_chunking_independent (E : Block → Block) (k0 : Nat) (cs1 cs2 : List (List UInt8))
    (h : cs1.flatten = cs2.flatten) :
    ∃ c1 o1 c2 o2, run E (initAt k0) cs1 = some (c1, o1) ∧ run E (initAt k0) cs2 = some (c2, o2) ∧
      o1.flatten = o2.flatten := by
  obtain ⟨c1, o1, h1, f1, _⟩ := ctr_keystream E k0 cs1
  obtain ⟨c2, o2, h2, f2, _⟩ := ctr_keystream E k0 cs2
  exact ⟨c1, o1, c2, o2, h1, h2, by rw [f1, f2, h]⟩

example : [[1, 2], [3]].flatten = [[1], [2, 3]].flatten := rfl

/-- `ctr_involutive`: decrypt ∘ encrypt = id, for every length (in particular
every length mod 16), every chunking on the encrypting side and every,
possibly different, chunking on the decrypting side. -/
theorem ctr_involutive (E : Block → Block) (k0 : Nat) (plain cipherChunks : List (List UInt8))
    (c1 : Ctx) (enc : List (List UInt8))
    (henc : run E (initAt k0) plain = some (c1, enc))
    (hcut : cipherChunks.flatten = enc.flatten) :
    ∃ c2 dec, run E (initAt k0) cipherChunks = some (c2, dec) ∧ dec.flatten = plain.flatten := by
  obtain ⟨c1', enc', h1, f1, _⟩ := ctr_keystream E k0 plain
  rw [henc] at h1
  obtain ⟨rfl, rfl⟩ := Prod.mk.inj (Option.some.inj h1)
  obtain ⟨c2, dec, h2, f2, _⟩ := ctr_keystream E k0 cipherChunks
  exact ⟨c2, dec, h2, by rw [f2, hcut, f1, xorStream_involutive]⟩

/-- non-vacuity: the hypotheses are met by a start counter at a carry border and a
re-cut of the cipher text -/
example : ∃ c1 enc, run (fun b => b.map (· * 3 + 1)) (initAt 255) [[10, 20], [30]] = some (c1, enc) ∧
    ([enc.flatten.take 1, enc.flatten.drop 1] : List (List UInt8)).flatten = enc.flatten := by
  obtain ⟨c, os, h, _⟩ := ctr_keystream (fun b => b.map (· * 3 + 1)) 255 [[10, 20], [30]]
  exact ⟨c, os, h, by simp only [List.flatten_cons, List.flatten_nil, List.append_nil, List.take_append_drop]⟩

/-- The counter is 64 bits wide: key-stream block `2^64` positions later repeats
(the carry stops at `nonce[7]`). -/
theorem ctr_counter_wraps (E : Block → Block) (k0 i : Nat) :
    ksByte E (k0 + 2 ^ 64) i = ksByte E k0 i := by
  simp only [ksByte, Nat.add_right_comm k0 (2 ^ 64), Nat.add_right_comm _ (2 ^ 64) 1, counterBlock_wrap]

end ctr

/-! ## 2. Traditional PKWARE encryption (`trad_enc_*`, both copies) -/
section zipcrypt
open LA.ZipCrypt

/-- `trad_roundtrip`: for any key state, any CRC step function, any message and any
chunking on either side, `trad_enc_decrypt_update` undoes `trad_enc_encrypt_update`
and both sides end in the same key state. -/
theorem trad_roundtrip (zcrc : UInt32 → UInt8 → UInt32) (k : Keys)
    (plain cipherChunks : List (List UInt8))
    (hcut : cipherChunks.flatten = (runEnc zcrc k plain).2.flatten) :
    (runDec zcrc k cipherChunks).2.flatten = plain.flatten ∧
    (runDec zcrc k cipherChunks).1 = (runEnc zcrc k plain).1 := by
  have h := decLoop_encLoop zcrc k plain.flatten
  rw [runEnc_flatten, ← hcut, runDec_flatten] at h
  exact ⟨(Prod.mk.inj h).2, (Prod.mk.inj h).1⟩

example : ([[1, 2], [3]] : List (List UInt8)).flatten = [[1], [2, 3]].flatten := rfl

/-- The cipher text is as long as the plain text (no padding, no expansion). -/
theorem trad_length (zcrc : UInt32 → UInt8 → UInt32) (k : Keys) (plain : List (List UInt8)) :
    (runEnc zcrc k plain).2.flatten.length = plain.flatten.length := by
  rw [← encLoop_length zcrc k plain.flatten, runEnc_flatten]

/-- `trad_header_check` (1): which byte is compared.  Writer (`zip->trad_chkdat`) and
reader (`zip_entry->decdat`) take the check byte from the same place of the local
header: offset 11 (high byte of the DOS time) when the length-at-end flag is set,
offset 17 (high byte of the CRC-32) otherwise. -/
theorem trad_check_byte (lh : List UInt8) (lengthAtEnd : Bool) :
    checkByte lh lengthAtEnd = if lengthAtEnd then lh[11]? else lh[17]? := rfl

/-- `trad_header_check` (2): the reader's test is exactly "byte 11 of the decrypted
12-byte header equals the check byte" — one byte, nothing else. -/
theorem trad_accepts_iff (zcrc : UInt32 → UInt8 → UInt32) (pw hdr : List UInt8) (decdat : UInt8)
    (h : 12 ≤ hdr.length) :
    accepts zcrc pw hdr decdat = true ↔
      (decLoop zcrc (initKeys zcrc pw) (hdr.take 12)).2[11]? = some decdat := by
  have h11 : 11 < (decLoop zcrc (initKeys zcrc pw) (hdr.take 12)).2.length := by
    rw [decLoop_length, List.length_take, Nat.min_eq_left h]; decide
  simp [accepts, initR, Nat.not_lt.mpr h, List.getElem?_eq_getElem h11]

/-- `trad_header_check` (3): the header the writer emits for a passphrase is accepted
by the reader given the same passphrase and the same check byte, for every
passphrase, every 11 random bytes and every CRC function, and leaves the reader
in the writer's key state (so the entry data decrypts, `trad_roundtrip`). -/
theorem trad_header_check (zcrc : UInt32 → UInt8 → UInt32) (pw rnd11 : List UInt8) (chk : UInt8) :
    initR zcrc pw (writeHeader zcrc pw rnd11 chk).2 12 = .ok (writeHeader zcrc pw rnd11 chk).1 chk ∧
    accepts zcrc pw (writeHeader zcrc pw rnd11 chk).2 chk = true := by
  have h := initR_writeHeader zcrc pw rnd11 chk
  exact ⟨h, by simp only [accepts, h, beq_self_eq_true]⟩

/-- non-vacuity: a real passphrase, real random bytes, the zlib CRC -/
example : accepts zlibCrc32Byte [112, 97, 115, 115] (writeHeader zlibCrc32Byte [112, 97, 115, 115]
    [1, 2, 3, 4, 5, 6, 7, 8, 9, 10, 11] 0x5a).2 0x5a = true :=
  (trad_header_check zlibCrc32Byte _ _ _).2

/-- Whole entry: what the writer emits (12-byte header, then the payload, encrypted in
any chunking) is turned back into the payload by the reader (header through
`trad_enc_init`, data through `trad_enc_decrypt_update` in any chunking). -/
theorem trad_entry_roundtrip (zcrc : UInt32 → UInt8 → UInt32) (pw rnd11 : List UInt8) (chk : UInt8)
    (payload cipherChunks : List (List UInt8))
    (hcut : cipherChunks.flatten = (runEnc zcrc (writeHeader zcrc pw rnd11 chk).1 payload).2.flatten) :
    ∃ k, initR zcrc pw (writeHeader zcrc pw rnd11 chk).2 12 = .ok k chk ∧
      (runDec zcrc k cipherChunks).2.flatten = payload.flatten :=
  ⟨_, (trad_header_check zcrc pw rnd11 chk).1, (trad_roundtrip zcrc _ payload cipherChunks hcut).1⟩

end zipcrypt

/-! ## 3. The passphrase list (`archive_read_add_passphrase.c`) and the retry loops -/
section passphrase
open LA.Passphrase

/-- The pointer manipulations of `__archive_read_next_passphrase` are sound in every
reachable state: the invariant `candidate ≤ number of nodes` holds initially, is kept
by every API operation, and under it `next` never rotates a list that would lose
its `last` pointer and never dereferences `first == NULL`. -/
theorem passphrase_list_sound :
    Passphrase.Inv {} ∧
    (∀ s p, Passphrase.Inv s → Passphrase.Inv (add s p).1) ∧
    (∀ s cb, Passphrase.Inv s → Passphrase.Inv (setCallback s cb)) ∧
    (∀ s, Passphrase.Inv (reset s)) ∧
    (∀ s, Passphrase.Inv s → ∃ s' p, next s = .ret s' p ∧ Passphrase.Inv s') :=
  ⟨by simp [Passphrase.Inv], add_inv, fun _ _ h => h, reset_inv, next_inv⟩

/-- `passphrase_iteration` (1): after a reset, successive `next` calls yield every listed
candidate exactly once, in list order, and then the client callback's answers in
order (NULL for ever when there is no callback) — for every list, every callback
and every number of further calls. -/
theorem passphrase_iteration (s : St) (j : Nat) :
    ∃ s', nexts (reset s) (s.list.length + j) =
      some (s', s.list.map some ++ (List.range j).map (answer s)) :=
  let ⟨s', h, _⟩ := iteration s j; ⟨s', h⟩

/-- `passphrase_iteration` (2): when the consumer stops at candidate `k` (it matched), that
passphrase is at the head of the list afterwards (the list is rotated by `k`), so
the next entry tries it first. -/
theorem passphrase_stop_at_head (s : St) (k : Nat) (hk : k < s.list.length) :
    ∃ s', nexts (reset s) (k + 1) = some (s', (s.list.take (k + 1)).map some) ∧
      s'.list = s.list.drop k ++ s.list.take k ∧ s'.list.head? = some s.list[k] := by
  refine ⟨_, list_phase (reset s) (reset_neg s) k hk, rfl, ?_⟩
  exact rotl_head s.list k hk

/-- `passphrase_iteration` (3): after a full miss the list is back in its original order
(before the callback's answer, if any, is put in front). -/
theorem passphrase_order_restored (s : St) :
    ∃ s' last, nexts (reset s) (s.list.length + 1) = some (s', s.list.map some ++ [last]) ∧
      (s'.list = s.list ∨ ∃ p, last = some p ∧ s'.list = p :: s.list) :=
  ⟨_, _, full_miss (reset s) (reset_neg s), askCallback_list _⟩

/-- non-vacuity: three candidates and a callback -/
example : (nexts (reset { list := [[1], [2], [3]], cb := some fun i => some [10 + i.toUInt8] }) 5).map
      (fun r => (r.1.list, r.1.candidate, r.1.calls, r.2)) =
    some ([[11], [1], [2], [3], [10]], 1, 2, [some [1], some [2], some [3], some [10], some [11]]) := by
  decide

/-- `wrong_passphrase_rejected`: if no passphrase that can come up (listed or answered by
the callback) derives a matching verification value, both retry loops end with
ARCHIVE_FAILED and no decryption context — for every list, callback and cap. -/
theorem wrong_passphrase_rejected (cap : Nat) (m : P → Bool) (s : St) (hw : AllWrong m s) :
    ∃ s' t w, retryLoop cap m (reset s) 0 = .failed s' t w :=
  retryLoop_wrong cap m (reset s) 0 (reset_inv s) hw

example : AllWrong (fun p => p == [9]) { list := [[1], [2]], cb := some fun _ => some [3] } := by
  constructor
  · intro p hp; simp at hp; rcases hp with rfl | rfl <;> decide
  · intro f hf i p hp
    simp at hf; subst hf; simp at hp; subst hp; decide

/-- `retry_loop_bounded`: the loop asks for at most `cap + 2` passphrases (cap = 10000 in
both `init_*_decryption` functions), whatever the callback keeps answering. -/
theorem retry_loop_bounded (cap : Nat) (m : P → Bool) (s : St) :
    (retryLoop cap m s 0).tries ≤ cap + 2 :=
  retryLoop_tries cap m s 0 (by omega)

/-- …and with the extracted caps. -/
theorem retry_loop_bounded_zip (m : P → Bool) (s : St) :
    (retryLoop LA.Gen.Crypt.retryCapTrad m s 0).tries ≤ 10002 ∧
    (retryLoop LA.Gen.Crypt.retryCapAes m s 0).tries ≤ 10002 :=
  ⟨retry_loop_bounded _ m s, retry_loop_bounded _ m s⟩

/-- The right passphrase is found: if candidate `k` of the list is the first one that
matches (and `k` is within the cap), the loop stops there after `k+1` tries and
leaves it at the head of the list. -/
theorem right_passphrase_found (cap : Nat) (m : P → Bool) (s : St) (k : Nat)
    (hk : k < s.list.length) (hm : m s.list[k] = true)
    (hbefore : ∀ i (h : i < k), m (s.list[i]'(by omega)) = false) (hcap : k ≤ cap + 1) :
    ∃ s', retryLoop cap m (reset s) 0 = .found s' s.list[k] (k + 1) ∧
      s'.list.head? = some s.list[k] := by
  obtain ⟨s', hn, _, hh⟩ := passphrase_stop_at_head s k hk
  refine ⟨s', ?_, hh⟩
  have hl : (s.list.take k).length = k := List.length_take_of_le (Nat.le_of_lt hk)
  have := retryLoop_found cap m k (reset s) s' 0 (s.list.take k) s.list[k]
    (by rw [hn, List.take_succ_eq_append_getElem hk]) hl
    (by
      intro p hp
      obtain ⟨i, hi, rfl⟩ := List.getElem_of_mem hp
      rw [List.getElem_take]
      exact hbefore i (hl ▸ hi))
    hm (by rwa [Nat.zero_add])
  rwa [Nat.zero_add] at this

example : ([[1], [2], [3]] : List P)[1] = [2] := rfl

end passphrase

/-! ## 4. WinZip-AES entry layout, authentication code, wrong passphrase -/
section winzip
open LA.WinZipAes LA.Passphrase LA.Gen.Crypt

/-- The constants of writer and reader agree (all extracted from the C): header size
= salt + 2-byte verification value; the reader's strength table maps the strength
byte the writer stores to the salt/key lengths the writer used; same authentication
code size; same PBKDF2 round count; the derived-key buffer is large enough. -/
theorem winzip_constants :
    (∀ enc : Enc, enc.headerSize = enc.saltLen + 2) ∧
    (∀ enc : Enc, strengthR enc.strengthByte = some (enc.saltLen, enc.keyLen)) ∧
    authCodeSizeR = authCodeSizeW ∧ kdfRoundsR = kdfRoundsW ∧
    (∀ enc : Enc, enc.keyLen * 2 + 2 ≤ aesMaxKeySize * 2 + 2) ∧
    encHeaderSizeR = tradHeaderSizeW := by
  refine ⟨?_, strengthR_enc, rfl, rfl, ?_, rfl⟩ <;> intro enc <;> cases enc <;> decide

/-- What a successful read of the writer's bytes looks like. -/
def ReadsBack (r : ReadResult) (payload : List UInt8) (st' : St) (n : Nat) : Prop :=
  r.status = .ok ∧ r.data = payload ∧ r.st = st' ∧ r.consumed = n

/-- `winzip_layout`: for AES-128 and AES-256, every passphrase, every salt, every payload
(any length, cut into any chunks for the cipher), PBKDF2/HMAC/AES being arbitrary
functions that return the lengths they are asked for:
the writer emits salt ‖ pwv(2) ‖ cipher text ‖ MAC(10); its own byte count
(`entry_compressed_written`, and the size it declares up front for a stored entry of
known size) is exactly that length; and the reader, positioned at these bytes with
that size and a passphrase state whose retry loop arrives at the same passphrase,
finds every field at the offset where the writer put it: it returns the payload
with ARCHIVE_OK, the authentication code matches, and it consumes exactly the
entry's bytes (whatever follows). -/
theorem winzip_layout (pr : Prims)
    (hkdf : ∀ p s r n, (pr.kdf p s r n).length = n)
    (hmacLen : ∀ k m, authCodeSize ≤ (pr.hmac k m).length)
    (enc : Enc) (pw : P) (salt : List UInt8) (hsalt : salt.length = enc.saltLen)
    (payload : List (List UInt8)) :
    ∃ w, writeEntry pr enc pw salt payload = some w ∧
      w.bytes.length = enc.saltLen + 2 + payload.flatten.length + authCodeSize ∧
      w.compressedWritten = w.bytes.length ∧
      declaredCompressedSize enc payload.flatten.length = w.bytes.length ∧
      ∀ (st st' : St) (t : Nat) (trailing : List UInt8),
        retryLoop retryCapAes
          (pwvMatches pr (w.bytes.take enc.saltLen) enc.keyLen ((w.bytes.drop enc.saltLen).take 2)) st 0
            = .found st' pw t →
        ReadsBack (readEntry pr enc.strengthByte w.compressedWritten (w.bytes ++ trailing) st)
          payload.flatten st' w.bytes.length := by
  obtain ⟨v0, v1, _, _, hw⟩ := writeEntry_eq pr enc pw salt hkdf hsalt payload
  have hm := macOf_length pr enc pw salt hmacLen (cipherOf pr enc pw salt payload.flatten)
  have hl : (salt ++ [v0, v1] ++ cipherOf pr enc pw salt payload.flatten ++
      macOf pr enc pw salt (cipherOf pr enc pw salt payload.flatten)).length =
      enc.saltLen + 2 + payload.flatten.length + authCodeSize := by
    simp only [List.length_append, hsalt, cipherOf_length, hm]; rfl
  have hcw : (salt ++ [v0, v1]).length + (cipherOf pr enc pw salt payload.flatten).length + authCodeSize =
      enc.saltLen + 2 + (cipherOf pr enc pw salt payload.flatten).length + authCodeSizeR := by
    rw [List.length_append, hsalt]; rfl
  refine ⟨_, hw, hl, ?_, ?_, ?_⟩
  · rw [hcw, hl, cipherOf_length]; rfl
  · rw [hl, declaredCompressedSize, winzip_constants.1 enc]; omega
  · intro st st' t trailing hfound
    simp only [List.append_assoc, List.take_left' hsalt, List.drop_left' hsalt] at hfound
    rw [hcw, readEntry_layout pr pw salt _ _ _ (strengthR_enc enc) [v0, v1] _ _ trailing hsalt rfl hm st st' t
      hfound]
    exact ⟨if_pos (beq_self_eq_true _), LA.Ctr.xorStream_involutive .., rfl, by rw [hl, cipherOf_length]; rfl⟩

/-- non-vacuity of `winzip_layout`: primitives that return the requested lengths, and a
passphrase state whose loop finds the passphrase at once -/
example : ∃ pr : Prims, (∀ p s r n, (pr.kdf p s r n).length = n) ∧
    (∀ k m, authCodeSize ≤ (pr.hmac k m).length) :=
  ⟨{ kdf := fun p _ _ n => (List.range n).map (fun i => (p.length + i).toUInt8),
     hmac := fun k m => List.replicate 20 (k.length + m.length).toUInt8,
     aes := fun k b => b.map (· + k.length.toUInt8) },
   by intro p s r n; simp, by intro k m; simp [authCodeSize, authCodeSizeW]⟩

/-- `mac_mismatch_rejected` (`check_authentication_code`): on a well-formed entry area whose
stored 10-byte authentication code differs from HMAC(key derived from the accepted
passphrase, cipher text) the reader does not finish with ARCHIVE_OK: the last
`read_data` call returns ARCHIVE_WARN ("ZIP bad Authentication code").  This covers
both a modified cipher text / code and a passphrase that passed the 2-byte
verification value by accident but derives a different key. -/
theorem mac_mismatch_rejected (pr : Prims) (strength saltLen keyLen : Nat)
    (hs : strengthR strength = some (saltLen, keyLen))
    (salt pv ct mac trailing : List UInt8)
    (hsl : salt.length = saltLen) (hpv : pv.length = 2) (hml : mac.length = authCodeSizeR)
    (st st' : St) (pw : P) (t : Nat)
    (hfound : retryLoop retryCapAes (pwvMatches pr salt keyLen pv) st 0 = .found st' pw t)
    (hdiff : (pr.hmac (((pr.kdf pw salt kdfRoundsR (keyLen * 2 + 2)).drop keyLen).take keyLen) ct).take
                authCodeSizeR ≠ mac) :
    (readEntry pr strength (saltLen + 2 + ct.length + authCodeSizeR)
        (salt ++ pv ++ ct ++ mac ++ trailing) st).status = .warn := by
  rw [readEntry_layout pr pw salt strength saltLen keyLen hs pv ct mac trailing hsl hpv hml st st' t hfound]
  simp [hdiff]

/-- …and conversely a matching code gives ARCHIVE_OK (the check is not vacuous). -/
theorem mac_match_accepted (pr : Prims) (strength saltLen keyLen : Nat)
    (hs : strengthR strength = some (saltLen, keyLen))
    (salt pv ct mac trailing : List UInt8)
    (hsl : salt.length = saltLen) (hpv : pv.length = 2) (hml : mac.length = authCodeSizeR)
    (st st' : St) (pw : P) (t : Nat)
    (hfound : retryLoop retryCapAes (pwvMatches pr salt keyLen pv) st 0 = .found st' pw t)
    (hsame : (pr.hmac (((pr.kdf pw salt kdfRoundsR (keyLen * 2 + 2)).drop keyLen).take keyLen) ct).take
                authCodeSizeR = mac) :
    (readEntry pr strength (saltLen + 2 + ct.length + authCodeSizeR)
        (salt ++ pv ++ ct ++ mac ++ trailing) st).status = .ok := by
  rw [readEntry_layout pr pw salt strength saltLen keyLen hs pv ct mac trailing hsl hpv hml st st' t hfound]
  simp [hsame]

/-- `wrong_passphrase_rejected` at entry level, WinZip AES: if no passphrase that can come
up derives the stored 2-byte verification value, the entry's data read ends with
ARCHIVE_FAILED, not one byte is handed out and nothing is consumed — for every
entry area, size, strength, list, callback. -/
theorem winzip_wrong_passphrase_rejected (pr : Prims) (strength saltLen keyLen : Nat)
    (hs : strengthR strength = some (saltLen, keyLen))
    (compressedSize : Nat) (bytes : List UInt8) (hlen : saltLen + 2 ≤ bytes.length) (s : St)
    (hw : AllWrong (pwvMatches pr (bytes.take saltLen) keyLen ((bytes.drop saltLen).take 2)) s) :
    (readEntry pr strength compressedSize bytes (reset s)).status = .failed ∧
    (readEntry pr strength compressedSize bytes (reset s)).data = [] ∧
    (readEntry pr strength compressedSize bytes (reset s)).consumed = 0 := by
  obtain ⟨s', t, w, h⟩ := wrong_passphrase_rejected retryCapAes _ s hw
  have hl : ¬ bytes.length < saltLen + 2 := by omega
  simp only [readEntry, hs, hl, if_false, h, and_self]

/-- The same for traditional PKWARE encryption: no candidate passes the 1-byte header
check ⇒ ARCHIVE_FAILED and no data.  (A wrong passphrase passes this check with
probability 1/256; what it then decrypts to is caught, if at all, by the CRC-32
at the end of the entry, which is outside this model.) -/
theorem trad_wrong_passphrase_rejected (zcrc : UInt32 → UInt8 → UInt32) (decdat : UInt8)
    (compressedSize : Nat) (bytes : List UInt8)
    (hlen : LA.ZipCrypt.headerSize ≤ compressedSize ∧ compressedSize ≤ bytes.length) (s : St)
    (hw : AllWrong (fun pw => LA.ZipCrypt.accepts zcrc pw (bytes.take 12) decdat) s) :
    (readTraditional zcrc decdat compressedSize bytes (reset s)).status = .failed ∧
    (readTraditional zcrc decdat compressedSize bytes (reset s)).data = [] := by
  obtain ⟨s', t, w, h⟩ := wrong_passphrase_rejected retryCapTrad _ s hw
  have hl : ¬ (compressedSize < LA.ZipCrypt.headerSize ∨ bytes.length < compressedSize) := by omega
  simp only [readTraditional, hl, if_false, h, and_self]

/-- Traditional PKWARE, right passphrase: what `writeHeader` + `encLoop` produce is read
back (header accepted, payload returned, all bytes consumed). -/
theorem trad_entry_reads_back (zcrc : UInt32 → UInt8 → UInt32) (pw rnd11 : List UInt8) (chk : UInt8)
    (payload trailing : List UInt8) (st st' : St) (t : Nat)
    (hfound : retryLoop retryCapTrad
      (fun p => LA.ZipCrypt.accepts zcrc p (LA.ZipCrypt.writeHeader zcrc pw rnd11 chk).2 chk) st 0 = .found st' pw t) :
    ReadsBack (readTraditional zcrc chk (12 + payload.length)
        ((LA.ZipCrypt.writeHeader zcrc pw rnd11 chk).2 ++
          (LA.ZipCrypt.encLoop zcrc (LA.ZipCrypt.writeHeader zcrc pw rnd11 chk).1 payload).2 ++ trailing) st)
      payload st' (12 + payload.length) := by
  rw [← LA.ZipCrypt.encLoop_length zcrc (LA.ZipCrypt.writeHeader zcrc pw rnd11 chk).1 payload,
    readTraditional_layout pw zcrc chk chk _ _ _ trailing (LA.ZipCrypt.writeHeader_length ..) st st' t hfound
      (LA.ZipCrypt.initR_writeHeader ..),
    LA.ZipCrypt.decLoop_encLoop]
  exact ⟨rfl, rfl, rfl, rfl⟩

end winzip

end LA.C20
