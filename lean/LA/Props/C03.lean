/-
C03 — Filter (compression/encoding) round trip is the identity.

Part 1 (this section): the two encoders libarchive implements entirely itself
and their common read filter.  Models: `LA.LineFilter` + `LA.Uu` / `LA.B64`
(archive_write_add_filter_uuencode.c, archive_write_add_filter_b64encode.c) and
`LA.UuRead` (archive_read_support_filter_uu.c).  Helper lemmas:
LA/Lemmas/LineFilter.lean, UuCodec.lean, UuFlow.lean, UuStream.lean, UuSpecs.lean.

Quantifiers as in the property: all byte streams, all partitions of the stream
into writes, all `bytes_per_block` settings, all `mode` values, all non-empty
printable `name`s whose `begin` line fits the reader's line limit (`NameOk`; a
name with a byte outside 0x20..0x7e is the recorded finding C03-uu-name-nonascii),
and — on the read side — every sequence of read-ahead windows (`first`, `orc`),
provided the first window reaches beyond the `begin` line, which is what the
bidder leaves buffered (`bidder_recognises_own_output` needs two more lines).
-/
import LA.Lemmas.UuSpecs
import LA.Lemmas.UuBid
import LA.Lemmas.Drive
namespace LA.C03
open LA.UuRead LA.LineFilter LA.Gen.UuTables

/-- The uuencode write filter: the bytes passed downstream are `encStream` of the
concatenation of the writes — whatever the chunking and `bytes_per_block`. -/
theorem uu_encode_chunking_independent (bpb mode : Nat) (name : List Nat) (chunks : List (List Nat)) :
    LA.Uu.encode bpb mode name chunks = encStream LA.Uu.codec mode name chunks.flatten :=
  run_output LA.Uu.codec bpb mode name chunks

theorem b64_encode_chunking_independent (bpb mode : Nat) (name : List Nat) (chunks : List (List Nat)) :
    LA.B64.encode bpb mode name chunks = encStream LA.B64.codec mode name chunks.flatten :=
  run_output LA.B64.codec bpb mode name chunks

/-- Two chunkings of the same bytes (and two block sizes) give the same output. -/
theorem encode_chunking_independent (bpb1 bpb2 mode : Nat) (name : List Nat) (c1 c2 : List (List Nat))
    (h : c1.flatten = c2.flatten) :
    LA.Uu.encode bpb1 mode name c1 = LA.Uu.encode bpb2 mode name c2 ∧
    LA.B64.encode bpb1 mode name c1 = LA.B64.encode bpb2 mode name c2 := by
  simp [uu_encode_chunking_independent, b64_encode_chunking_independent, h]

example : ([[1, 2], [], [3]] : List (List Nat)).flatten = [[1], [2, 3]].flatten := by decide

/-- Every block the write loop hands to the next filter before `close` has exactly
`bs` bytes (`while (archive_strlen(&state->encoded_buff) >= state->bs)`). -/
theorem flush_blocks_exact (bs : Nat) (buf : List Nat) : ∀ b ∈ (flushLoop bs buf).2, b.length = bs :=
  flushLoop_blocks bs buf

/-- **uuencode → uudecode is the identity**, for every chunking of the writes and
every sequence of read windows. -/
theorem uu_roundtrip (bpb mode : Nat) (name x : List Nat) (chunks : List (List Nat)) (first : Nat) (orc : List Nat)
    (hx : chunks.flatten = x) (hb : Bytes x) (hn : NameOk name)
    (hfirst : (header LA.Uu.codec mode name).length ≤ first) :
    decode first orc (LA.Uu.encode bpb mode name chunks) = .eof x := by
  rw [uu_encode_chunking_independent, hx]
  exact stream_roundtrip (uuSpec mode name hn) x hb first orc hfirst

/-- The statement without the hypothesis on the first window is false of the
(repaired) code: a window that ends exactly after the `begin` line makes
`uudecode_filter_read` return 0 after having consumed that line, and 0 is the
end of data for its caller.  `uu_roundtrip` above is the `_partial` theorem;
its hypothesis `hfirst` names what is excluded, and
`bidder_recognises_own_output` is why the reader never gets there (the bidder
has pulled in the line after the `begin` line before the filter is created). -/
def RoundTripEveryFirstWindow : Prop :=
  ∀ (bpb mode : Nat) (name x : List Nat) (chunks : List (List Nat)) (first : Nat) (orc : List Nat),
    chunks.flatten = x → Bytes x → NameOk name → decode first orc (LA.Uu.encode bpb mode name chunks) = .eof x

theorem not_roundtrip_every_first_window : ¬ RoundTripEveryFirstWindow := by
  intro h
  have hn : NameOk [45] := ⟨by decide, by intro c hc; simp at hc; omega, by decide⟩
  have hb : Bytes [104] := by intro b hb; simp at hb; omega
  have h1 := h 10240 420 [45] [104] [[104]] 11 [] rfl hb hn
  rw [uu_encode_chunking_independent] at h1
  have h2 := header_only_window (uuSpec 420 [45] hn) [104] hb 11 [] (by decide)
  simp only [List.flatten_cons, List.flatten_nil, List.append_nil] at h1
  rw [h2] at h1
  simp at h1

theorem uu_roundtrip_partial (bpb mode : Nat) (name x : List Nat) (chunks : List (List Nat)) (first : Nat)
    (orc : List Nat) (hx : chunks.flatten = x) (hb : Bytes x) (hn : NameOk name)
    (hfirst : (header LA.Uu.codec mode name).length ≤ first) :
    decode first orc (LA.Uu.encode bpb mode name chunks) = .eof x :=
  uu_roundtrip bpb mode name x chunks first orc hx hb hn hfirst

/-- **b64encode → uudecode is the identity**, likewise. -/
theorem b64_roundtrip (bpb mode : Nat) (name x : List Nat) (chunks : List (List Nat)) (first : Nat) (orc : List Nat)
    (hx : chunks.flatten = x) (hb : Bytes x) (hn : NameOk name)
    (hfirst : (header LA.B64.codec mode name).length ≤ first) :
    decode first orc (LA.B64.encode bpb mode name chunks) = .eof x := by
  rw [b64_encode_chunking_independent, hx]
  exact stream_roundtrip (b64Spec mode name hn) x hb first orc hfirst

/-- Non-vacuity: the hypotheses hold for the default name "-" (header of 12 and 19
bytes), three bytes written one at a time, and a first window of 13 / 20 bytes. -/
example : NameOk [45] ∧ Bytes [0, 255, 10] ∧ ([[0], [255], [10]] : List (List Nat)).flatten = [0, 255, 10] ∧
    (header LA.Uu.codec 420 [45]).length ≤ 12 ∧ (header LA.B64.codec 420 [45]).length ≤ 19 := by
  refine ⟨⟨by decide, by intro c hc; simp at hc; omega, by decide⟩, by intro b hb; simp at hb; omega,
    by decide, by decide, by decide⟩

/-- **Truncated input is reported** (the repaired `finish:` of `uudecode_filter_read`,
C08's former finding C08-uu-truncated-clean-eof): take what the write filter
produces, keep the `begin` line and the first `j ≥ 1` encoded lines and drop
everything after them (the rest of the body and the `end` / `====` trailer).
For every sequence of read windows the consumer gets exactly the bytes of the
lines that are there and then a fatal error — never a clean end of data after a
proper prefix.  (A cut inside a line fails earlier, with "Missing format data";
that case is exercised by the C08 engine, not covered by this theorem.) -/
theorem uu_truncated_is_reported (mode : Nat) (name x : List Nat) (j first : Nat) (orc : List Nat)
    (hb : Bytes x) (hn : NameOk name) (hj : 0 < j)
    (hjl : j ≤ (pieces LA.Uu.codec.lbytes LA.Uu.codec.lpos x).length)
    (hfirst : (header LA.Uu.codec mode name).length ≤ first) :
    decode first orc (header LA.Uu.codec mode name ++
        (((pieces LA.Uu.codec.lbytes LA.Uu.codec.lpos x).take j).map LA.Uu.encLine).flatten) =
      .fatal ((pieces LA.Uu.codec.lbytes LA.Uu.codec.lpos x).take j).flatten :=
  stream_truncated (uuSpec mode name hn) x hb j hj hjl first orc hfirst

theorem b64_truncated_is_reported (mode : Nat) (name x : List Nat) (j first : Nat) (orc : List Nat)
    (hb : Bytes x) (hn : NameOk name) (hj : 0 < j)
    (hjl : j ≤ (pieces LA.B64.codec.lbytes LA.B64.codec.lpos x).length)
    (hfirst : (header LA.B64.codec mode name).length ≤ first) :
    decode first orc (header LA.B64.codec mode name ++
        (((pieces LA.B64.codec.lbytes LA.B64.codec.lpos x).take j).map LA.B64.encLine).flatten) =
      .fatal ((pieces LA.B64.codec.lbytes LA.B64.codec.lpos x).take j).flatten :=
  stream_truncated (b64Spec mode name hn) x hb j hj hjl first orc hfirst

/-- Non-vacuity: 100 bytes are three uuencode lines; keeping two of them satisfies the hypotheses. -/
example : 0 < 2 ∧ 2 ≤ (100 + 44) / 45 := by decide

/-- **The read bidder recognises what the two write filters produce** (so the
reader inserts the uudecode filter), for every chunking of the writes and every
behaviour of the read-ahead window while bidding: `extra` scripts how many bytes
beyond the requested minimum each `__archive_read_filter_ahead` call returns
(a window is never shorter than requested and never shrinks,
`LA.C05.window_is_stream_prefix`).  This includes the encoded empty file and
windows that end exactly at a line end (both repaired in the C). -/
theorem bidder_recognises_own_output (bpb mode : Nat) (name x : List Nat) (chunks : List (List Nat))
    (extra : List Nat) (hx : chunks.flatten = x) (hb : Bytes x) (hn : NameOk name) :
    (bid (LA.Uu.encode bpb mode name chunks) ScriptUp.ahead
        { total := (LA.Uu.encode bpb mode name chunks).length, extra := extra }).1 = .bid 50 ∧
    ∃ n, 50 ≤ n ∧ (bid (LA.B64.encode bpb mode name chunks) ScriptUp.ahead
        { total := (LA.B64.encode bpb mode name chunks).length, extra := extra }).1 = .bid n := by
  rw [uu_encode_chunking_independent, b64_encode_chunking_independent, hx]
  exact ⟨uu_bidder mode name x extra hb hn, b64_bidder mode name x extra hb hn⟩

example : NameOk [102, 105, 108, 101] ∧ Bytes ([] : List Nat) := by
  refine ⟨⟨by decide, by intro c hc; simp at hc; omega, by decide⟩, by intro b hb; simp at hb⟩

/-- Over *all* `name` settings the statement is false of the unchanged code (finding
C03-uu-name-nonascii): `get_line` gives up on any byte outside 0x20..0x7e, so a
UTF-8 name makes the bidder decline.  Witness: name "é", one byte of data.
`bidder_recognises_own_output` is the `_partial` theorem; `NameOk` names the exclusion. -/
def BidderRecognisesEveryName : Prop :=
  ∀ (name : List Nat), name ≠ [] → (∀ c ∈ name, c < 256 ∧ c ≠ 0 ∧ c ≠ 10 ∧ c ≠ 13) →
    ∃ n, 0 < n ∧ (bid (LA.Uu.encode 10240 420 name [[104]]) ScriptUp.ahead
      { total := (LA.Uu.encode 10240 420 name [[104]]).length, extra := [] }).1 = .bid n

theorem not_bidder_recognises_every_name : ¬ BidderRecognisesEveryName := by
  intro h
  obtain ⟨n, hn, hbid⟩ := h [195, 169] (by decide) (by intro c hc; simp at hc; omega)
  have e : LA.Uu.encode 10240 420 [195, 169] [[104]] =
      [98, 101, 103, 105, 110, 32, 54, 52, 52, 32, 195, 169, 10, 33, 58, 96, 96, 96, 10, 96, 10, 101, 110, 100, 10] := by
    rw [uu_encode_chunking_independent]
    simp [encStream, header, LA.Uu.codec, uuBegin, octal3, uuTrailer, encAll, uuLBytes, LA.Uu.encLine,
      LA.Uu.triples, LA.Uu.ch]
  rw [e] at hbid
  have : (bid [98, 101, 103, 105, 110, 32, 54, 52, 52, 32, 195, 169, 10, 33, 58, 96, 96, 96, 10, 96, 10, 101, 110, 100, 10]
      ScriptUp.ahead { total := 25, extra := [] }).1 = .bid 0 := by
    simp [bid, ScriptUp.ahead, bidFind, bidGetLine, bidLoop, BidSt.avail, getLine, cls, nbytesReq, bidMaxRead]
  simp only [List.length_cons, List.length_nil] at hbid
  rw [this] at hbid
  simp at hbid
  omega

/-- `la_b64_encode` never writes a line longer than 76 characters plus the newline;
`uu_encode` never one longer than 61 + 1. -/
theorem b64_line_len (p : List Nat) (h : p.length ≤ b64LBytes) : (LA.B64.encLine p).length ≤ 76 + 1 := by
  have h57 : p.length ≤ 57 := h
  simp only [LA.B64.encLine, List.length_append, b64_triples, groups_length, List.length_cons, List.length_nil]
  omega

theorem uu_line_len (p : List Nat) (h : p.length ≤ uuLBytes) : (LA.Uu.encLine p).length ≤ 61 + 1 := by
  have h45 : p.length ≤ 45 := h
  simp only [LA.Uu.encLine, List.length_append, List.length_cons, uu_triples, groups_length, List.length_nil]
  omega

/-- The body of the stream is made of such lines: one per `LBYTES` input bytes. -/
theorem body_is_lines (c : Codec) (x : List Nat) :
    encAll c x = ((pieces c.lbytes c.lpos x).map c.encLine).flatten ∧
    ∀ p ∈ pieces c.lbytes c.lpos x, 0 < p.length ∧ p.length ≤ c.lbytes :=
  ⟨encAll_pieces c x, fun p hp => ⟨(pieces_mem c.lbytes c.lpos x p hp).1, (pieces_mem c.lbytes c.lpos x p hp).2.1⟩⟩

example : (LA.B64.encLine (List.replicate 57 255)).length = 77 := by decide

/-! ## Part 2: codec-backed filters — what libarchive itself contributes

The compression libraries are parameters (DESIGN.md section 3).  Proved here: the
write-side driver loop delivers exactly the library's output, and the gzip
member framing that libarchive writes and parses itself round-trips, also for
concatenated members. -/

open LA.Drive

/-- **The compressor driver is complete**: for every lawful streaming codec, every
chunking of the writes and every output-buffer size, the blocks passed
downstream concatenate to `header ++ comp (all the bytes written) ++ trailer` —
nothing is lost in the buffer, the tail is flushed on close. -/
theorem drive_loop_complete (c : ZCodec) (comp : List Nat → List Nat) (L : Lawful c comp)
    (cap : Nat) (hdr trailer : List Nat) (chunks : List (List Nat)) (hcap : 0 < cap) (hh : hdr.length ≤ cap) :
    ∃ blocks, LA.Drive.run c cap hdr trailer chunks = some blocks ∧
      blocks.flatten = hdr ++ comp chunks.flatten ++ trailer := by
  have h0 : LA.Drive.Inv L cap hdr ({ z := c.init, buf := hdr } : DState c) [] :=
    ⟨by simp [L.init_emit], L.init_abs, hh⟩
  obtain ⟨d1, e1, e2⟩ := foldl_write L cap hdr hcap chunks _ [] h0
  obtain ⟨d2, f1, f2, f3⟩ := driveLoop_spec L cap hdr hcap true _ d1 [] _ rfl e2
  have hb := f2.bytes
  rw [f3 rfl, List.nil_append, List.append_nil] at hb
  refine ⟨_, by rw [LA.Drive.run, e1, LA.Drive.close, f1], ?_⟩
  by_cases ht : trailer = []
  · simp [ht, hb]
  · simp only [ht, if_false, List.flatten_append, List.flatten_cons, List.flatten_nil, List.append_nil]
    rw [hb]

/-- Hence the compressed stream does not depend on how the input was cut into writes,
nor on the size of the output buffer. -/
theorem drive_chunking_independent (c : ZCodec) (comp : List Nat → List Nat) (L : Lawful c comp)
    (cap1 cap2 : Nat) (hdr trailer : List Nat) (c1 c2 : List (List Nat))
    (h1 : 0 < cap1) (h2 : 0 < cap2) (hh1 : hdr.length ≤ cap1) (hh2 : hdr.length ≤ cap2)
    (hcat : c1.flatten = c2.flatten) :
    (LA.Drive.run c cap1 hdr trailer c1).map List.flatten = (LA.Drive.run c cap2 hdr trailer c2).map List.flatten := by
  obtain ⟨b1, e1, f1⟩ := drive_loop_complete c comp L cap1 hdr trailer c1 h1 hh1
  obtain ⟨b2, e2, f2⟩ := drive_loop_complete c comp L cap2 hdr trailer c2 h2 hh2
  simp [e1, e2, f1, f2, hcat]

/-- Non-vacuity: a codec satisfying every law exists ("stored": it copies at most
`avail_out` bytes per call and reports the end once a finishing call has copied
everything). -/
def storeCodec : ZCodec :=
  { σ := List Nat, init := [],
    call := fun z inp cap fin =>
      (z ++ inp.take cap, min inp.length cap, inp.take cap, if fin = true ∧ inp.length ≤ cap then .streamEnd else .ok),
    rank := fun _ inp fin => inp.length + (if fin then 1 else 0) }

example : Lawful storeCodec id :=
  { absorbed := id, emitted := id, init_abs := rfl, init_emit := rfl,
    consumed_le := by intro z inp cap fin; simp [storeCodec]; omega,
    produced_le := by intro z inp cap fin; simp [storeCodec, List.length_take]; omega,
    abs_step := by
      intro z inp cap fin; simp only [storeCodec, id]
      congr 1; rw [List.take_eq_take_iff]; simp [Nat.min_comm],
    emit_step := by intro z inp cap fin; rfl,
    end_spec := by
      intro z inp cap fin h
      simp only [storeCodec] at h ⊢
      by_cases hc : fin = true ∧ inp.length ≤ cap
      · exact ⟨hc.1, by omega, rfl⟩
      · simp [hc] at h,
    no_error := by intro z inp cap fin _; simp only [storeCodec]; split <;> simp,
    progress := by
      intro z inp cap fin hcap hwork hok
      simp only [storeCodec] at hok ⊢
      have hne : ¬ (fin = true ∧ inp.length ≤ cap) := by intro h; simp [h] at hok
      rcases hwork with h | h
      · have : 0 < inp.length := List.length_pos_iff.mpr h
        simp only [List.length_drop]; omega
      · subst h
        have : cap < inp.length := by
          rcases Nat.lt_or_ge cap inp.length with h | h
          · exact h
          · exact absurd ⟨rfl, h⟩ hne
        simp only [List.length_drop]; omega }

/-- **A gzip member as libarchive writes it reads back**; what follows the member is
read as further members.  `inflate (deflate x ++ r) = (x, r)` is the assumed law
of zlib (a deflate stream is self-delimiting).  Holds for every `mtime`
(`timestamp` option on or off) and compression level. -/
theorem gzip_frame_roundtrip (inflate : List Nat → Option (List Nat × List Nat)) (deflate : List Nat → List Nat)
    (crc32 : List Nat → Nat) (hlaw : ∀ x r, inflate (deflate x ++ r) = some (x, r))
    (mtime level : Nat) (x : List Nat) :
    gzRead inflate (gzMember deflate crc32 mtime level x) = .eof x := by
  have := gzRead_member inflate deflate crc32 hlaw mtime level x []
  rw [List.append_nil, gzRead_end inflate [] rfl] at this
  rw [this]; simp [GzR.cons]

/-- **Multi-member streams**: the concatenation of any number of members — each
written with its own options — followed by anything that is not a gzip header
(nothing, zero padding) decodes to the concatenation of the inputs. -/
theorem multi_member (inflate : List Nat → Option (List Nat × List Nat)) (deflate : List Nat → List Nat)
    (crc32 : List Nat → Nat) (hlaw : ∀ x r, inflate (deflate x ++ r) = some (x, r))
    (members : List (Nat × Nat × List Nat)) (junk : List Nat) (hj : peekAtHeader junk = 0) :
    gzRead inflate ((members.map fun m => gzMember deflate crc32 m.1 m.2.1 m.2.2).flatten ++ junk) =
      .eof (members.map (·.2.2)).flatten := by
  induction members with
  | nil => exact gzRead_end inflate junk hj
  | cons m rest ih =>
    simp only [List.map_cons, List.flatten_cons, List.append_assoc]
    rw [gzRead_member inflate deflate crc32 hlaw, ih]
    rfl

/-- The two-member case of the property text. -/
theorem gzip_two_members (inflate : List Nat → Option (List Nat × List Nat)) (deflate : List Nat → List Nat)
    (crc32 : List Nat → Nat) (hlaw : ∀ x r, inflate (deflate x ++ r) = some (x, r))
    (m1 l1 m2 l2 : Nat) (a b : List Nat) :
    gzRead inflate (gzMember deflate crc32 m1 l1 a ++ gzMember deflate crc32 m2 l2 b) = .eof (a ++ b) := by
  have := multi_member inflate deflate crc32 hlaw [(m1, l1, a), (m2, l2, b)] [] (by simp [peekAtHeader])
  simpa using this

/-- What the model does *not* promise, made explicit: the read filter consumes the
eight trailer bytes without looking at them (the source carries the TODO), so a
member with a wrong CRC32 / ISIZE is accepted. -/
theorem gzip_trailer_not_verified (inflate : List Nat → Option (List Nat × List Nat)) (deflate : List Nat → List Nat)
    (hlaw : ∀ x r, inflate (deflate x ++ r) = some (x, r)) (mtime level : Nat) (x t : List Nat)
    (ht : t.length = 8) :
    gzRead inflate (gzHeader mtime level ++ deflate x ++ t) = .eof x := by
  rw [List.append_assoc, ← List.append_nil t, gzRead_frame inflate deflate hlaw mtime level x t [] ht,
    gzRead_end inflate [] rfl]
  simp [GzR.cons]

/-- The gzip write filter end to end on the model: driver + framing, then the reader. -/
theorem gzip_filter_roundtrip (c : ZCodec) (deflate : List Nat → List Nat) (L : Lawful c deflate)
    (inflate : List Nat → Option (List Nat × List Nat)) (crc32 : List Nat → Nat)
    (hlaw : ∀ x r, inflate (deflate x ++ r) = some (x, r))
    (cap mtime level : Nat) (chunks : List (List Nat)) (hcap : 10 ≤ cap) :
    ∃ blocks, LA.Drive.run c cap (gzHeader mtime level)
        (gzTrailer (crc32 chunks.flatten) chunks.flatten.length) chunks = some blocks ∧
      gzRead inflate blocks.flatten = .eof chunks.flatten := by
  obtain ⟨blocks, e1, e2⟩ := drive_loop_complete c deflate L cap (gzHeader mtime level)
    (gzTrailer (crc32 chunks.flatten) chunks.flatten.length) chunks (by omega) (by simpa [gzHeader, le32] using hcap)
  refine ⟨blocks, e1, ?_⟩
  rw [e2]
  exact gzip_frame_roundtrip inflate deflate crc32 hlaw mtime level chunks.flatten

end LA.C03
