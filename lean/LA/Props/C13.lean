/-
C13 — Independent handles can be used from different threads.

* `independent_commute` (+ `interleaving_eq_sequential`, `handle_alone`): if every call is a function of
  its own handle's state and of shared state that no call writes, every interleaving of the calls of any
  number of handles gives each handle the same states and results as any other interleaving with the same
  per-handle sequences — in particular as "one handle after the other".  `shared_counter_not_commute` shows
  the hypothesis is needed (the tar reader's former process-wide inode counter).
* `shared_inventory_closed`, `process_wide_closed`, `arc4random_locked`: the premise of the first theorem is
  tied to the C by the inventory of writable static objects extracted from the freshly compiled objects
  (`LA.Gen.Statics`): every such object is in the reviewed classification, the only process-wide libc
  state touched is the documented umask/chdir (in the disk reader/writer only), the only mutex-protected
  state is taken under its lock.  These are `decide` over generated lists: a new static, a moved one, a
  dropped lock call makes them false until the review table is updated.
* `NoRacyStatics` is false of the current tree (`no_racy_statics_false`): `archive_version_details()`;
  `no_racy_statics_partial` says that is the only one.  `benign_statics` lists the unsynchronised but
  idempotent initialisations.
* Lazy initialisation, small-step, all schedules, any number of threads: `fillThenFlag_safe`,
  `idempotentFill_safe` (from `lazy_init_safe`); `FlagFirstSafe` is false (`flagFirst_unsafe`, explicit
  schedule: the lha CRC-16 table before the repair) and so is the sentinel-and-wipe idiom of the tar
  base64 table before the repair (`sentinelWipe_unsafe`, a concrete instance checked by evaluation).
-/
import LA.Lemmas.Shared
import LA.Model.Handles
import LA.Lemmas.LazyInit
import LA.Lemmas.Handles
namespace LA.C13
open LA.Shared LA.Handles LA.LazyInit

/-! ## Non-interference -/

section commute
variable {H Sh σ ρ : Type} [DecidableEq H]

/-- Under read-only sharing a trace acts on each handle as that handle's calls alone. -/
theorem handle_alone (tr : List (H × Op Sh σ ρ)) (w : World H Sh σ ρ) (hro : ∀ e ∈ tr, e.2.ReadOnly) :
    (w.run tr).shared = w.shared ∧
    ∀ h, ((w.run tr).st h, (w.run tr).out h) = alone w.shared (w.st h, w.out h) (proj h tr) := by
  induction tr generalizing w with
  | nil => exact ⟨rfl, fun h => rfl⟩
  | cons e es ih =>
    have hsh : (w.exec e).shared = w.shared := hro e (by simp) w.shared (w.st e.1)
    obtain ⟨ih1, ih2⟩ := ih (w.exec e) (fun x hx => hro x (by simp [hx]))
    refine ⟨by simpa [World.run, hsh] using ih1, fun h => ?_⟩
    have := ih2 h
    simp only [World.run]
    rw [this, hsh]
    by_cases hh : e.1 = h
    · subst hh
      simp [proj, World.exec, upd, alone]
    · have hh' : ¬ h = e.1 := fun x => hh x.symm
      simp [proj, World.exec, upd, hh, hh']

/-- **Independent handles commute.**  Any two orders in which the calls of any number of handles take
effect, with the same calls per handle, leave every handle in the same state with the same results. -/
theorem independent_commute (tr₁ tr₂ : List (H × Op Sh σ ρ)) (w : World H Sh σ ρ)
    (h₁ : ∀ e ∈ tr₁, e.2.ReadOnly) (h₂ : ∀ e ∈ tr₂, e.2.ReadOnly)
    (hp : ∀ h, proj h tr₁ = proj h tr₂) :
    ∀ h, (w.run tr₁).st h = (w.run tr₂).st h ∧ (w.run tr₁).out h = (w.run tr₂).out h := by
  intro h
  have a := (handle_alone tr₁ w h₁).2 h
  have b := (handle_alone tr₂ w h₂).2 h
  rw [hp h] at a
  have := a.trans b.symm
  exact ⟨congrArg Prod.fst this, congrArg Prod.snd this⟩

/-- Two handles: every interleaving of `xs` (on `a`) and `ys` (on `b`) behaves as `xs` then `ys`. -/
theorem interleaving_eq_sequential {a b : H} (hab : a ≠ b) (xs ys : List (Op Sh σ ρ))
    (tr : List (H × Op Sh σ ρ)) (w : World H Sh σ ρ)
    (hro : ∀ e ∈ tr, e.2.ReadOnly) (ha : proj a tr = xs) (hb : proj b tr = ys)
    (honly : ∀ e ∈ tr, e.1 = a ∨ e.1 = b) :
    ∀ h, (w.run tr).st h = (w.run (oneAfterTheOther a b xs ys)).st h ∧
         (w.run tr).out h = (w.run (oneAfterTheOther a b xs ys)).out h := by
  subst ha hb
  apply independent_commute tr _ w hro
  · intro e he
    simp only [oneAfterTheOther, List.mem_append, List.mem_map] at he
    rcases he with ⟨o, ho, rfl⟩ | ⟨o, ho, rfl⟩ <;> exact readOnly_of_mem_proj hro ho
  · intro h
    rw [proj_oneAfterTheOther]
    by_cases h1 : a = h
    · subst h1; simp [Ne.symm hab]
    · by_cases h2 : b = h
      · subst h2; simp [h1]
      · -- a third handle has no call in either trace
        simp only [h1, h2, if_false, List.append_nil, proj, List.map_eq_nil_iff, List.filter_eq_nil_iff]
        intro e he
        rcases honly e he with x | x <;> simp [x, h1, h2]

end commute

/-- Non-vacuity of `interleaving_eq_sequential`: a trace of two handles with read-only calls. -/
example :
    let tr : List (Fin 2 × Op Nat Nat Nat) := [(0, ⟨fun sh s => (s + 1, s + sh, sh)⟩), (1, ⟨fun sh s => (s + 1, s + sh, sh)⟩)]
    (∀ e ∈ tr, e.2.ReadOnly) ∧ (∀ e ∈ tr, e.1 = 0 ∨ e.1 = 1) := by
  refine ⟨fun e he => ?_, fun e he => ?_⟩
  · simp only [List.mem_cons, List.not_mem_nil, or_false] at he
    rcases he with rfl | rfl <;> exact fun _ _ => rfl
  · simp only [List.mem_cons, List.not_mem_nil, or_false] at he
    rcases he with rfl | rfl <;> simp

/-- A call in the style of the tar reader's former `static int default_inode`: the result is the shared
counter, which the call increments. -/
def nextInode : Op Nat Unit Nat := ⟨fun sh _ => ((), sh + 1, sh + 1)⟩

/-- A read-only call for the non-vacuity examples: result = own state + shared constant. -/
def peek : Op Nat Nat Nat := ⟨fun sh s => (s + 1, s + sh, sh)⟩

example : peek.ReadOnly := fun _ _ => rfl

example : ¬ nextInode.ReadOnly := fun h => by
  have := h 0 ()
  simp [nextInode] at this

/-- **The hypothesis is needed**: with a shared counter two orders of the same calls give handle 0
different results (1 or 2). -/
theorem shared_counter_not_commute :
    let w : World (Fin 2) Nat Unit Nat := ⟨0, fun _ => (), fun _ => []⟩
    (∀ h, proj h [((0 : Fin 2), nextInode), (1, nextInode)] = proj h [((1 : Fin 2), nextInode), (0, nextInode)]) ∧
    (w.run [(0, nextInode), (1, nextInode)]).out 0 ≠ (w.run [(1, nextInode), (0, nextInode)]).out 0 := by
  refine ⟨fun h => ?_, by decide⟩
  match h with
  | 0 => rfl
  | 1 => rfl

example :
    let w : World (Fin 2) Nat Nat Nat := ⟨7, fun _ => 0, fun _ => []⟩
    (w.run [(0, peek), (1, peek), (0, peek)]).out 0 = (w.run (oneAfterTheOther 0 1 [peek, peek] [peek])).out 0 := by
  decide

/-! ## The inventory of shared state -/

/-- **Every mutable static of the current build is reviewed.** -/
theorem shared_inventory_closed : inventoryClosed = true := by decide +kernel

/-- Process-wide libc state: only the documented umask/chdir exceptions (and libc-locked tzset), and the
exceptions are called from the disk reader/writer only. -/
theorem process_wide_closed : processWideClosed = true ∧ exceptionsConfined = true := by decide +kernel

/-- The arc4random fallback state is only touched below a function that holds `arc4random_mtx` from its
first to its last statement, and the lock macros are real (HAVE_PTHREAD_H). -/
theorem arc4random_locked : mutexDiscipline = true ∧ mutexEntriesConfined = true := by
  refine ⟨by decide +kernel, ?_⟩
  rw [mutexEntriesConfined, builtOfClass_eq, builtKeys_classOf]
  decide +kernel

/-- The recorded findings: static objects accessed without synchronisation with interleaving-dependent
outcome (known_findings.json: C13-version-details). -/
def knownRacy : List Key := [("archive_version_details.c", "init"), ("archive_version_details.c", "str")]

/-- Unsynchronised but idempotent (known_findings.json: C13-benign-lazy-init). -/
def knownBenign : List Key := [
  ("archive_read_disk_posix.c", "can_dupfd_cloexec"),
  ("archive_time.c", "dos_initialised"), ("archive_time.c", "dos_max_unix"), ("archive_time.c", "dos_min_unix"),
  ("archive_crc32.h", "crc_tbl"), ("archive_crc32.h", "crc_tbl_inited")]

/-- Full strength: no static object of the library is accessed racily. -/
def NoRacyStatics : Prop := racyKeys = []

/-- False of the current tree. -/
theorem no_racy_statics_false : ¬ NoRacyStatics := by
  rw [NoRacyStatics, racyKeys, builtOfClass_eq, builtKeys_classOf]
  decide +kernel

/-- **Except for the recorded findings every compiled static object is immutable, mutex-protected or
idempotently initialised.** -/
theorem no_racy_statics_partial :
    racyKeys = knownRacy ∧
    ∀ k ∈ builtKeys, k ∉ knownRacy →
      classOf k = some .immutableAfterLoad ∨ classOf k = some .mutexProtected ∨ classOf k = some .idempotentInit := by
  have h : ∀ kc ∈ builtKeys.map (fun k => (k, classOf k)), kc.1 ∉ knownRacy →
      kc.2 = some .immutableAfterLoad ∨ kc.2 = some .mutexProtected ∨ kc.2 = some .idempotentInit := by
    rw [builtKeys_classOf]
    decide +kernel
  refine ⟨?_, fun k hk => h (k, classOf k) (List.mem_map_of_mem hk)⟩
  rw [racyKeys, builtOfClass_eq, builtKeys_classOf]
  decide +kernel

theorem benign_statics : benignKeys = knownBenign := by
  rw [benignKeys, builtOfClass_eq, builtKeys_classOf]
  decide +kernel

/-- The `done` flags of the idempotently initialised tables (`dos_initialised`, `crc_tbl_inited`) are
stored after the last store to the objects they guard — the C has the fill-then-flag shape that
`fillThenFlag_safe` is about, not the flag-first shape of `flagFirst_race`. -/
theorem idempotent_init_flag_last : flagsStoredLast = true := by decide +kernel

example : ("archive_time.c", "dos_max_unix") ∈ builtKeys ∧ classOf ("archive_time.c", "dos_max_unix") = some .idempotentInit := by
  decide +kernel

/-! ## Lazy initialisation, all interleavings -/

/-- **Any pool of well-formed initialisers**: whatever the schedule, every value any thread has looked up is
the value of the final table (`none` for a slot outside it). -/
theorem lazy_init_safe (f : Nat → Nat) (n : Nat) (ts : List Thread) (hwf : ∀ t ∈ ts, WellFormed f n t)
    (sched : List Nat) :
    ∀ t ∈ ((start n ts).run sched).thr, ∀ p ∈ t.obs, p.2 = (final f n)[p.1]? :=
  fun t ht => ((run_inv sched (start_inv hwf)).2 t ht).obsOk

/-- **Every reader gets the final table**: once a thread of a well-formed pool has finished, what it
observed is exactly the final table at each slot it looked up, in order — whatever the other threads did
and whatever the schedule was. -/
theorem finished_sees_final_table (f : Nat → Nat) (n : Nat) (ts : List Thread) (hwf : ∀ t ∈ ts, WellFormed f n t)
    (sched : List Nat) (k : Nat) (t0 t : Thread) (h0 : ts[k]? = some t0)
    (ht : ((start n ts).run sched).thr[k]? = some t) (hdone : t.init = [] ∧ t.use = []) :
    t.obs = (pending t0.use).map (fun j => (j, (final f n)[j]?)) := by
  have hobs := lazy_init_safe f n ts hwf sched t (List.mem_of_getElem? ht)
  have htr := (run_tracks sched (start_tracks hwf)).2 k t0 t h0 ht
  have hfst : t.obs.map Prod.fst = pending t0.use := by
    have := htr.2
    rw [hdone.2] at this
    simpa [pending] using this
  rw [← hfst]
  exact obs_eq_of_ok t.obs hobs

/-- `if (!init) { fill; init = 1; }` (dos_*, crc_tbl): safe for every number of threads and every schedule. -/
theorem fillThenFlag_safe (f : Nat → Nat) (n : Nat) (jss : List (List Nat)) (sched : List Nat) :
    ∀ t ∈ ((start n (jss.map (fillThenFlag f n))).run sched).thr, ∀ p ∈ t.obs, p.2 = (final f n)[p.1]? :=
  lazy_init_safe f n _ (by
    intro t ht
    obtain ⟨js, _, rfl⟩ := List.mem_map.mp ht
    exact wf_fillThenFlag f n js) sched

/-- Unconditional fill with identical values: safe likewise. -/
theorem idempotentFill_safe (f : Nat → Nat) (n : Nat) (jss : List (List Nat)) (sched : List Nat) :
    ∀ t ∈ ((start n (jss.map (idempotentFill f n))).run sched).thr, ∀ p ∈ t.obs, p.2 = (final f n)[p.1]? :=
  lazy_init_safe f n _ (by
    intro t ht
    obtain ⟨js, _, rfl⟩ := List.mem_map.mp ht
    exact wf_idempotentFill f n js) sched

/-- Non-vacuity: a schedule in which the second thread skips on the flag and both look-ups happen. -/
example :
    ((start 2 [fillThenFlag (· + 5) 2 [1], fillThenFlag (· + 5) 2 [0]]).run [0, 0, 0, 0, 1, 1, 0]).thr.map (·.obs)
      = [[(1, some 6)], [(0, some 5)]] := by decide

/-- … and in that schedule both threads have finished (the hypothesis of `finished_sees_final_table`). -/
example :
    let s := (start 2 [fillThenFlag (· + 5) 2 [1], fillThenFlag (· + 5) 2 [0]]).run [0, 0, 0, 0, 1, 1, 0]
    s.finished 0 = true ∧ s.finished 1 = true ∧ (s.thr.map (·.sawFlag)) = [false, true] := by decide

/-- Full-strength statement for the flag-first idiom. -/
def FlagFirstSafe : Prop :=
  ∀ (f : Nat → Nat) (n : Nat) (jss : List (List Nat)) (sched : List Nat),
    ∀ t ∈ ((start n (jss.map (flagFirst f n))).run sched).thr, ∀ p ∈ t.obs, p.2 = (final f n)[p.1]?

/-- **Flag first is wrong** (`lha_crc16_init` before the repair): for every table size, every slot `j` whose
final value is not the `.bss` zero, the schedule "A tests and sets the flag; B tests it, skips, looks up `j`"
makes B observe the flag set and an unfilled slot. -/
theorem flagFirst_race (f : Nat → Nat) (n j : Nat) (hj : j < n) (hf : f j ≠ 0) :
    let s := (start n [flagFirst f n [j], flagFirst f n [j]]).run [0, 0, 1, 1]
    ∃ t, s.thr[1]? = some t ∧ t.sawFlag = true ∧ t.obs = [(j, some 0)] ∧ some 0 ≠ (final f n)[j]? := by
  intro s
  refine ⟨{ init := [], use := [], sawFlag := true, obs := [(j, some 0)] }, ?_, rfl, rfl, ?_⟩
  · simp [s, start, bss, flagFirst, reads, Sys.run, Sys.step, stepThread, Mem.apply, observe, hj]
  · rw [final_get]; simp [hj]; exact fun h => hf h.symm

/-- The lha instance: 256 slots, slot 1 of `crc16tbl[0]` is 0xC0C1 ≠ 0. -/
example : (1 : Nat) < 256 ∧ (fun i => if i = 1 then 0xC0C1 else 0) 1 ≠ 0 := by decide

theorem flagFirst_unsafe : ¬ FlagFirstSafe := by
  intro h
  have := h (fun _ => 1) 1 [[0], [0]] [0, 0, 1, 1]
  revert this
  decide

/-- The tar `base64_decode` idiom before the repair, an instance (table of 2 slots, wipe value 255):
both threads pass the sentinel test, A initialises and is about to look up slot 1, B's `memset` wipes it.
Checked by evaluation of the model on this one schedule (a test of the model, not a general theorem). -/
theorem sentinelWipe_unsafe :
    let t := sentinelWipe (· + 1) 2 1 255 [1]
    ((wrun (List.replicate 2 0, [t, t]) [0, 1, 0, 0, 0, 0, 1, 1, 0]).2.map (·.obs))[0]? = some [(1, some 255)] := by
  decide

end LA.C13
