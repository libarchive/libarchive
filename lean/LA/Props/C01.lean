/-
C01 — Reader is memory-safe and terminates on arbitrary input (the part that is
logic, at the layer every parser goes through).

* `interface_total`: for every byte source script (any blocks, ending in EOF or
  error), every skip script (incl. failing ones) and every sequence of
  peek/consume calls, the representation invariant of the filter is kept; in
  particular the window handed out lies inside the copy buffer allocation or
  inside the current client block (`window_in_bounds`), and the C loop of
  `__archive_read_filter_ahead` always makes progress (`ahead_never_stuck`; its
  termination is the well-founded recursion accepted for `aheadLoop`).
* `filters_capped`: `choose_filters` never stacks more than MAX_NUMBER_FILTERS
  (extracted from the source) decoders, for any bidder behaviour.
Status codes, EOF/FATAL latching at the API level and release-exactly-once are
the state-machine theorems of C07; the copying read's bound is in C06.
-/
import LA.Props.C08
import LA.Model.Filters
namespace LA.C01
open LA.RA LA.C08

/-- **Every reachable state satisfies the representation invariant** — for all
sources, all skip scripts (well-behaved or not) and all call sequences (`runOps`, `OpsOk`:
LA/Props/C08.lean; seek requests on a source without seek callback are refused and change
nothing). -/
theorem interface_total (src : List (List Nat)) (t : Term) (sk : List Int) (cs : Bool) (hs : SrcOk src)
    (ops : List Op) (hops : OpsOk ops) : Inv (runOps (C05.open_ src t sk cs) ops) := by
  have h0 : Inv (C05.open_ src t sk cs) := inv_init src t sk cs hs
  have hn0 : NoSeekSkip (C05.open_ src t sk cs) := Or.inl rfl
  have hc0 : (C05.open_ src t sk cs).canSeek = false := rfl
  generalize C05.open_ src t sk cs = s at h0 hn0 hc0
  induction ops generalizing s with
  | nil => exact h0
  | cons op ops ih =>
    have hops' : OpsOk ops := fun o ho => hops o (List.mem_cons_of_mem _ ho)
    cases op with
    | ahead m =>
      have hm : m ≤ 2 ^ 62 := hops (.ahead m) (by simp)
      have hst := ahead_static s m
      exact ih hops' _ (ahead_refines s m h0 hm).1 (noSeekSkip_of_static hst hn0) (by rw [hst.canSeek]; exact hc0)
    | consume n =>
      have hst := (consume_static s n).1
      exact ih hops' _ (consume_suffix s n h0 hn0).1 (noSeekSkip_of_static hst hn0) (by rw [hst.canSeek]; exact hc0)
    | seek off w =>
      obtain ⟨_, c2⟩ := seek_refused_untouched s off w (Or.inr (Or.inl hc0))
      simp only [runOps, c2]
      exact ih hops' s h0 hn0 hc0

/-- **The same for seekable multi-node sources**, for every skip script and every seek
callback script (errors and block-aligned landings at any invocation) and every sequence of
peeks, consumes and seeks in which the client does not read between a failed seek and the next
successful one: the `dataset[]` bookkeeping stays sound (which `seek_in_bounds` needs), and
whenever the filter is in step with its source the representation invariant holds — in
particular after every successful seek. -/
theorem interface_total_seek (nodes : List (List Nat)) (blk : Nat → Nat → Nat → Nat) (t : Term) (sk : List Int)
    (cs : Bool) (seeks : List Int) (hne : nodes ≠ []) (ops : List Op) (hops : OpsOk ops)
    (hsafe : opsSafe { openSeekable nodes blk t sk cs with seeks := seeks } true ops = true) :
    CacheOk (runOps { openSeekable nodes blk t sk cs with seeks := seeks } ops) ∧
    (syncAfter { openSeekable nodes blk t sk cs with seeks := seeks } true ops = true →
      Inv (runOps { openSeekable nodes blk t sk cs with seeks := seeks } ops)) := by
  have hi := inv_open nodes blk t sk cs
  have hc := cacheOk_open nodes blk t sk cs hne
  have hr := remaining_open nodes blk t sk cs hne
  have hj : SeekableInv nodes.flatten { openSeekable nodes blk t sk cs with seeks := seeks } true :=
    { bufLt := hi.bufLt, cache := cacheOk_congr (s := openSeekable nodes blk t sk cs) rfl rfl rfl hc,
      seeker := rfl, bytes := rfl, noSeekSkip := Or.inl rfl,
      sync := fun _ => ⟨{ hi with }, 0, hr⟩ }
  have := (ops_invariant nodes.flatten _ true ops hj hsafe hops).2
  exact ⟨this.cache, fun h => (this.sync h).1⟩

/-- **`__archive_read_filter_seek` never indexes outside `client.dataset[]`**: the model returns
the distinguished status `oob` for an out-of-range index; with sound bookkeeping (one entry per
node) and a behaving seek callback no request of any kind ever produces it. -/
theorem seek_in_bounds (s : State) (off : Int) (w : Whence) (hc : CacheOk s) (hs : s.hasSeeker = true)
    (hcs : s.canSeek = true) (hf : s.fatal = false) (hbl : s.bufSize < 2 ^ 63) (hq : SeeksOk s.seeks) :
    (RA.seek s off w).1 ≠ oob := by
  cases ht : targetOf s off w with
  | none =>
    rw [(targetOf_none ht : w = .other)]
    unfold RA.seek; rw [hf, hcs]
    exact (by decide : (-30 : Int) ≠ -99)
  | some t =>
    obtain ⟨_, p4⟩ := (seek_spec s off w hc hs hcs hf hbl ht).behaved hq
    unfold oob
    split at p4 <;> omega

/-- Where a returned window lives. -/
theorem aheadLoop_shape (s : State) (min : Nat) (w : List Nat) (fc : Bool)
    (h : (aheadLoop s min).1 = .window w fc) :
    (fc = true ∧ w = (aheadLoop s min).2.cb) ∨
    (fc = false ∧ (aheadLoop s min).2.cb = [] ∧
      w = ((aheadLoop s min).2.cblk.drop (aheadLoop s min).2.cnext).take (aheadLoop s min).2.cavail) :=
  (aheadLoop_frame s min).2 w fc h

/-- **The window lies inside live memory**: it is either the valid part of the
copy buffer, which ends before the end of the allocation, or the unread tail of
the current client block, which ends exactly at the end of the block. -/
theorem window_in_bounds (s : State) (min : Nat) (hi : Inv s) (hmin : min ≤ 2 ^ 62)
    (w : List Nat) (fc : Bool) (h : (RA.ahead s min).1 = .window w fc) :
    let s' := (RA.ahead s min).2
    (fc = true ∧ w = s'.cb ∧ s'.next + w.length ≤ s'.bufSize) ∨
    (fc = false ∧ w = s'.cblk.drop s'.cnext ∧ s'.cnext + w.length = s'.cblk.length) := by
  intro s'
  have hi' : Inv s' := (ahead_refines s min hi hmin).1
  by_cases hf : s.fatal = true
  · rw [ahead_failed hf] at h; cases h
  · have hs' : s' = (aheadLoop s min).2 := congrArg Prod.snd (ahead_live ((Bool.not_eq_true _).mp hf) min)
    rw [ahead_live ((Bool.not_eq_true _).mp hf)] at h
    rcases aheadLoop_shape s min w fc h with ⟨a1, a2⟩ | ⟨a1, _, a3⟩
    · rw [← hs'] at a2
      exact Or.inl ⟨a1, a2, by rw [a2]; exact hi'.cbIn⟩
    · rw [← hs', client_take s' hi'.clientEq] at a3
      refine Or.inr ⟨a1, a3, ?_⟩
      rw [a3, List.length_drop]
      have := hi'.clientEq
      omega

/-- The `for (;;)` loop of `__archive_read_filter_ahead` never spins without
progress (the `stuck` outcome of the model is unreachable). -/
theorem ahead_never_stuck (s : State) (min : Nat) (hi : Inv s) (hmin : min ≤ 2 ^ 62) :
    (RA.ahead s min).1 ≠ .stuck := (ahead_refines s min hi hmin).2.2.2.2

/-- Non-vacuity of `interface_total` / `window_in_bounds`: a two-block source and
a peek that straddles the block border. -/
example : SrcOk [[1, 2], [3, 4, 5]] ∧ OpsOk [.ahead 3, .consume 2, .seek 0 .set, .ahead 3] := by
  constructor
  · simp [SrcOk]
  · intro op h; simp at h; rcases h with rfl | rfl | rfl | rfl <;> simp

/-- Non-vacuity of `interface_total_seek`: three nodes, a seek callback that fails at its third
invocation (during the first request), a history with a failed seek followed by a good one and a
request with an unknown `whence`. -/
example : opsSafe { openSeekable [[1, 2, 3], [], [4, 5, 6, 7]] (fun _ _ _ => 2) .eof [] true with seeks := [0, 0, -1] }
    true [.seek 9 .set, .seek 5 .set, .seek 1 .other] = true := by decide

open LA.Filters in
theorem chooseLoop_count (bid init verify : Nat → Bool) (left n : Nat) :
    (chooseLoop bid init verify left n).count ≤ n + left := by
  induction left generalizing n with
  | zero => simp [chooseLoop, Result.count]
  | succ l ih =>
    unfold chooseLoop
    split
    · split
      · have := ih (n + 1); omega
      · simp [Result.count]
    · split <;> simp [Result.count]

open LA.Filters in
/-- **The filter pipeline is capped** whatever the bidders answer: a hostile
stream that every bidder keeps claiming cannot build an unbounded chain. -/
theorem filters_capped (bid init verify : Nat → Bool) :
    (chooseFilters bid init verify).count ≤ LA.Gen.Limits.maxNumberFilters := by
  have := chooseLoop_count bid init verify LA.Gen.Limits.maxNumberFilters 0
  simpa [chooseFilters] using this

open LA.Filters in
theorem chooseLoop_all_bid (init verify : Nat → Bool) (left n : Nat) (hi : ∀ i, init i = true) :
    chooseLoop (fun _ => true) init verify left n = .fatal (n + left) := by
  induction left generalizing n with
  | zero => simp [chooseLoop]
  | succ l ih =>
    unfold chooseLoop
    simp only [if_true, hi]
    rw [ih (n + 1)]
    congr 1; omega

open LA.Filters in
/-- A stream that is claimed at every depth is refused, not accepted. -/
theorem endless_nesting_refused (init verify : Nat → Bool) (hi : ∀ i, init i = true) :
    chooseFilters (fun _ => true) init verify = .fatal LA.Gen.Limits.maxNumberFilters := by
  have := chooseLoop_all_bid init verify LA.Gen.Limits.maxNumberFilters 0 hi
  simpa [chooseFilters] using this

end LA.C01
