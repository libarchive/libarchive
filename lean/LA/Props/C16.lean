/-
C16 — Pattern and criteria matching follows its documented semantics safely.

Part 1: the wildcard matcher, `LA.Pm` (model of archive_pathmatch.c, both the
`char` and the `wchar_t` copy).  Part 2: inclusion/exclusion, time and owner
criteria, `LA.Match` (model of the decision logic of archive_match.c).

Termination of the matcher is definitional: `matchAt`, `matchBody`, `unanch`,
`pm`, `pmLoop`, `star` are accepted by Lean's well-founded recursion on the
measure (pattern left, call kind, subject left); there is no fuel anywhere.

Strings are lists of code units; "pattern/subject characters are non-NUL" is the
C-string invariant `NoNul`.  The memory-safety theorems do not even need it (a
NUL inside the list reads as a terminator and stops the scan early); the
declarative ones do, and say so.
-/
import LA.Lemmas.PmGlob
import LA.Lemmas.Match
namespace LA.C16
open LA.Pm

/-- "a[!b]", "a" -/
def witnessPattern : List Nat := [97, 91, 33, 98, 93]
def witnessSubject : List Nat := [97]

/-! ## Evaluation never reads outside the pattern and path strings -/

/-- `pm()` / `pm_w()` started anywhere inside the two strings never reads an index
beyond either terminator: for all patterns, subjects, flags, start offsets. -/
theorem pm_no_oob (cfg : Cfg) (hg : cfg.guardClass = true) (p s : List Nat) (fl : Flags)
    (pi si : Nat) (hpi : pi ≤ p.length) (hsi : si ≤ s.length) :
    pm cfg p s fl pi si ≠ .oob :=
  (safe_all cfg hg p s).2.2.2.1 fl pi si hpi hsi

example : pm narrow witnessPattern witnessSubject ⟨false, false⟩ 0 0 = .no := by
  simp [witnessPattern, witnessSubject, pm_eq, pmLoop_eq, rd, dotSlash, classEnd]

/-- `__archive_pathmatch()` / `__archive_pathmatch_w()` on two non-NULL strings. -/
theorem matchAt_no_oob (cfg : Cfg) (hg : cfg.guardClass = true) (p s : List Nat) (fl : Flags)
    (pi si : Nat) (hpi : pi ≤ p.length) (hsi : si ≤ s.length) :
    matchAt cfg p s fl pi si ≠ .oob :=
  (safe_all cfg hg p s).1 fl pi si hpi hsi

/-- The entry points, NULL pointers included. -/
theorem pathmatch_no_oob (cfg : Cfg) (hg : cfg.guardClass = true) (p s : Option (List Nat)) (fl : Flags) :
    pathmatch cfg p s fl ≠ .oob := by
  cases p <;> cases s <;> simp [pathmatch]
  exact matchAt_no_oob cfg hg _ _ fl 0 0 (Nat.zero_le _) (Nat.zero_le _)

example : pathmatch wide (some [97]) (some [97, 47, 98]) ⟨false, true⟩ = .yes := by
  simp [pathmatch, matchAt_eq, matchBody_eq, pm_eq, pmLoop_eq, rd, dotSlash]

/-- The verdict is therefore always a plain yes/no. -/
theorem pathmatch_total (cfg : Cfg) (hg : cfg.guardClass = true) (p s : Option (List Nat)) (fl : Flags) :
    pathmatch cfg p s fl = .yes ∨ pathmatch cfg p s fl = .no := by
  have := pathmatch_no_oob cfg hg p s fl
  cases h : pathmatch cfg p s fl <;> simp_all

/-- The statement above is **false of the code before the `fix:` commit** (model with
`guardClass := false`): pattern `a[!b]` against `a` lets the class accept the
terminator and the next iteration reads one past it.  Replayed on the real code by
`corpus/C16/pm.class-at-nul.ops`. -/
theorem unrepaired_reads_past_end :
    pathmatch narrowUnrepaired (some witnessPattern) (some witnessSubject) ⟨false, false⟩ = .oob := by
  simp [witnessPattern, witnessSubject, pathmatch, matchAt_eq, matchBody_eq, pm_eq, pmLoop_eq, rd, dotSlash,
    classEnd, pmList, pmListLoop, narrowUnrepaired]

/-! ## The narrow and wide entry points agree -/

/-- On strings of 7-bit code units (the property's alphabet) `__archive_pathmatch` and
`__archive_pathmatch_w` return the same verdict.  Beyond 7 bits they cannot: the
narrow matcher sees bytes, signed, the wide one code points. -/
theorem narrow_wide_agree (p s : Option (List Nat)) (fl : Flags)
    (hp : ∀ x, p = some x → Ascii x) (hs : ∀ x, s = some x → Ascii x) :
    pathmatch narrow p s fl = pathmatch wide p s fl := by
  cases p <;> cases s <;> simp [pathmatch]
  rename_i p s
  exact ((nw_all p s (hp p rfl) (hs s rfl)).1 fl 0 0).symm

example : Ascii witnessPattern := by simp [Ascii, witnessPattern]

/-- The restriction is needed: byte 0x80 is below 'a' for `char`, above it for `wchar_t`. -/
theorem narrow_wide_differ_beyond_ascii :
    pathmatch narrow (some [91, 97, 45, 128, 93]) (some [98]) ⟨false, false⟩ = .no ∧
    pathmatch wide (some [91, 97, 45, 128, 93]) (some [98]) ⟨false, false⟩ = .yes := by
  constructor <;>
  simp [pathmatch, matchAt_eq, matchBody_eq, pm_eq, pmLoop_eq, rd, dotSlash, classEnd, pmList, pmListLoop,
    narrow, wide, sext, Res.ofBool]

/-! ## Documented semantics, declaratively -/

/-- `?` consumes exactly one character of the subject, whatever it is (also `/`). -/
theorem pm_question (cfg : Cfg) (p s : List Nat) (fl : Flags) (pi si : Nat) (hs : NoNul s)
    (hq : rd p pi = some C_QUEST) (hsi : si < s.length) :
    pmLoop cfg p s fl pi si = pmLoop cfg p s fl (pi + 1) (si + 1) :=
  pm_question' cfg p s fl pi si hs hq hsi

/-- `?` never matches the end of the subject. -/
theorem pm_question_at_end (cfg : Cfg) (p s : List Nat) (fl : Flags) (pi : Nat)
    (hq : rd p pi = some C_QUEST) :
    pmLoop cfg p s fl pi s.length = .no :=
  pm_question_at_end' cfg p s fl pi hq

example : rd [97, 63, 98] 1 = some C_QUEST := by simp [rd]

/-- A run of `*` matches iff nothing follows it, or the rest of the pattern matches (through
the entry point, as the C does) at some position of the subject that is not its end. -/
theorem pm_star (cfg : Cfg) (hg : cfg.guardClass = true) (p s : List Nat) (hs : NoNul s) (fl : Flags)
    (pi si pj : Nat) (hstar : rd p pi = some C_STAR) (hpj : skipStars p pi = some pj)
    (hsi : si ≤ s.length) :
    pmLoop cfg p s fl pi si = .yes ↔
      rd p pj = some 0 ∨ ∃ sj, si ≤ sj ∧ sj < s.length ∧ matchAt cfg p s fl pj sj = .yes :=
  pmLoop_star_iff cfg hg p s hs fl pi si pj hstar hpj hsi

example : skipStars [42, 42, 97] 0 = some 2 := by
  simp [skipStars_eq, rd]

/-- A trailing `*` matches everything. -/
theorem pm_star_trailing (cfg : Cfg) (p s : List Nat) (fl : Flags) (pi si : Nat)
    (hstar : rd p pi = some C_STAR) (hpj : skipStars p pi = some p.length) :
    pmLoop cfg p s fl pi si = .yes := by
  rw [pmLoop_eq]; simp [hstar, hpj, rd_len]

/-- A pattern of ordinary characters matches a slash-free subject iff they are equal. -/
theorem pm_literal (cfg : Cfg) (p s : List Nat) (fl : Flags) (hp : ∀ c ∈ p, Lit c) (hs : NoNul s)
    (hns : ∀ c ∈ s, c ≠ C_SLASH) :
    pm cfg p s fl 0 0 = .ofBool (p = s) := by
  have hps : ∀ c ∈ p, c ≠ C_SLASH := fun c hc => (hp c hc).2.2.2.2.2.1
  rw [pm_of_dotSlash (dotSlash_noSlash hns 0 (Nat.zero_le _)) (dotSlash_noSlash hps 0 (Nat.zero_le _))]
  simpa using pmLoop_literal cfg p s fl hp hs hns 0 0 (Nat.zero_le _) (Nat.zero_le _)

example : ∀ c ∈ [97, 46, 98], Lit c := by simp [Lit]

/-- With `PATHMATCH_NO_ANCHOR_START` (and no leading `^`, `*`, `/`) the entry point succeeds iff
`pm()` succeeds at the start of some path element: the beginning, or just after any `/`. -/
theorem unanchored_start (cfg : Cfg) (hg : cfg.guardClass = true) (p s : List Nat) (hs : NoNul s)
    (fl : Flags) (hf : fl.noStart = true) (c : Nat) (hc : rd p 0 = some c) (hc0 : c ≠ 0)
    (hcc : c ≠ C_CARET) (hcs : c ≠ C_STAR) (hcl : c ≠ C_SLASH) :
    matchAt cfg p s fl 0 0 = .yes ↔ ∃ k, ElemStart s 0 k ∧ pm cfg p s fl 0 k = .yes := by
  rw [matchAt_ordinary hc hc0 hcc hcs hcl (Nat.zero_le _), if_pos hf]
  exact unanch_yes_iff cfg hg p s hs fl 0 (Nat.zero_le _) 0 (Nat.zero_le _)

example : ElemStart [97, 47, 98] 0 2 := .inr ⟨1, by simp [firstStart, rd], by simp, by simp, rfl⟩

/-- A leading `^` switches `PATHMATCH_NO_ANCHOR_START` off and is otherwise dropped. -/
theorem caret_anchors_start (cfg : Cfg) (p s : List Nat) (fl : Flags) (h : rd p 0 = some C_CARET) :
    matchAt cfg p s fl 0 0 = matchBody cfg p s { fl with noStart := false } 1 0 := by
  rw [matchAt_eq]; simp [h]

/-- Without `PATHMATCH_NO_ANCHOR_START` the match starts at the beginning only. -/
theorem anchored_start (cfg : Cfg) (p s : List Nat) (fl : Flags) (hf : fl.noStart = false)
    (c d : Nat) (hc : rd p 0 = some c) (hd : rd s 0 = some d) (hc0 : c ≠ 0)
    (hcc : c ≠ C_CARET) (hcs : c ≠ C_STAR) (hcl : c ≠ C_SLASH) :
    matchAt cfg p s fl 0 0 = pm cfg p s fl 0 0 := by
  rw [matchAt_ordinary hc hc0 hcc hcs hcl (rd_le hd)]; simp [hf]

/-- End of pattern, `PATHMATCH_NO_ANCHOR_END`: accepted at a `/` boundary of the subject
(a pattern naming a directory also matches what is below it). -/
theorem end_unanchored_at_slash (cfg : Cfg) (p s : List Nat) (fl : Flags) (pi si : Nat)
    (hp : rd p pi = some 0) (hs : rd s si = some C_SLASH) (hf : fl.noEnd = true) :
    pmLoop cfg p s fl pi si = .yes :=
  pmLoop_end_noEnd hp hs hf

/-- End of pattern, anchored end: only `/`, `./` and a final `.` may remain ("dir" == "dir/" == "dir/."). -/
theorem end_anchored (cfg : Cfg) (p s : List Nat) (fl : Flags) (pi si sj : Nat)
    (hp : rd p pi = some 0) (hs : rd s si = some C_SLASH) (hf : fl.noEnd = false)
    (hk : slashskip s si = some sj) :
    pmLoop cfg p s fl pi si = .ofBool (rd s sj = some 0) := by
  obtain ⟨d, hd⟩ := rd_isSome (slashskip_le hk)
  rw [pmLoop_eq]; simp [hp, hs, hf, hk, hd]

/-- End of pattern away from a `/`: the subject must end too, whatever the flags. -/
theorem end_not_at_slash (cfg : Cfg) (p s : List Nat) (fl : Flags) (pi si d : Nat)
    (hp : rd p pi = some 0) (hs : rd s si = some d) (hd : d ≠ C_SLASH) :
    pmLoop cfg p s fl pi si = .ofBool (d = 0) :=
  pmLoop_end hp hs hd

/-- A final `$` under `PATHMATCH_NO_ANCHOR_END` anchors the end (modulo trailing `/`, `/.`). -/
theorem dollar_anchors_end (cfg : Cfg) (p s : List Nat) (fl : Flags) (pi si sj : Nat)
    (hp : rd p pi = some C_DOLLAR) (hp1 : rd p (pi + 1) = some 0) (hf : fl.noEnd = true)
    (hk : slashskip s si = some sj) :
    pmLoop cfg p s fl pi si = .ofBool (rd s sj = some 0) := by
  obtain ⟨d, hd⟩ := rd_isSome (slashskip_le hk)
  rw [pmLoop_eq]; simp [hp, hp1, hf, hk, hd]

/-- Leading `./` (and what `pm_slashskip` swallows after it) of the subject is ignored. -/
theorem leading_dot_slash_subject (cfg : Cfg) (p s : List Nat) (fl : Flags) (pi si sj pj : Nat)
    (h0 : rd s si = some C_DOT) (h1 : rd s (si + 1) = some C_SLASH) (hk : slashskip s (si + 1) = some sj)
    (hpd : dotSlash p pi = some pj) :
    pm cfg p s fl pi si = pmLoop cfg p s fl pj sj :=
  pm_of_dotSlash (by simp [dotSlash, h0, h1, hk]) hpd

/-- … and of the pattern. -/
theorem leading_dot_slash_pattern (cfg : Cfg) (p s : List Nat) (fl : Flags) (pi si sj pj : Nat)
    (h0 : rd p pi = some C_DOT) (h1 : rd p (pi + 1) = some C_SLASH) (hk : slashskip p (pi + 1) = some pj)
    (hsd : dotSlash s si = some sj) :
    pm cfg p s fl pi si = pmLoop cfg p s fl pj sj :=
  pm_of_dotSlash hsd (by simp [dotSlash, h0, h1, hk])

example : slashskip [46, 47, 47, 46, 47, 97] 1 = some 5 := by
  simp [slashskip_eq, rd]

/-- A `/` in the pattern matches one or more `/` (with `./` segments) of the subject, or its end. -/
theorem slash_run (cfg : Cfg) (p s : List Nat) (fl : Flags) (pi si pj sj d c' : Nat)
    (hp : rd p pi = some C_SLASH) (hs : rd s si = some d) (hd : d = C_SLASH ∨ d = 0)
    (hpk : slashskip p pi = some pj) (hsk : slashskip s si = some sj) (hc' : rd p pj = some c')
    (hne : ¬ (c' = 0 ∧ fl.noEnd = true)) :
    pmLoop cfg p s fl pi si = pmLoop cfg p s fl pj sj := by
  rw [pmLoop_eq]
  have : ¬ (d ≠ C_SLASH ∧ d ≠ 0) := by rcases hd with h | h <;> simp [h]
  simp only [hp, hs, hpk, hsk, hc']
  simp [this, hne]

/-! ## Against an independent declarative specification (wildcard fragment) -/

/-- `pm()` on patterns made of ordinary characters, `?` and `*`, against slash-free pathnames, is
textbook glob matching (`LA.Pm.Glob`, an inductive relation that knows nothing of the C), for
every flag set. -/
theorem pm_spec_fragment (cfg : Cfg) (hg : cfg.guardClass = true) (p s : List Nat) (fl : Flags)
    (hp : Frag p) (hs : NoNul s) (hns : ∀ c ∈ s, c ≠ C_SLASH) :
    pm cfg p s fl 0 0 = .yes ↔ Glob p s := by
  rw [pm_of_dotSlash (dotSlash_noSlash hns 0 (Nat.zero_le _))
    (dotSlash_noSlash (fun c hc => (hp.ordinary hc).2.1) 0 (Nat.zero_le _))]
  simpa using pmLoop_glob cfg hg p s fl hp hs hns 0 (Nat.zero_le _) 0 (Nat.zero_le _)

/-- The same at the entry points `__archive_pathmatch` / `__archive_pathmatch_w`. -/
theorem pathmatch_spec_fragment (cfg : Cfg) (hg : cfg.guardClass = true) (p s : List Nat) (fl : Flags)
    (hp : Frag p) (hs : NoNul s) (hns : ∀ c ∈ s, c ≠ C_SLASH) :
    pathmatch cfg (some p) (some s) fl = .yes ↔ Glob p s := by
  simp only [pathmatch]
  rw [matchAt_noSlash cfg p s fl (fun c hc => (hp.ordinary hc).2.1) hns 0 0 (Nat.zero_le _) (Nat.zero_le _)
    fun h => rd_ne_of_forall (fun c hc => (hp.ordinary hc).2.2) (by decide) h rfl]
  simpa using pmLoop_glob cfg hg p s fl hp hs hns 0 (Nat.zero_le _) 0 (Nat.zero_le _)

example : Glob [97, 42, 63] [97, 98, 99, 100] :=
  .lit (by decide) (by decide) (.star 2 (.any .nil))

/-! # Part 2 — inclusion / exclusion, time and owner criteria (archive_match.c) -/

open LA.Match
open LA.Gen.MatchFlags

/-! ## Paths -/

/-- Exclusions win over inclusions: whatever the inclusion patterns and their marks, a
pathname matched by an exclusion pattern is excluded. -/
theorem exclusion_wins (st : State) (pn : Option (List Nat)) (m : Pat) (hm : m ∈ st.exclusions)
    (h : matchPathExclusion m pn = true) :
    (pathExcluded st pn).2 = 1 := by
  have : st.exclusions.any (matchPathExclusion · pn) = true := List.any_eq_true.mpr ⟨m, hm, h⟩
  simp [pathExcluded, pathVerdict, this]

example : matchPathExclusion { pat := [97] } (some [120, 47, 97, 47, 121]) = true := by
  simp [matchPathExclusion, patMatches, pathmatch, matchAt_eq, matchBody_eq, unanch_eq, pm_eq, pmLoop_eq, rd,
    dotSlash, strchrSlash_eq]

/-- With no exclusion matching: included iff there are no inclusions or one of them matches. -/
theorem inclusion_decides (st : State) (pn : Option (List Nat))
    (hx : ∀ m ∈ st.exclusions, matchPathExclusion m pn = false) :
    (pathExcluded st pn).2 = 0 ↔
      st.inclusions = [] ∨ ∃ m ∈ st.inclusions, matchPathInclusion st m pn = true := by
  have hx' : st.exclusions.any (matchPathExclusion · pn) = false := by
    rw [List.any_eq_false]; intro m hm; simp [hx m hm]
  -- after the marking loop a pattern that matches is marked, so the second loop finds it
  have hany : (markInclusions st pn st.inclusions).1.any (fun m => m.matched && matchPathInclusion st m pn) =
      st.inclusions.any (matchPathInclusion st · pn) := by
    rw [markInclusions_marks, List.any_map]
    congr 1; funext m
    show ((m.matched || matchPathInclusion st m pn) && matchPathInclusion st m pn) = _
    cases m.matched <;> simp
  simp only [pathExcluded, pathVerdict, hx', Bool.false_eq_true, if_false]
  rw [hany, markInclusions_newly, markInclusions_marks, List.isEmpty_map, ← List.any_eq_true]
  cases hm : st.inclusions.any (matchPathInclusion st · pn)
  · have : st.inclusions.countP (fun m => !m.matched && matchPathInclusion st m pn) = 0 :=
      List.countP_eq_zero.mpr fun m hmem => by simp [List.any_eq_false.mp hm m hmem]
    rw [this]
    cases st.inclusions <;> simp
  · simp

/-- A pattern naming a directory also matches what is below it (recursive inclusion is the
default): literal pattern `p`, pathname `p/…`. -/
theorem directory_pattern_covers_children (st : State) (hr : st.recursiveInclude = true)
    (p rest : List Nat) (hp : ∀ c ∈ p, Lit c) (c0 : Nat) (hc0 : p.head? = some c0)
    (hdot : c0 ≠ C_DOT) (hcar : c0 ≠ C_CARET) :
    matchPathInclusion st { pat := p } (some (p ++ C_SLASH :: rest)) = true := by
  obtain ⟨q, rfl⟩ : ∃ q, p = c0 :: q := by
    cases p with
    | nil => cases hc0
    | cons a q => cases hc0; exact ⟨q, rfl⟩
  have hl := hp c0 (List.mem_cons_self)
  have hrp : rd (c0 :: q) 0 = some c0 := rfl
  have hrs : rd (c0 :: q ++ C_SLASH :: rest) 0 = some c0 := rfl
  simp only [matchPathInclusion, patMatches, pathmatch]
  rw [matchAt_ordinary hrp hl.1 hcar hl.2.1 hl.2.2.2.2.2.1 (Nat.zero_le _), if_neg (by simp),
    pm_of_dotSlash (dotSlash_of_ne hrs hdot) (dotSlash_of_ne hrp hdot),
    pmLoop_literal_dir narrow _ rest ⟨false, st.recursiveInclude⟩ hr hp 0 (Nat.zero_le _)]
  rfl

example : ∀ c ∈ [100, 105, 114], Lit c := by simp [Lit]

/-! ## Unmatched-inclusion bookkeeping, over every history of calls -/

/-- The calls that can change an `archive_match` object. -/
inductive Op
  | includePattern (p : Option (List Nat))
  | excludePattern (p : Option (List Nat))
  | setRecursion (b : Bool)
  | pathExcluded (e : Entry)
  | excluded (e : Entry)
  | unmatchedNext
  | includeTime (flag : Nat) (sec nsec : Int)
  | excludeEntry (flag : Nat) (e : Entry)
  | includeUid (id : Int)
  | includeGid (id : Int)
  | includeUname (n : List Nat)
  | includeGname (n : List Nat)

def step (st : State) : Op → State
  | .includePattern p => (includePattern st p).getD st
  | .excludePattern p => (excludePattern st p).getD st
  | .setRecursion b => { st with recursiveInclude := b }
  | .pathExcluded e => (apiPathExcluded st e).1
  | .excluded e => (excluded st e).1
  | .unmatchedNext => (unmatchedNextStep st).1
  | .includeTime f s n => (includeTime st f s n).getD st
  | .excludeEntry f e => (excludeEntry st f e).getD st
  | .includeUid i => includeUid st i
  | .includeGid i => includeGid st i
  | .includeUname n => includeUname st n
  | .includeGname n => includeGname st n

/-- State after a history of calls on a fresh object. -/
def run (ops : List Op) : State := ops.foldl step {}

theorem setTimefilter_keeps (st : State) (f : Nat) (a b c d : Int) :
    (setTimefilter st f a b c d).inclusions = st.inclusions ∧
    (setTimefilter st f a b c d).unmatchedCount = st.unmatchedCount ∧
    (setTimefilter st f a b c d).uids = st.uids ∧ (setTimefilter st f a b c d).gids = st.gids := by
  simp only [setTimefilter, apply_ite State.inclusions, apply_ite State.unmatchedCount, apply_ite State.uids,
    apply_ite State.gids, ite_self, and_self]

theorem unmatchedNextStep_keeps (st : State) :
    (unmatchedNextStep st).1.inclusions = st.inclusions ∧
    (unmatchedNextStep st).1.unmatchedCount = st.unmatchedCount ∧
    (unmatchedNextStep st).1.uids = st.uids ∧ (unmatchedNextStep st).1.gids = st.gids := by
  simp [unmatchedNextStep]

theorem excludeEntry_keeps (st st' : State) (f : Nat) (e : Entry) (h : excludeEntry st f e = some st') :
    st'.inclusions = st.inclusions ∧ st'.unmatchedCount = st.unmatchedCount ∧
    st'.uids = st.uids ∧ st'.gids = st.gids := by
  unfold excludeEntry at h
  split at h
  · cases h
  · split at h
    · cases h
    · split at h <;> (cases h; simp)

theorem excludePattern_keeps (st st' : State) (p : Option (List Nat)) (h : excludePattern st p = some st') :
    st'.inclusions = st.inclusions ∧ st'.unmatchedCount = st.unmatchedCount ∧
    st'.uids = st.uids ∧ st'.gids = st.gids := by
  unfold excludePattern at h
  split at h
  · cases h
  · cases h
  · cases h; simp

theorem includePattern_keeps (st st' : State) (p : Option (List Nat)) (h : includePattern st p = some st') :
    st'.uids = st.uids ∧ st'.gids = st.gids := by
  unfold includePattern at h
  split at h
  · cases h
  · cases h
  · cases h; simp

theorem excluded_state (st : State) (e : Entry) :
    (excluded st e).1 = if st.patternSet then (pathExcluded st e.path).1 else st := by
  unfold excluded
  split <;> rfl

theorem step_inv (st : State) (op : Op) (h : CountInv st) : CountInv (step st op) := by
  cases op with
  | includePattern p => exact getD_elim h fun st' hs => includePattern_inv st st' p h hs
  | excludePattern p => exact getD_elim h fun st' hs => let k := excludePattern_keeps st st' p hs; h.congr k.1 k.2.1
  | setRecursion b => exact h.congr rfl rfl
  | pathExcluded e =>
    simp only [step, apiPathExcluded]
    split
    · exact h
    · exact pathExcluded_inv st e.path h
  | excluded e =>
    simp only [step, excluded_state]
    split
    · exact pathExcluded_inv st e.path h
    · exact h
  | unmatchedNext => exact h.congr (unmatchedNextStep_keeps st).1 (unmatchedNextStep_keeps st).2.1
  | includeTime f s n =>
    simp only [step, includeTime]
    split
    · exact h.congr (setTimefilter_keeps st f s n s n).1 (setTimefilter_keeps st f s n s n).2.1
    · exact h
  | excludeEntry f e => exact getD_elim h fun st' hs => let k := excludeEntry_keeps st st' f e hs; h.congr k.1 k.2.1
  | includeUid i => exact h.congr rfl rfl
  | includeGid i => exact h.congr rfl rfl
  | includeUname n => exact h.congr rfl rfl
  | includeGname n => exact h.congr rfl rfl

/-- For every history of calls, `archive_match_path_unmatched_inclusions()` is the number of
inclusion patterns whose `matched` mark is still clear. -/
theorem unmatched_count_invariant (ops : List Op) :
    unmatchedInclusions (run ops) = ((run ops).inclusions.filter (fun m => !m.matched)).length := by
  exact foldl_invariant step_inv ops (a := {}) (by simp [CountInv, unmatchedOf])

example : unmatchedInclusions (run [.includePattern (some [97]), .includePattern (some [98]),
    .pathExcluded { path := some [97] }]) = 1 := by
  rw [unmatched_count_invariant]
  simp [run, step, includePattern, stripSlash, apiPathExcluded, pathExcluded, markInclusions,
    matchPathInclusion, patMatches, pathmatch, matchAt_eq, matchBody_eq, pm_eq, pmLoop_eq, rd, dotSlash,
    Res.ofBool]

/-- … and a mark is set by a query exactly when the pattern was already marked or matches it. -/
theorem marks_after_query (st : State) (pn : Option (List Nat)) (i : Nat) (hi : i < st.inclusions.length) :
    ∃ h : i < (pathExcluded st pn).1.inclusions.length,
      ((pathExcluded st pn).1.inclusions[i]).matched =
        (st.inclusions[i].matched || matchPathInclusion st st.inclusions[i] pn) ∧
      ((pathExcluded st pn).1.inclusions[i]).pat = st.inclusions[i].pat := by
  rw [show (pathExcluded st pn).1.inclusions = _ from markInclusions_marks st pn st.inclusions]
  exact ⟨by simpa using hi, by simp⟩

/-! ## Times -/

/-- "newer than" filter `f` rejects time `t`: `t` is lexicographically below the reference, or
equal to it when ARCHIVE_MATCH_EQUAL is not part of the filter. -/
def TooOld (f : TimeFilter) (t : Int × Int) : Prop :=
  f.filter ≠ 0 ∧ (tlt t (f.sec, f.nsec) ∨ (t = (f.sec, f.nsec) ∧ has f.filter matchEqual = false))

/-- "older than" filter `f` rejects time `t`. -/
def TooNew (f : TimeFilter) (t : Int × Int) : Prop :=
  f.filter ≠ 0 ∧ (tlt (f.sec, f.nsec) t ∨ (t = (f.sec, f.nsec) ∧ has f.filter matchEqual = false))

/-- The four time filters are the lexicographic order on (sec, nsec) with the EQUAL bit; the
ctime filters fall back to mtime when the entry has no ctime.  (No per-pathname records.) -/
theorem time_excluded_lex (st : State) (e : Entry) (hx : st.exclFiles = []) :
    timeExcluded st e = true ↔
      (let c := if e.ctimeSet then (e.ctimeSec, e.ctimeNsec) else (e.mtimeSec, e.mtimeNsec)
       let m := (e.mtimeSec, e.mtimeNsec)
       TooOld st.newerCtime c ∨ TooNew st.olderCtime c ∨ TooOld st.newerMtime m ∨ TooNew st.olderMtime m) := by
  have hc : (if e.ctimeSet then (e.ctimeSec, e.ctimeNsec) else (e.mtimeSec, e.mtimeNsec)) =
      ((if e.ctimeSet then e.ctimeSec else e.mtimeSec), (if e.ctimeSet then e.ctimeNsec else e.mtimeNsec)) := by
    split <;> rfl
  simp only [hc, TooOld, TooNew, ← newerRejects_iff, ← olderRejects_iff]
  simp [timeExcluded, hx]

example : timeExcluded { newerMtime := ⟨matchMtime ||| matchNewer, 100, 5⟩ } { mtimeSec := 100, mtimeNsec := 5 } = true := by
  decide

/-- A per-pathname record `(flag, fsec, fnsec)` rejects the entry time `t` iff the record is
later and OLDER is asked, earlier and NEWER is asked, or equal and EQUAL is asked. -/
theorem file_rejects_lex (flag : Nat) (fsec fnsec sec nsec : Int) :
    fileRejects flag fsec fnsec sec nsec = true ↔
      (tlt (sec, nsec) (fsec, fnsec) ∧ has flag matchOlder = true) ∨
      (tlt (fsec, fnsec) (sec, nsec) ∧ has flag matchNewer = true) ∨
      ((sec, nsec) = (fsec, fnsec) ∧ has flag matchEqual = true) := by
  unfold fileRejects tlt
  simp only [Prod.mk.injEq, gt_iff_lt]
  rcases Int.lt_trichotomy sec fsec with h | rfl | h
  · simp [h, Int.lt_asymm h, Int.ne_of_lt h, (Int.ne_of_lt h).symm]
  · rcases Int.lt_trichotomy nsec fnsec with h | rfl | h
    · simp [h, Int.lt_asymm h, Int.ne_of_lt h]
    · simp
    · simp [h, Int.lt_asymm h, (Int.ne_of_lt h).symm]
  · simp [h, Int.lt_asymm h, Int.ne_of_lt h, (Int.ne_of_lt h).symm]

/-! ## Owners -/

theorem step_sorted (st : State) (op : Op) (h : Sorted st.uids ∧ Sorted st.gids) :
    Sorted (step st op).uids ∧ Sorted (step st op).gids := by
  have keep : ∀ o : Option State, (∀ st', o = some st' → st'.uids = st.uids ∧ st'.gids = st.gids) →
      Sorted (o.getD st).uids ∧ Sorted (o.getD st).gids := fun o k =>
    getD_elim (P := fun s => Sorted s.uids ∧ Sorted s.gids) h fun st' hs => sorted_ids_congr h (k st' hs).1 (k st' hs).2
  cases op with
  | includePattern p => exact keep _ fun st' hs => includePattern_keeps st st' p hs
  | excludePattern p => exact keep _ fun st' hs => (excludePattern_keeps st st' p hs).2.2
  | setRecursion b => exact h
  | pathExcluded e => simp only [step, apiPathExcluded]; split <;> exact h
  | excluded e => simp only [step, excluded_state]; split <;> exact h
  | unmatchedNext => exact h
  | includeTime f s n =>
    simp only [step, includeTime]
    split
    · exact sorted_ids_congr h (setTimefilter_keeps st f s n s n).2.2.1 (setTimefilter_keeps st f s n s n).2.2.2
    · exact h
  | excludeEntry f e => exact keep _ fun st' hs => (excludeEntry_keeps st st' f e hs).2.2
  | includeUid i => exact ⟨insertId_sorted _ _ h.1, h.2⟩
  | includeGid i => exact ⟨h.1, insertId_sorted _ _ h.2⟩
  | includeUname n => exact h
  | includeGname n => exact h

/-- The id arrays stay strictly sorted through every history (what the binary search needs). -/
theorem ids_sorted (ops : List Op) : Sorted (run ops).uids ∧ Sorted (run ops).gids := by
  exact foldl_invariant step_sorted ops (a := {}) (by simp [Sorted])

/-- An owner name criterion is met by a non-empty name equal to one of the stored names. -/
def NameIn (names : List Pat) (name : Option (List Nat)) : Prop :=
  ∃ n, name = some n ∧ n ≠ [] ∧ n ∈ names.map (·.pat)

/-- After any history of calls: an entry is excluded by owner iff some non-empty criterion
(uids, gids, user names, group names) does not contain its value.  (The uid/gid tests are a
binary search in the C; this says it is plain membership.) -/
theorem owner_excluded_spec (ops : List Op) (e : Entry) :
    ownerExcluded (run ops) e = true ↔
      ((run ops).uids ≠ [] ∧ e.uid ∉ (run ops).uids) ∨
      ((run ops).gids ≠ [] ∧ e.gid ∉ (run ops).gids) ∨
      ((run ops).unames ≠ [] ∧ ¬ NameIn (run ops).unames e.uname) ∨
      ((run ops).gnames ≠ [] ∧ ¬ NameIn (run ops).gnames e.gname) := by
  obtain ⟨hu, hg⟩ := ids_sorted ops
  exact ownerExcluded_iff (run ops) hu hg e

example : ownerExcluded (run [.includeUid 5, .includeUid 3, .includeUid 9]) { uid := 4 } = true := by
  rw [owner_excluded_spec]; simp [run, step, includeUid, insertId]

/-! ## The combined verdict -/

/-- `archive_match_excluded` is the disjunction of the three tests, each consulted only when a
criterion of its kind was ever set, in the order path, time, owner. -/
theorem excluded_is_disjunction (st : State) (e : Entry) :
    (excluded st e).2 ≠ 0 ↔
      (st.patternSet = true ∧ (pathExcluded st e.path).2 ≠ 0) ∨
      (st.timeSet = true ∧ timeExcluded (excluded st e).1 e = true) ∨
      (st.idSet = true ∧ ownerExcluded (excluded st e).1 e = true) := by
  unfold excluded
  dsimp only
  rw [first_nonzero]
  cases st.patternSet
  · simp
  · have ht : (pathExcluded st e.path).1.timeSet = st.timeSet := rfl
    have hi : (pathExcluded st e.path).1.idSet = st.idSet := rfl
    simp [ht, hi]

/-! ### Per-pathname exclusion records: the last registration wins (all four time fields)

`add_entry` overwrites an existing record for the same pathname ("We always overwrite comparison condition").
After a successful `archive_match_exclude_entry`, *every* record for that pathname carries exactly the flag
and the four time fields of the entry just registered, whatever was registered for it before, and records of
other pathnames are untouched. -/
theorem excludeEntry_last_wins (st st' : State) (flag : Nat) (e : Entry) (pn : List Nat)
    (hp : e.path = some pn) (h : excludeEntry st flag e = some st') :
    (∃ g ∈ st'.exclFiles, g.path = pn) ∧
    (∀ g ∈ st'.exclFiles, g.path = pn →
      g = ⟨pn, flag, e.mtimeSec, e.mtimeNsec, e.ctimeSec, e.ctimeNsec⟩) := by
  refine ⟨⟨_, (mem_excludeEntry hp h _).mpr (.inr rfl), rfl⟩, fun g hg hgp => ?_⟩
  rcases (mem_excludeEntry hp h g).mp hg with ⟨_, hne⟩ | rfl
  · exact absurd hgp hne
  · rfl

theorem excludeEntry_others_kept (st st' : State) (flag : Nat) (e : Entry) (pn : List Nat)
    (hp : e.path = some pn) (h : excludeEntry st flag e = some st') (g : ExclFile) (hg : g.path ≠ pn) :
    g ∈ st'.exclFiles ↔ g ∈ st.exclFiles := by
  rw [mem_excludeEntry hp h]
  constructor
  · rintro (⟨hm, _⟩ | rfl)
    · exact hm
    · exact absurd rfl hg
  · exact fun hm => .inl ⟨hm, hg⟩

/-- Non-vacuity: a second registration with different mtime/ctime nanoseconds replaces all four fields. -/
example : (excludeEntry { exclFiles := [⟨[102], matchCtime ||| matchOlder, 100, 700, 100, 300⟩] }
    (matchCtime ||| matchOlder) { path := some [102], mtimeSec := 100, mtimeNsec := 500, ctimeSet := true, ctimeSec := 100, ctimeNsec := 900 }).map (·.exclFiles)
    = some [⟨[102], matchCtime ||| matchOlder, 100, 500, 100, 900⟩] := by decide

end LA.C16
