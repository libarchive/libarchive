/-
C14 — Entry objects are coherent: getters reflect setters, clones are equal.

Property theorems over `LA.Entry` (model of archive_entry.c, archive_entry_sparse.c,
archive_entry_xattr.c, archive_entry_stat.c, archive_entry_copy_stat.c,
archive_entry_strmode.c).  Helper lemmas: LA/Lemmas/Entry*.lean.

Reading guide.  `Op` is the alphabet of calls (setters, unsetters, copy_stat, clear
and the state-changing iterator/“getter” calls), `run e ops` a finite history
(`none` = some call executed undefined behaviour, which only FIX_NS can do),
`Getter`/`obs` the public getters, `Getter.group` the group of fields a getter
reads and `touches op G` whether a call can change that group.
-/
import LA.Lemmas.EntryInv2
namespace LA.C14
open LA.Entry LA.Gen.EntryBits

/-! ## nanoseconds normalised into seconds (the FIX_NS macro) -/

/-- Inside the no-overflow range the macro yields `0 ≤ nsec < 10^9`, preserves the
instant `sec·10^9 + nsec`, and the seconds are the floor quotient — for **all**
integers `t` (an int64) and `ns` (any integer, in particular any `long`). -/
theorem fix_ns_normalised (t ns : Int) (ht : inI64 t = true)
    (hq : inI64 ((t * 1000000000 + ns) / 1000000000) = true) :
    ∃ t' ns', fixNs t ns = some (t', ns') ∧ 0 ≤ ns' ∧ ns' < 1000000000 ∧
      t' * 1000000000 + ns' = t * 1000000000 + ns ∧ inI64 t' = true ∧
      t' = (t * 1000000000 + ns) / 1000000000 := by
  refine ⟨(t * 1000000000 + ns) / 1000000000, (t * 1000000000 + ns) % 1000000000, ?_, ?_, ?_, ?_, hq, rfl⟩
  · rw [fixNs_spec t ns ht, if_pos hq]
  · omega
  · omega
  · omega

/-- The boundary, exactly as the C has it: the macro is undefined (signed overflow of
`t += ns / 1000000000` or of `--t`) precisely when the normalised seconds do not fit
an int64.  Finding C14/fixns-overflow. -/
theorem fix_ns_undefined_iff (t ns : Int) (ht : inI64 t = true) :
    fixNs t ns = none ↔ inI64 ((t * 1000000000 + ns) / 1000000000) = false := by
  rw [fixNs_spec t ns ht]
  cases h : inI64 ((t * 1000000000 + ns) / 1000000000) <;> simp

example : fixNs 5 (-1) = some (4, 999999999) := by decide
example : fixNs (-1) 2000000001 = some (1, 1) := by decide
example : fixNs INT64_MAX 999999999 = some (INT64_MAX, 999999999) := by decide
example : fixNs (INT64_MIN + 1) (-1000000000) = some (INT64_MIN, 0) := by decide
/-- witnesses of the undefined cases replayed on the implementation by the engine -/
example : fixNs INT64_MAX 1000000000 = none ∧ fixNs INT64_MIN (-1) = none := by decide

/-! ## getters reflect setters, one setter at a time -/

/-- `set_atime/birthtime/ctime/mtime`: the getters return the normalised time and the flag is set. -/
theorem time_get_set (f : TimeField) (e e' : Entry) (t ns : Int) (ht : inI64 t = true)
    (h : setTime f e t ns = some e') :
    timeSec f e' = (t * 1000000000 + ns) / 1000000000 ∧
    (timeNsec f e' : Int) = (t * 1000000000 + ns) % 1000000000 ∧ timeIsSet f e' = true := by
  simp only [setTime, fixNs_spec t ns ht] at h
  by_cases hq : inI64 ((t * 1000000000 + ns) / 1000000000) = true
  · simp only [hq, if_true, Option.map_some, Option.some.injEq] at h
    subst h
    cases f <;>
      simp (disch := decide) [setTimeCore, Entry.withTime, timeSec, timeNsec, timeIsSet, Entry.has, TimeField.flag,
        hasF_or_self] <;> omega
  · simp [hq] at h

example : ∃ e', setTime .mtime new 5 (-1) = some e' ∧ timeSec .mtime e' = 4 ∧ timeNsec .mtime e' = 999999999 := by
  refine ⟨_, rfl, by decide, by decide⟩

/-- `unset_atime …`: always defined; time 0, flag cleared. -/
theorem time_unset (f : TimeField) (e : Entry) :
    ∃ e', unsetTime f e = some e' ∧ timeSec f e' = 0 ∧ timeNsec f e' = 0 ∧ timeIsSet f e' = false := by
  refine ⟨_, unsetTime_eq f e, ?_⟩
  cases f <;>
    simp (disch := decide) [unsetTimeCore, setTimeCore, Entry.withTime, timeSec, timeNsec, timeIsSet, Entry.has,
      TimeField.flag, hasF_andnot_self]

/-- `set_size`: negative becomes 0; the value survives the `uint64_t` field and the
`la_int64_t` return type for every int64 argument. -/
theorem size_get_set (e : Entry) (s : Int) (hs : inI64 s = true) :
    size (setSize e s) = max s 0 ∧ sizeIsSet (setSize e s) = true := by
  rw [inI64_iff] at hs
  constructor
  · simp only [size, setSize]
    split
    · rw [u64ToI64_of_small 0 (by omega) (by omega)]; omega
    · rw [u64ToI64_of_small s (by omega) (by omega)]; omega
  · simp (disch := decide) [sizeIsSet, setSize, Entry.has, hasF_or_self]

theorem size_unset (e : Entry) : size (unsetSize e) = 0 ∧ sizeIsSet (unsetSize e) = false := by
  constructor
  · simp [size, unsetSize, setSize, u64ToI64]
  · simp (disch := decide) [sizeIsSet, unsetSize, setSize, Entry.has, hasF_andnot_self]

theorem uid_get_set (e : Entry) (u : Int) : uid (setUid e u) = max u 0 ∧ uidIsSet (setUid e u) = true := by
  constructor
  · simp only [uid, setUid]; split <;> omega
  · simp (disch := decide) [uidIsSet, setUid, Entry.has, hasF_or_self]
theorem gid_get_set (e : Entry) (g : Int) : gid (setGid e g) = max g 0 ∧ gidIsSet (setGid e g) = true := by
  constructor
  · simp only [gid, setGid]; split <;> omega
  · simp (disch := decide) [gidIsSet, setGid, Entry.has, hasF_or_self]
/-- `set_ino` and `set_ino64`; `ino` and `ino64` -/
theorem ino_get_set (e : Entry) (i : Int) : ino (setIno e i) = max i 0 ∧ inoIsSet (setIno e i) = true := by
  constructor
  · simp only [ino, setIno]; split <;> omega
  · simp (disch := decide) [inoIsSet, setIno, Entry.has, hasF_or_self]
theorem nlink_get_set (e : Entry) (n : Nat) : nlink (setNlink e n) = n % 4294967296 := rfl

example : size (setSize new (-1)) = 0 ∧ size (setSize new INT64_MAX) = INT64_MAX := by decide

/-! ### split versus combined device numbers -/

theorem dev_get_set (e : Entry) (d : Nat) :
    dev (setDev e d) = d % two64 ∧ devmajor (setDev e d) = gnuMajor (d % two64) ∧
    devminor (setDev e d) = gnuMinor (d % two64) ∧ devIsSet (setDev e d) = true := by
  simp (disch := decide) [dev, devmajor, devminor, devIsSet, setDev, Entry.has, hasF_or_self]

/-- after `set_devmajor a; set_devminor b` (either order) the combined number is `makedev(a, b)` -/
theorem dev_of_major_minor (e : Entry) (a b : Nat) :
    dev (setDevminor (setDevmajor e a) b) = gnuMakedev (a % two64) (b % two64) ∧
    dev (setDevmajor (setDevminor e b) a) = gnuMakedev (a % two64) (b % two64) ∧
    devmajor (setDevminor (setDevmajor e a) b) = a % two64 ∧ devminor (setDevminor (setDevmajor e a) b) = b % two64 := by
  simp [dev, devmajor, devminor, setDevmajor, setDevminor]

/-- a later `set_dev` wins over earlier split values, a later `set_devmajor` over an earlier combined one -/
theorem dev_last_writer (e : Entry) (a b d : Nat) :
    dev (setDev (setDevminor (setDevmajor e a) b) d) = d % two64 ∧
    devmajor (setDevmajor (setDev e d) a) = a % two64 := by
  simp [dev, devmajor, setDev, setDevmajor, setDevminor]

theorem rdev_get_set (e : Entry) (d : Nat) :
    rdev (setRdev e d) = d % two64 ∧ rdevmajor (setRdev e d) = gnuMajor (d % two64) ∧
    rdevminor (setRdev e d) = gnuMinor (d % two64) ∧ rdevIsSet (setRdev e d) = true := by
  simp (disch := decide) [rdev, rdevmajor, rdevminor, rdevIsSet, setRdev, Entry.has, hasF_or_self]

theorem rdev_of_major_minor (e : Entry) (a b : Nat) :
    rdev (setRdevminor (setRdevmajor e a) b) = gnuMakedev (a % two64) (b % two64) ∧
    rdevmajor (setRdevminor (setRdevmajor e a) b) = a % two64 ∧
    rdevminor (setRdevminor (setRdevmajor e a) b) = b % two64 := by
  simp (disch := decide) [rdev, rdevmajor, rdevminor, rdevIsSet, setRdevmajor, setRdevminor, Entry.has, hasF_or_self]

example : dev (setDevminor (setDevmajor new 8) 1) = 2049 ∧ devmajor (setDev new 2049) = 8 ∧ devminor (setDev new 2049) = 1 := by
  decide

/-! ### file type versus permission bits inside mode -/

theorem mode_get_set (e : Entry) (m : BitVec 32) :
    mode (setMode e m) = m ∧ filetype (setMode e m) = mIFMT &&& m ∧ perm (setMode e m) = ~~~mIFMT &&& m ∧
    filetypeIsSet (setMode e m) = true ∧ permIsSet (setMode e m) = true := by
  simp (disch := decide) [mode, filetype, perm, filetypeIsSet, permIsSet, setMode, Entry.has, hasF_or_assoc, hasF_or_self,
    hasF_or_disj]

/-- `set_filetype` sets the type bits and leaves every permission bit alone -/
theorem filetype_get_set (e : Entry) (t : BitVec 32) :
    filetype (setFiletype e t) = mIFMT &&& t ∧ perm (setFiletype e t) = perm e ∧
    filetypeIsSet (setFiletype e t) = true ∧ permIsSet (setFiletype e t) = permIsSet e := by
  simp (disch := decide) [filetype, perm, filetypeIsSet, permIsSet, setFiletype, Entry.has, hasF_or_self, hasF_or_disj,
    bv_ft_ft, bv_ft_perm]

/-- `set_perm` sets the non-type bits and leaves the file type alone -/
theorem perm_get_set (e : Entry) (p : BitVec 32) :
    perm (setPerm e p) = ~~~mIFMT &&& p ∧ filetype (setPerm e p) = filetype e ∧
    permIsSet (setPerm e p) = true ∧ filetypeIsSet (setPerm e p) = filetypeIsSet e := by
  simp (disch := decide) [filetype, perm, filetypeIsSet, permIsSet, setPerm, Entry.has, hasF_or_self, hasF_or_disj,
    bv_perm_perm, bv_perm_ft]

/-- the mode word is exactly its two parts -/
theorem mode_eq_filetype_or_perm (e : Entry) : mode e = filetype e ||| perm e := by
  simp [mode, filetype, perm, bv_split]

example : filetype (setPerm (setFiletype new 0o040000#32) 0o755#32) = 0o040000#32 ∧
    mode (setPerm (setFiletype new 0o040000#32) 0o755#32) = 0o040755#32 := by decide

/-! ### strings; hard-link versus symlink target -/

theorem str_get_set (f : StrField) (e : Entry) (v : Option Bytes) : getStr f (setStr f e v) = v := by
  cases f <;> rfl

/-- every hard-link setter with a non-NULL target: `hardlink()` returns it, `symlink()` returns NULL -/
theorem hardlink_get_set (e : Entry) (s : Bytes) :
    hardlink (setHardlink e (some s)) = some s ∧ symlink (setHardlink e (some s)) = none ∧
    hardlink (copyHardlink e (some s)) = some s ∧ symlink (copyHardlink e (some s)) = none := by
  simp only [hardlink_eq, symlink_eq, setHardlink_link, copyHardlink_link, cond_true, cond_false, and_self]

/-- every symlink setter with a non-NULL target -/
theorem symlink_get_set (e : Entry) (s : Bytes) :
    symlink (setSymlink e (some s)) = some s ∧ hardlink (setSymlink e (some s)) = none := by
  simp only [hardlink_eq, symlink_eq, setSymlink_link, cond_true, cond_false, and_self]

/-- NULL to a hard-link setter clears the hard link and never disturbs a symlink; and symmetrically
(on an entry whose two link flags are not both set — an invariant of every history, see
`hardlink_symlink_exclusive`). -/
theorem link_set_null (e : Entry) (hx : ¬(e.has fHARDLINK = true ∧ e.has fSYMLINK = true)) :
    hardlink (setHardlink e none) = none ∧ symlink (setHardlink e none) = symlink e ∧
    hardlink (copyHardlink e none) = none ∧ symlink (copyHardlink e none) = symlink e ∧
    symlink (setSymlink e none) = none ∧ hardlink (setSymlink e none) = hardlink e := by
  simp only [hardlink_eq, symlink_eq, setHardlink_link, copyHardlink_link, setSymlink_link]
  revert hx; show ¬(e.link.hard = true ∧ e.link.sym = true) → _
  cases e.link.hard <;> cases e.link.sym <;> simp

/-- `set_link` & co.: "set symlink if symlink is already set, else set hardlink" -/
theorem link_get_set (e : Entry) (v : Option Bytes) :
    (symlink e ≠ none ∨ e.has fSYMLINK = true → symlink (setLink e v) = v) ∧
    (e.has fSYMLINK = false → hardlink (setLink e v) = v ∧ symlink (setLink e v) = none) := by
  simp only [hardlink_eq, symlink_eq, setLink_link]
  show (_ ∨ e.link.sym = true → _) ∧ (e.link.sym = false → _)
  cases e.link.hard <;> cases e.link.sym <;> simp

example : hardlink (copyHardlink (setSymlink new (some [97])) (some [98])) = some [98] ∧
    symlink (copyHardlink (setSymlink new (some [97])) (some [98])) = none := by decide

/-! ### the small fields -/

/-- `set_fflags`: the bitmaps are returned as given and the text is regenerated from them -/
theorem fflags_get_set (e : Entry) (s c : Nat) :
    fflags (setFflags e s c) = (s % two64, c % two64) ∧
    fflagsTextV (setFflags e s c) =
      if s % two64 = 0 ∧ c % two64 = 0 then none else fflagstostr (s % two64) (c % two64) := by
  simp [fflags, fflagsTextV, setFflags]

/-- `copy_fflags_text`: the text is returned as given, the bitmaps are what its known tokens say -/
theorem fflags_text_get_set (e : Entry) (t : Bytes) :
    fflagsTextV (copyFflagsText e t) = some t ∧ fflags (copyFflagsText e t) = ((strtofflags t).1, (strtofflags t).2.1) := by
  simp [fflags, fflagsTextV, copyFflagsText]

example : strtofflags ("nodump,sappnd bogus".toList.map Char.toNat) = (96, 0, some 14) := by decide
example : fflagstostr 16 64 = some ("schg,dump".toList.map Char.toNat) := by decide
theorem symlink_type_get_set (e : Entry) (t : Int) : symlinkType (setSymlinkType e t) = t := rfl
theorem mac_metadata_get_set (e : Entry) (v : Option Bytes) : macMetadata (copyMacMetadata e v) = normMac v := rfl

theorem encryption_get_set (e : Entry) (b : Bool) :
    isDataEncrypted (setIsDataEncrypted e b) = b ∧
    isMetadataEncrypted (setIsDataEncrypted e b) = isMetadataEncrypted e ∧
    isMetadataEncrypted (setIsMetadataEncrypted e b) = b ∧
    isDataEncrypted (setIsMetadataEncrypted e b) = isDataEncrypted e := by
  cases b <;>
    simp (disch := decide) [isDataEncrypted, isMetadataEncrypted, setIsDataEncrypted, setIsMetadataEncrypted,
      bv_or_and_self, bv_andnot_and_self, bv_or_and_disj, bv_andnot_and_disj] <;> decide

example : isEncrypted (setIsMetadataEncrypted (setIsDataEncrypted new true) true) = 3 := by decide

/-! ## setters do not disturb unrelated getters -/

/-- Frame property, all (operation, getter) pairs at once: a call that does not touch
the group of fields a getter reads leaves that getter's value unchanged.  `touches`
is the dependency table; e.g. `set_filetype` does not touch the `perm` group,
`set_hardlink` touches `link` and `strmode` only, `copy_stat` touches 17 groups. -/
theorem frame (op : Op) (g : Getter) (e e' : Entry) (ht : touches op g.group = false)
    (hs : step e op = some e') : obs g e' = obs g e :=
  (act_of_step hs).2 ▸ obs_of_view g _ e ((act_local op).frame g.group e ht)

example : obs .perm (setFiletype (setMode new 0o100644#32) 0o040000#32) = obs .perm (setMode new 0o100644#32) :=
  frame (.setFiletype _) .perm _ _ rfl rfl
example : touches (.setSymlink (some [97])) Getter.hardlink.group = true ∧
    touches (.setUid 5) Getter.hardlink.group = false := by decide

/-! ## histories -/

/-- **history_relevant.**  For every finite history of setters, unsetters, copy_stat,
clear and iterator calls, and every getter: the value after the history equals the value
after only those calls of the history that touch the getter's group, in their original
order (and that shorter history is defined whenever the long one is).  Calls on other
groups — however many, with whatever arguments — are irrelevant. -/
theorem history_relevant (g : Getter) (ops : List Op) (e e' : Entry) (hr : run e ops = some e') :
    ∃ e'', run e (ops.filter (touches · g.group)) = some e'' ∧ obs g e' = obs g e'' := by
  obtain ⟨hd, rfl⟩ := acts_of_run hr
  refine ⟨_, run_of_defined ?_ e, obs_of_view g _ _ (acts_relevant g.group ops e e rfl)⟩
  exact List.all_eq_true.mpr fun o ho => List.all_eq_true.mp hd o (List.mem_filter.mp ho).1

example : ∃ e', run new [.setUid 7, .setStr .pathname (some [97]), .setMode 0o644#32, .setUid (-1), .xattrAdd [1] [2]] = some e' ∧
    obs .uid e' = .int 0 := ⟨_, rfl, by decide⟩

/-- **history_last_writer.**  If the last call of a history that touches the getter's
group is one that `fixes` the getter (a plain setter/unsetter of that field, `copy_stat`
for the stat fields, `clear` for everything …), then the getter returns what that one
call yields on *any* entry: nothing that happened before it matters, and nothing that
happened after it does either. -/
theorem history_last_writer (g : Getter) (op : Op) (pre post : List Op) (e e' e0 e0' : Entry)
    (hf : fixes op g = true) (hpost : ∀ o ∈ post, touches o g.group = false)
    (hr : run e (pre ++ op :: post) = some e') (h0 : step e0 op = some e0') : obs g e' = obs g e0' := by
  obtain ⟨hd, rfl⟩ := acts_of_run hr
  rw [List.all_append, List.all_cons, Bool.and_eq_true, Bool.and_eq_true] at hd
  rw [acts_append]
  show obs g (acts post (op.act _)) = _
  rw [obs_of_view g _ _ (acts_untouched g.group post _ hpost)]
  exact fixes_sound op g _ e0 _ e0' hf (by rw [step_eq, hd.2.1]; rfl) h0

example : ∃ e', run new ([.setSymlink (some [1]), .setMode 0o777#32, .setHardlink (some [2])] ++
      .copyHardlink (some [3]) :: [.setUid 5, .xattrAdd [9] [9], .setStr .pathname none]) = some e' ∧
    obs .symlink e' = .str none ∧ obs .hardlink e' = .str (some [3]) := ⟨_, rfl, by decide⟩

/-! ## the is-set flags -/

/-- **isset_truthful.**  After any history on a new entry: a getter whose is-set flag
reads false returns the initial value (0 / NULL).  (The other direction — a setter
raises its flag, an unsetter lowers it — is part of each `*_get_set` theorem.) -/
theorem isset_truthful (ops : List Op) (e : Entry) (hr : run new ops = some e) :
    (∀ f, timeIsSet f e = false → timeSec f e = 0 ∧ timeNsec f e = 0) ∧
    (sizeIsSet e = false → size e = 0) ∧
    (devIsSet e = false → dev e = 0 ∧ devmajor e = 0 ∧ devminor e = 0) ∧
    (rdevIsSet e = false → rdev e = 0 ∧ rdevmajor e = 0 ∧ rdevminor e = 0) ∧
    (inoIsSet e = false → ino e = 0) ∧ (uidIsSet e = false → uid e = 0) ∧ (gidIsSet e = false → gid e = 0) ∧
    (filetypeIsSet e = false → filetype e = 0) ∧ (permIsSet e = false → perm e = 0) ∧
    (hardlinkIsSet e = false → hardlink e = none) := by
  obtain ⟨_, rfl⟩ := acts_of_run hr
  -- for each such group: the view equals that of a cleared entry, whose fields are all zero
  have key : Truthful (acts ops new) := acts_invariant truthful_act ops new truthful_new
  generalize acts ops new = e at key ⊢
  refine ⟨fun f h => ?_, fun h => ?_, fun h => ?_, fun h => ?_, fun h => ?_, fun h => ?_, fun h => ?_, fun h => ?_,
    fun h => ?_, fun h => ?_⟩
  · have := key (.time f) (time_truth f) h
    simp only [view, View.mk.injEq, List.cons.injEq, and_true] at this
    rw [this.2.1, this.2.2]; cases f <;> exact ⟨rfl, rfl⟩
  · have := key .size (by decide) h
    simp only [view, View.mk.injEq, List.cons.injEq, and_true, true_and] at this
    simp only [size, this.2]; decide
  · have := key .dev (by decide) h
    simp only [view, View.mk.injEq, List.cons.injEq, and_true, true_and] at this
    obtain ⟨⟨_, hb⟩, hd, _, _⟩ := this
    simp only [dev, devmajor, devminor, hb, hd, Bool.false_eq_true, if_false]
    exact ⟨trivial, by decide, by decide⟩
  · simp [rdev, rdevmajor, rdevminor, h]
  · have := key .ino (by decide) h
    simp only [view, View.mk.injEq, List.cons.injEq, and_true] at this
    exact this.2
  · have := key .uid (by decide) h
    simp only [view, View.mk.injEq, List.cons.injEq, and_true] at this
    exact this.2
  · have := key .gid (by decide) h
    simp only [view, View.mk.injEq, List.cons.injEq, and_true] at this
    exact this.2
  · have := key .filetype (by decide) h
    simp only [view, View.mk.injEq, List.cons.injEq, and_true, true_and] at this
    exact this.2.trans (BitVec.and_zero)
  · have := key .perm (by decide) h
    simp only [view, View.mk.injEq, List.cons.injEq, and_true, true_and] at this
    exact this.2.trans (BitVec.and_zero)
  · simp only [hardlinkIsSet] at h; simp [hardlink, h]

example : ∃ e, run new [.setSize 5, .unsetSize, .setTime .mtime 3 4, .unsetTime .mtime] = some e ∧
    sizeIsSet e = false ∧ timeIsSet .mtime e = false := ⟨_, rfl, by decide⟩

/-! ## hard link versus symlink -/

/-- **hardlink_symlink_exclusive** (after fix bffd94f).  After any history on a new
entry at most one of `hardlink()` and `symlink()` returns a target. -/
theorem hardlink_symlink_exclusive (ops : List Op) (e : Entry) (hr : run new ops = some e) :
    ¬(e.has fHARDLINK = true ∧ e.has fSYMLINK = true) ∧ (hardlink e = none ∨ symlink e = none) := by
  obtain ⟨_, rfl⟩ := acts_of_run hr
  have hx : Excl (acts ops new) := acts_invariant excl_act ops new fun h => Bool.noConfusion ((hasF_zero _).symm.trans h.1)
  generalize acts ops new = e at *
  refine ⟨hx, ?_⟩
  unfold Excl at hx
  simp only [hardlink, symlink]
  cases h1 : e.has fHARDLINK <;> cases h2 : e.has fSYMLINK <;> simp_all

example : ∃ e, run new [.setSymlink (some [1]), .setLink (some [2]), .copyHardlink none, .setLinkToHardlink] = some e ∧
    hardlink e = some [2] ∧ symlink e = none := ⟨_, rfl, by decide⟩

/-- On the unrepaired code the property failed: there `copy_hardlink` kept the symlink flag.
The model of that variant, for the record, and the witness (replayed by the corpus file
`ent.hardlink-after-symlink.ops`). -/
def copyHardlinkUnfixed (e : Entry) (v : Option Bytes) : Entry :=
  bif v.isNone && e.has fSYMLINK then e else
  let e1 := { e with ae_linkname := v }
  bif v.isSome then { e1 with ae_set := e1.ae_set ||| fHARDLINK }
  else { e1 with ae_set := e1.ae_set &&& ~~~fHARDLINK }
theorem unfixed_not_exclusive :
    hardlink (copyHardlinkUnfixed (setSymlink new (some [97])) (some [98])) = some [98] ∧
    symlink (copyHardlinkUnfixed (setSymlink new (some [97])) (some [98])) = some [98] := by decide

/-! ## the sparse map and the xattr list -/

/-- **sparse_list_wellformed.**  After any history on a new entry the sparse list is
non-negative, sorted, with a gap between consecutive blocks (adjacent blocks were merged),
every block ends inside the int64 range, and both iteration cursors point into their lists. -/
theorem sparse_list_wellformed (ops : List Op) (e : Entry) (hr : run new ops = some e) :
    SparseWF e.sparse ∧ (∀ k, e.sparse_p = some k → k < e.sparse.length) ∧ e.xattr_p ≤ e.xattrs.length :=
  (acts_of_run hr).2 ▸ acts_invariant listsOK_act ops new ⟨sparseWF_nil, fun _ h => (by cases h), Nat.le_refl _⟩

example : ∃ e, run new [.setSize 100, .sparseAdd 0 10, .sparseAdd 10 5, .sparseAdd 30 5, .sparseAdd 20 5, .sparseAdd 40 70] = some e ∧
    e.sparse = [(0, 15), (30, 5)] := ⟨_, rfl, by decide⟩

/-- A block is only ever added (or an existing last block extended) inside the size the
entry has at that moment. -/
theorem sparse_add_within_size (sz : Int) (l : List (Int × Int)) (o len : Int) :
    ∀ b ∈ sparseAddL sz l o len, b ∈ l ∨ (b.1 + b.2 ≤ sz ∧ b.1 + b.2 = o + len) := by
  intro b hb
  unfold sparseAddL at hb
  split at hb; · exact Or.inl hb
  split at hb; · exact Or.inl hb
  rename_i h0 h1
  simp only [Bool.or_eq_true, decide_eq_true_eq, not_or, Int.not_lt] at h0 h1
  have hnew : b = (o, len) → b ∈ l ∨ (b.1 + b.2 ≤ sz ∧ b.1 + b.2 = o + len) := by
    intro h; subst h; exact Or.inr ⟨by simp only; omega, rfl⟩
  split at hb
  · rename_i so sl hlast
    split at hb; · exact Or.inl hb
    split at hb
    · rename_i h3
      split at hb; · exact Or.inl hb
      simp only [beq_iff_eq] at h3
      rcases List.mem_append.mp hb with hb | hb
      · exact Or.inl (List.dropLast_subset l hb)
      · simp only [List.mem_singleton] at hb; subst hb
        exact Or.inr ⟨by simp only; omega, by simp only; omega⟩
    · rcases List.mem_append.mp hb with hb | hb
      · exact Or.inl hb
      · exact hnew (by simpa using hb)
  · rcases List.mem_append.mp hb with hb | hb
    · exact Or.inl hb
    · exact hnew (by simpa using hb)

/-- `sparse_count`/`sparse_reset`: one block at offset 0 that covers the whole file is not
a sparse file — it is dropped and 0 returned; anything else is counted as it is. -/
theorem sparse_count_rule (e : Entry) :
    (sparseWhole (size e) e.sparse = true → (sparseCount e).2 = 0 ∧ (sparseCount e).1.sparse = []) ∧
    (sparseWhole (size e) e.sparse = false → (sparseCount e).2 = e.sparse.length ∧ (sparseCount e).1 = e) := by
  rw [sparseCount_fst, sparseCount_snd]
  constructor <;> intro h <;> simp [h, sparseClear]

example : (sparseCount (sparseAdd (setSize new 10) 0 10)).2 = 0 ∧ (sparseCount (sparseAdd (setSize new 10) 0 9)).2 = 1 := by
  decide

/-- `xattr_reset` followed by `xattr_next` until it reports the end enumerates exactly the
attribute list, most recently added first. -/
theorem xattr_iteration (e : Entry) : xattrDrain (xattrReset e).2 (xattrReset e).1 = e.xattrs := by
  rw [xattrDrain_spec _ _ (by simp [xattrReset]) (by simp [xattrReset])]
  simp [xattrReset]

/-- `sparse_reset` followed by `sparse_next` until it reports the end enumerates the sparse
list as `sparse_count` leaves it (empty when one block covered the whole file). -/
theorem sparse_iteration (e : Entry) :
    sparseDrain e.sparse.length (sparseReset e).1 = (sparseCount e).1.sparse := by
  simp only [sparseReset, sparseCount_fst, size]
  cases hw : sparseWhole (u64ToI64 e.aest_size) e.sparse
  · simp only [cond_false]
    cases hs : e.sparse with
    | nil => exact sparseDrain_none _ _ (by simp)
    | cons a l =>
      have := sparseDrain_spec (a :: l).length { e with sparse_p := bif e.sparse.isEmpty then none else some 0 } 0
        (by simp [hs]) (by simp [hs]) (by simp [hs])
      simp only [hs] at this
      simpa [hs] using this
  · simp only [cond_true]
    exact sparseDrain_none _ _ rfl

example : sparseDrain 2 (sparseReset (sparseAdd (sparseAdd (setSize new 100) 0 10) 20 5)).1 = [(0, 10), (20, 5)] ∧
    sparseDrain 1 (sparseReset (sparseAdd (setSize new 10) 0 10)).1 = [] := by decide
example : xattrDrain 5 (xattrReset (xattrAdd (xattrAdd new [97] [1]) [98] [2])).1 = [([98], [2]), ([97], [1])] := by decide

/-! ## clones -/

/-- **clone_eq.**  A clone is indistinguishable from the original through every getter
(after fixes 66c54dc and 387042f), provided the original's cached `struct stat` is not
stale — which `clone_eq_history` shows is always the case. -/
theorem clone_eq (e : Entry) (hc : StatCoherent e) (g : Getter) : obs g (clone e) = obs g e := by
  cases g
  case stat =>
    simp only [obs, stat_snd, clone, cond_false]
    cases hv : e.stat_valid
    · rfl
    · simp only [cond_true, hc hv]; rfl
  case sparseCount => simp only [obs, (sparseCount_congr (clone e) e rfl rfl).1]
  case sparseBlocks => simp only [obs, (sparseCount_congr (clone e) e rfl rfl).2]
  all_goals rfl

theorem clone_eq_history (ops : List Op) (e : Entry) (hr : run new ops = some e) (g : Getter) :
    obs g (clone e) = obs g e :=
  clone_eq e ((acts_of_run hr).2 ▸ acts_invariant statCoherent_act ops new (statCoherent_invalid _ rfl)) g

example : ∃ e, run new [.setSize 100, .sparseAdd 10 20, .unsetSize, .xattrAdd [97] [1], .xattrAdd [98] [2], .stat,
      .setTime .mtime 5 (-1)] = some e ∧
    obs .sparseBlocks (clone e) = .blocks [(10, 20)] ∧ obs .xattrList (clone e) = .xattrs [([98], [2]), ([97], [1])] :=
  ⟨_, rfl, by decide⟩

/-- The unrepaired clone re-validated the sparse blocks against the current size and listed
the extended attributes backwards: its model, and the two witnesses. -/
def cloneUnfixed (e : Entry) : Entry :=
  let c : Entry := { e with stat_valid := false, stat_cache := {}, xattr_p := 0, sparse_p := none,
                            sparse := [], xattrs := e.xattrs.reverse }
  e.sparse.foldl (fun c b => sparseAdd c b.1 b.2) c
theorem unfixed_clone_differs :
    (∃ e, run new [.setSize 100, .sparseAdd 10 20, .unsetSize] = some e ∧
      obs .sparseCount (cloneUnfixed e) ≠ obs .sparseCount e) ∧
    (∃ e, run new [.xattrAdd [97] [1], .xattrAdd [98] [2]] = some e ∧
      obs .xattrList (cloneUnfixed e) ≠ obs .xattrList e) :=
  ⟨⟨_, rfl, by decide⟩, ⟨_, rfl, by decide⟩⟩

/-- who a call is made on, once a clone exists -/
inductive Side | original | copy
  deriving DecidableEq, Repr

def stepPair (p : Entry × Entry) (c : Side × Op) : Option (Entry × Entry) :=
  match c.1 with
  | .original => (step p.1 c.2).map fun e => (e, p.2)
  | .copy => (step p.2 c.2).map fun e => (p.1, e)

def runPair (p : Entry × Entry) : List (Side × Op) → Option (Entry × Entry)
  | [] => some p
  | c :: cs => match stepPair p c with
    | none => none
    | some p' => runPair p' cs

def callsOn (s : Side) (cs : List (Side × Op)) : List Op := (cs.filter (·.1 == s)).map (·.2)

/-- **clone_independent.**  Later changes to either object do not affect the other: after
any interleaving of calls on the original and on the clone, each of the two is what its
own calls alone make of it.  (This is the value-level statement; that the C objects share
no heap memory is a runtime fact which the engine checks under ASan on every generated
history, see tools/props/C14.py.) -/
theorem clone_independent (cs : List (Side × Op)) (p q : Entry × Entry) (h : runPair p cs = some q) :
    run p.1 (callsOn .original cs) = some q.1 ∧ run p.2 (callsOn .copy cs) = some q.2 := by
  induction cs generalizing p with
  | nil => simp only [runPair, Option.some.injEq] at h; subst h; exact ⟨rfl, rfl⟩
  | cons c cs ih =>
    obtain ⟨s, op⟩ := c
    simp only [runPair] at h
    cases s
    · simp only [stepPair] at h
      cases hs : step p.1 op with
      | none => simp [hs] at h
      | some m =>
        simp only [hs, Option.map_some] at h
        obtain ⟨h1, h2⟩ := ih (m, p.2) h
        refine ⟨?_, ?_⟩
        · simp only [callsOn, List.filter_cons, beq_self_eq_true, if_true, List.map_cons, run, hs]
          exact h1
        · simpa [callsOn, List.filter_cons] using h2
    · simp only [stepPair] at h
      cases hs : step p.2 op with
      | none => simp [hs] at h
      | some m =>
        simp only [hs, Option.map_some] at h
        obtain ⟨h1, h2⟩ := ih (p.1, m) h
        refine ⟨?_, ?_⟩
        · simpa [callsOn, List.filter_cons] using h1
        · simp only [callsOn, List.filter_cons, beq_self_eq_true, if_true, List.map_cons, run, hs]
          exact h2

example : ∃ q, runPair (setSize new 5, clone (setSize new 5))
    [(.original, .setSize 9), (.copy, .xattrAdd [1] [2]), (.original, .clear)] = some q ∧
    size q.2 = 5 ∧ q.1.xattrs = [] := ⟨_, rfl, by decide⟩

end LA.C14
