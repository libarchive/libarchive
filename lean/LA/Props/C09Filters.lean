/-
C09, above the blocking layer: write faults reach the API return value.

Theorems over the model of the write core (`LA.WC`: `__archive_write_output`,
`__archive_write_nulls`, `__archive_write_filters_close`, `_archive_write_header/
_data/_finish_entry/_close/_free`, the raw and ustar writers, and the
b64encode / uuencode write filters as repaired by the `fix:` commit): for every
handle state, every callback and every argument, if any client write callback
invocation made during an API call returns a non-positive value, the call
returns a status `≤ ARCHIVE_FATAL` (an error; the only value below
`ARCHIVE_FATAL` is the model's own out-of-bounds marker, which
`LA.C09.fault_reported` excludes for the client layer).

Before the repair `b64_fault_reported` / `uu_fault_reported` were false:
the output loop kept only the status of its last `__archive_write_filter` call
(`unrepaired_loop_loses_failure` below is that shape in miniature; the real
witness is corpus/C09/cw.b64-fail-once.ops).
-/
import LA.Lemmas.WriteCore
import LA.Gen.WriteCalls
namespace LA.C09
open LA.CW LA.WC LA.Ustar

/-- The API calls that can reach the write callback. -/
inductive ApiCall
  | header (e : Entry)
  | data (d : List Cell)
  | finishEntry
  | close
  | free

def runApi {σ : Type} (W : Writer σ) (w : σ) (h : Handle) : ApiCall → Int × Handle × List Event × σ
  | .header e => apiHeader W w h e
  | .data d => apiData W w h d
  | .finishEntry => apiFinishEntry W w h
  | .close => apiClose W w h
  | .free => apiFree W w h

/-- **C09, faults reach the API.**  Any handle state (any format among raw/ustar,
with or without an encoding filter, any life-cycle state, any buffered data),
any callback, any API call: a non-positive callback answer at any invocation
during the call makes the call return an error. -/
theorem api_fault_reported {σ : Type} (W : Writer σ) (w : σ) (h : Handle) (c : ApiCall)
    (hfree : c = .free → h.state ≠ .fatal)
    (hbad : ∃ e ∈ (runApi W w h c).2.2.1, e.ret ≤ 0) : (runApi W w h c).1 ≤ -30 := by
  cases c with
  | header e => exact apiHeader_bad W w h e hbad
  | data d => exact apiData_bad W w h d hbad
  | finishEntry => exact apiFinishEntry_bad W w h hbad
  | close => exact apiClose_bad W w h hbad
  | free => exact apiFree_bad W w h (hfree rfl) hbad

/-- The ustar writer (header block, body, entry padding, end-of-archive blocks). -/
theorem ustar_fault_reported {σ : Type} (W : Writer σ) (w : σ) (h : Handle) (c : ApiCall)
    (_hfmt : h.fmt = .ustar) (hfree : c = .free → h.state ≠ .fatal)
    (hbad : ∃ e ∈ (runApi W w h c).2.2.1, e.ret ≤ 0) :
    (runApi W w h c).1 ≤ -30 := api_fault_reported W w h c hfree hbad

/-- The b64encode write filter (as repaired). -/
theorem b64_fault_reported {σ : Type} (W : Writer σ) (w : σ) (h : Handle) (c : ApiCall) (e : EncState)
    (_henc : h.enc = some e) (_hk : e.kind = .b64) (hfree : c = .free → h.state ≠ .fatal)
    (hbad : ∃ e ∈ (runApi W w h c).2.2.1, e.ret ≤ 0) :
    (runApi W w h c).1 ≤ -30 := api_fault_reported W w h c hfree hbad

/-- The uuencode write filter (as repaired). -/
theorem uu_fault_reported {σ : Type} (W : Writer σ) (w : σ) (h : Handle) (c : ApiCall) (e : EncState)
    (_henc : h.enc = some e) (_hk : e.kind = .uu) (hfree : c = .free → h.state ≠ .fatal)
    (hbad : ∃ e ∈ (runApi W w h c).2.2.1, e.ret ≤ 0) :
    (runApi W w h c).1 ≤ -30 := api_fault_reported W w h c hfree hbad

/-- Freeing a handle that has already failed closes whatever filters are still open (their
buffers, compressor state and the client's output stream are released) and returns OK: the
failure was reported by the call that made the handle fail. -/
theorem free_after_failure {σ : Type} (W : Writer σ) (w : σ) (h : Handle) (hf : h.state = .fatal) :
    (apiFree W w h).1 = 0 ∧ (apiFree W w h).2.2.1 = (filtersClose W w h).2.2.1 := by
  rw [apiFree, if_neg (not_not_intro hf)]
  exact ⟨rfl, rfl⟩

/-- An open raw-format handle with a b64encode filter in pass-through mode (nothing pending but the trailer). -/
def exHandle : Handle :=
  { state := .header, fmt := .raw, bpb := 0, hasClient := true, cfState := .open, cs := some (clientOpen 0),
    enc := some { kind := .b64, fstate := .open, bs := 65536, hold := [], enc := [] } }

/-- Non-vacuity: closing it with a callback that fails at once is a failing invocation, reported as fatal. -/
example : (∃ e ∈ (runApi scriptWriter [.error] exHandle .close).2.2.1, e.ret ≤ 0) ∧
    (runApi scriptWriter [.error] exHandle .close).1 = -30 := by
  decide +kernel

/-- The shape of the unrepaired output loop: the status of the last
`__archive_write_filter` call is returned, whatever the earlier ones were. -/
def lastStatus : List Int → Int
  | [] => 0
  | [r] => r
  | _ :: rest => lastStatus rest

/-- Why the repair was needed: a failure followed by a success reads as success. -/
theorem unrepaired_loop_loses_failure : lastStatus [-30, 0] = 0 := rfl

/-! ### call-site inventory -/

/-- Recorded baseline: the call sites of `__archive_write_output`, `__archive_write_nulls`,
`__archive_write_filter` in `archive_write_set_format_*.c` and `archive_write_add_filter_*.c`
whose return value is discarded.  Empty since the `fix:` commits for the ar global
header and the two warc record headers (the unrepaired tree had exactly those three). -/
def baselineDiscarded : List (String × String × String × Nat) := []

/-- **C09, no format writer or write filter drops the status of an output call.**
`LA.Gen.WriteCalls.discarded` is regenerated from the source on every check, so a
new statement-expression call `__archive_write_output(...);` breaks this theorem. -/
theorem no_unchecked_output_calls : LA.Gen.WriteCalls.discarded = baselineDiscarded := by decide

/-- Recorded baseline of discarded calls of local helpers that pass an output status on
(`output_byte`, `wb_write_out`, …).  The two remaining sites are in the iso9660 writer's
`zisofs_finish_entry`, which repositions the write buffer of its *temporary file*
(`wb_set_offset` in `WB_TO_TEMP` mode): a temp-file error there does not involve the client
write callback.  The unrepaired tree also had `output_code -> output_byte` twice in the
compress filter (repaired: it swallowed a write error and then overran its buffer). -/
def baselineDiscardedHelpers : List (String × String × String × Nat) :=
  [("archive_write_set_format_iso9660.c", "zisofs_finish_entry", "wb_set_offset", 1),
   ("archive_write_set_format_iso9660.c", "zisofs_finish_entry", "wb_set_offset", 2)]

/-- **C09, no local helper drops an output status either** (beyond the recorded temp-file sites). -/
theorem no_unchecked_helper_calls : LA.Gen.WriteCalls.discardedHelpers = baselineDiscardedHelpers := by decide +kernel

/-- The inventory is not empty-handed: it looked at more than a hundred call sites. -/
example : LA.Gen.WriteCalls.callSites ≥ 100 := by decide

end LA.C09
