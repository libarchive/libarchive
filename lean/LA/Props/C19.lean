/-
C19 — Safe-writes extraction replaces files atomically.

Model: `LA.SafeWrite` (libarchive/archive_write_disk_posix.c: restore_entry,
la_mktemp, write_data_block, _archive_write_disk_finish_entry,
close_file_descriptor, _archive_write_disk_close), one regular-file entry
extracted with ARCHIVE_EXTRACT_SAFE_WRITES over an existing regular file, as a
function of the old content, the flags, the declared size, the data calls and
an ARBITRARY SET of failing system calls (`F : Nat → Bool`, the i-th call issued
fails when `F i`; this covers "every call as the fault" and every combination).

The theorems are about the code as repaired by the four `fix:` commits of C19.
For each unrepaired behaviour (`Legacy` switch) the full statement is refuted by a
concrete witness that is also replayed on the implementation (corpus/C19).

"The complete new file" is `expected size calls`: the bytes the caller supplied,
at the offsets it supplied them, cut at the declared size and zero-extended to
the declared size (the disk writer's documented "pad or truncate to the right
size"; a body that is shorter or longer than declared is the caller's input, not
a failure).  A write that FAILS is different: then the new file is not complete
and the target must keep the old content (`atomic_at_every_prefix` covers this:
the fault set is arbitrary).
-/
import LA.Lemmas.SafeWriteSingle
namespace LA.C19
open LA.SafeWrite

/-- Full statement 1, for a given set of unrepaired behaviours: at every crash point
(after every system call issued between header and free) the target pathname
resolves to the complete old or to the complete new content. -/
def AtomicAtEveryPrefix (L : Legacy) : Prop :=
  ∀ (F : Nat → Bool) (cfg : Cfg) (old : Bytes) (calls : List Call) (explicitFinish : Bool),
    cfg.safe = true → cfg.legacy = L → wellFormed cfg.size 0 calls →
    ∀ fs ∈ (session F cfg old calls explicitFinish).crashStates,
      fs.view .target = some old ∨ fs.view .target = some (expected cfg.size calls)

/-- No unlink of the temporary file was itself made to fail. -/
def UnlinkNotFaulted (w : World) : Prop := ∀ ev ∈ w.log, ev.op = .unlink .tmp → ev.res ≠ .inj

/-- Full statement 2: after close (and after free), whatever failed on the way, no
temporary file is left — unless the cleaning unlink was itself made to fail. -/
def NoTempAfterClose (L : Legacy) : Prop :=
  ∀ (F : Nat → Bool) (cfg : Cfg) (old : Bytes) (calls : List Call) (explicitFinish : Bool),
    cfg.safe = true → cfg.legacy = L → wellFormed cfg.size 0 calls →
    (UnlinkNotFaulted (session F cfg old calls explicitFinish).sc.w →
      (session F cfg old calls explicitFinish).sc.w.fs.view .tmp = none) ∧
    (UnlinkNotFaulted (session F cfg old calls explicitFinish).s.w →
      (session F cfg old calls explicitFinish).s.w.fs.view .tmp = none)

/-- What "the complete new file" is for the ordinary client that feeds the body with
sequential `archive_write_data` calls: the concatenation of the chunks, cut at the declared
size, zero-extended to the declared size — independent of the chunking. -/
theorem expected_sequential (size : Nat) (bs : List Bytes) :
    expected size (bs.map Call.data) = padTo size ((bs.flatten).take size) := by
  unfold expected
  rw [foldl_place_data size bs [] 0 rfl (Nat.zero_le _)]
  simp

example : expected 5 ([[1, 2], [3]].map Call.data) = [1, 2, 3, 0, 0] := by
  rw [expected_sequential]; decide

/-- After close and after free the entry is settled (`Fin`). -/
theorem session_settled (F : Nat → Bool) (cfg : Cfg) (old : Bytes) (calls : List Call) (explicitFinish : Bool)
    (hsafe : cfg.safe = true) (hleg : cfg.legacy = {}) (hwf : wellFormed cfg.size 0 calls) :
    Fin old (expected cfg.size calls) (session F cfg old calls explicitFinish).sc ∧
    Fin old (expected cfg.size calls) (session F cfg old calls explicitFinish).s :=
  have h := session_spec F cfg old calls explicitFinish hsafe hleg hwf
  ⟨h.1.fin, h.2.fin⟩

/-- **C19, part 1.**  For every old content, flag set, declared size, data calls
(any chunking, sequential or at offsets, shorter or longer than declared, sparse or
not) and EVERY set of failing system calls: after every system call issued between
archive_write_header and archive_write_free the target name resolves to the complete
old content or to the complete new content. -/
theorem atomic_at_every_prefix : AtomicAtEveryPrefix {} := by
  intro F cfg old calls fin hsafe hleg hwf fs hfs
  obtain ⟨_, h⟩ := session_settled F cfg old calls fin hsafe hleg hwf
  simp only [Run.crashStates, List.mem_map] at hfs
  obtain ⟨ev, hev, rfl⟩ := hfs
  exact h.log ev hev

/-- **C19, part 2.**  After close, and after free, under every fault set that does
not make the cleaning unlink itself fail, no temporary file is left. -/
theorem no_temp_after_close : NoTempAfterClose {} := by
  intro F cfg old calls fin hsafe hleg hwf
  obtain ⟨h1, h2⟩ := session_settled F cfg old calls fin hsafe hleg hwf
  have aux : ∀ s : S, Fin old (expected cfg.size calls) s → UnlinkNotFaulted s.w → s.w.fs.view .tmp = none := by
    intro s hf hu
    rcases hf.notmp with ⟨ev, hm, hop, hres⟩ | h
    · exact absurd hres (hu ev hm hop)
    · simp [FS.view, FS.lookup, h]
  exact ⟨aux _ h1, aux _ h2⟩

/-- In the whole session the cleaning unlink is only issued after some other call was made to fail. -/
theorem session_unlink_after_fault (F : Nat → Bool) (cfg : Cfg) (old : Bytes) (calls : List Call)
    (explicitFinish : Bool) (hsafe : cfg.safe = true) (hleg : cfg.legacy = {})
    (hwf : wellFormed cfg.size 0 calls) :
    UAF F (session F cfg old calls explicitFinish).sc.w ∧ UAF F (session F cfg old calls explicitFinish).s.w :=
  have h := session_spec F cfg old calls explicitFinish hsafe hleg hwf
  ⟨h.1.uaf, h.2.uaf⟩

/-- **C19, part 2 for single faults** (the property's own quantifier: "every one of those calls
failing").  When at most one call fails, whichever it is, no temporary file is left after
close nor after free — without any side condition. -/
theorem no_temp_single_fault (F : Nat → Bool) (hF : ∀ i j, F i = true → F j = true → i = j)
    (cfg : Cfg) (old : Bytes) (calls : List Call) (explicitFinish : Bool)
    (hsafe : cfg.safe = true) (hleg : cfg.legacy = {}) (hwf : wellFormed cfg.size 0 calls) :
    (session F cfg old calls explicitFinish).sc.w.fs.view .tmp = none ∧
    (session F cfg old calls explicitFinish).s.w.fs.view .tmp = none := by
  obtain ⟨u1, u2⟩ := session_unlink_after_fault F cfg old calls explicitFinish hsafe hleg hwf
  obtain ⟨n1, n2⟩ := no_temp_after_close F cfg old calls explicitFinish hsafe hleg hwf
  have aux : ∀ w : World, UAF F w → UnlinkNotFaulted w := by
    intro w hu ev hm hop hres
    obtain ⟨l1, l2, hl⟩ := List.append_of_mem hm
    obtain ⟨k, hk, hfk, hfl⟩ := hu l1 ev l2 hl hop hres
    have := hF k l1.length hfk hfl
    omega
  exact ⟨n1 (aux _ u1), n2 (aux _ u2)⟩

/-! ### non-vacuity: the hypotheses are satisfiable, and both outcomes occur -/

/-- Unfolding of the write loop for a non-sparse write that needs no seek (`writeLoop` is
defined by well-founded recursion). -/
theorem writeLoop_noseek (F : Nat → Bool) (s : S) (a : Nat) (t : Bytes) (h : s.wd.offset = s.wd.fdOffset) :
    writeLoop F 0 (a :: t) s =
      (let r := sys F s.w (.write s.wd.offset (a :: t))
       if !r.2.isOk then
         (⟨{ s.wd with offset := s.wd.offset, fdOffset := s.wd.offset, incomplete := true }, r.1⟩, some .warn)
       else (⟨{ s.wd with offset := s.wd.offset + (t.length + 1), fdOffset := s.wd.offset + (t.length + 1) }, r.1⟩,
             none)) := by
  rw [writeLoop]
  simp [h]
  split
  · rfl
  · rw [writeLoop]; simp

-- The concrete sessions below are evaluated by the kernel (`decide`); for that the write
-- loop, defined by well-founded recursion, has to unfold.
unseal writeLoop

example : wellFormed 10 0 [.data [1, 2, 3], .block 5 [4, 5], .data [6, 7, 8, 9]] := by simp [wellFormed]

/-- A single-element fault set satisfies the hypothesis of `no_temp_single_fault`. -/
example : ∀ i j, (fun k => k == 5) i = true → (fun k => k == 5) j = true → i = j := by
  intro i j hi hj; simp at hi hj; omega

/-- Without faults the new content is installed (the `new` disjunct of atomicity is reached)… -/
example : (session (fun _ => false) { size := 3 } [7] [.data [1, 2, 3]] true).s.w.fs.view .target
    = some [1, 2, 3] := by decide

/-- …a body shorter than declared is zero-extended, a longer one is cut… -/
example : (session (fun _ => false) { size := 4 } [7] [.data [1, 2]] false).s.w.fs.view .target
    = some (expected 4 [.data [1, 2]]) ∧ expected 4 [.data [1, 2]] = [1, 2, 0, 0] := by decide
example : (session (fun _ => false) { size := 2 } [7] [.data [1, 2, 3]] false).s.w.fs.view .target
    = some [1, 2] := by decide

/-- …and a failed write (call 4 = the write) keeps the old file and removes the temporary file. -/
example : (session (fun i => i == 4) { size := 3 } [7] [.data [1, 2, 3]] true).s.w.fs.view .target = some [7] ∧
    (session (fun i => i == 4) { size := 3 } [7] [.data [1, 2, 3]] true).s.w.fs.view .tmp = none ∧
    (session (fun i => i == 4) { size := 3 } [7] [.data [1, 2, 3]] true).fin = some .failed := by decide

/-! ### the unrepaired code: each full statement is false, with the witness replayed in corpus/C19 -/

/-- Unrepaired `la_mktemp` (no unlink when fchmod fails): fchmod = call 3 fails → `f.XXXXXX` stays. -/
theorem no_temp_false_legacy_mktemp : ¬ NoTempAfterClose { mktempLeak := true } := by
  intro h
  have := (h (fun i => i == 3) { size := 0, legacy := { mktempLeak := true } } [7] [] true rfl rfl trivial).2
  revert this
  unfold UnlinkNotFaulted
  decide

/-- Unrepaired error paths of finish_entry (`close_file_descriptor(a); return`): ftruncate (call 4)
and the lseek of the fallback (call 6) fail → the temporary file stays. -/
theorem no_temp_false_legacy_finish : ¬ NoTempAfterClose { finishLeak := true } := by
  intro h
  have := (h (fun i => i == 4 || i == 6) { size := 10, legacy := { finishLeak := true } } [7] [] true
    rfl rfl trivial).2
  revert this
  unfold UnlinkNotFaulted
  decide

/-- Unrepaired finish_entry after a failed write (call 4): the zero-extended temporary file `[0,0,0]`
is renamed over the target, which then is neither the old `[7]` nor the new `[1,2,3]`. -/
theorem atomic_false_legacy_failed_write : ¬ AtomicAtEveryPrefix { renameAfterFailedWrite := true } := by
  intro h
  have := h (fun i => i == 4) { size := 3, legacy := { renameAfterFailedWrite := true } } [7]
    [.data [1, 2, 3]] true rfl rfl (by simp [wellFormed])
  revert this
  decide

/-- Unrepaired `lazy_stat` (falls back to lstat of the file being replaced): ftruncate (4) and fstat (5)
fail, the old file is not shorter than the declared size → the empty temporary file is renamed. -/
theorem atomic_false_legacy_stat_target : ¬ AtomicAtEveryPrefix { statTarget := true } := by
  intro h
  have := h (fun i => i == 4 || i == 5) { size := 2, legacy := { statTarget := true } } [9, 9, 9] [] true
    rfl rfl trivial
  revert this
  decide

/-- Contrast: without ARCHIVE_EXTRACT_SAFE_WRITES the same extraction is not atomic (after the unlink
the target name does not exist), so `cfg.safe = true` is a real hypothesis. -/
theorem not_atomic_without_safe_writes :
    ∃ fs ∈ (session (fun _ => false) { safe := false, size := 3 } [7] [.data [1, 2, 3]] true).crashStates,
      fs.view .target = none := by
  decide

end LA.C19
