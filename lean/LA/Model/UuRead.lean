/-
Model of `archive_read_support_filter_uu.c` (the one read filter behind both the
uuencode and the b64encode write filters): `get_line`, `bid_get_line`,
`uudecode_bidder_bid`, `uudecode_filter_read` with its states ST_FIND_HEAD /
ST_READ_UU / ST_UUEND / ST_READ_BASE64 / ST_IGNORE and the partial line carried
in `in_buff` between calls.  The four lookup tables and the size limits are
extracted from the C (`LA.Gen.UuTables`).

The upstream filter is seen only through `__archive_read_filter_ahead` and
`__archive_read_filter_consume`.  `uudecode_filter_read` asks for 1 byte and
then uses *all* `avail_in` bytes it is given, so its behaviour could depend on
the window sizes; they are therefore an explicit input of the model (one window
per call), and the theorems quantify over all of them.
`LA.C05.window_is_stream_prefix` is what licenses this: every window is a
prefix of the unconsumed stream at least as long as requested.
-/
import LA.Gen.UuTables
namespace LA.UuRead
open LA.Gen.UuTables

/-! The four lookup tables of the C are extracted into `LA.Gen.UuTables`.  The
model uses closed forms of them (constant time, and arithmetic the proofs can
work with); `cls_table`, `uuchar_table`, `b64ok_table`, `b64num_table` below
prove that the extracted tables are exactly the closed forms tabulated, so a
change of a table in the C breaks the build of this file. -/

/-- `ascii[c]`: 0 = control / non-ASCII, 10 / 13 = the two line terminators, 1 = printable. -/
def cls (c : Nat) : Nat :=
  if c = 10 then 10 else if c = 13 then 13 else if 32 ≤ c ∧ c ≤ 126 then 1 else 0
/-- `uuchar[c]` -/
def uuchar (c : Nat) : Bool := 32 ≤ c && c ≤ 96
/-- `base64[c]` (the 256-entry membership table of the read filter; note that it includes `'='`) -/
def b64ok (c : Nat) : Bool :=
  (65 ≤ c && c ≤ 90) || (97 ≤ c && c ≤ 122) || (48 ≤ c && c ≤ 57) || c == 43 || c == 47 || c == 61
/-- `base64num[c]`: a 128-entry table indexed by an `unsigned char` (`none`: outside the table). -/
def b64num (c : Nat) : Option Nat :=
  if 128 ≤ c then none
  else if 65 ≤ c ∧ c ≤ 90 then some (c - 65)
  else if 97 ≤ c ∧ c ≤ 122 then some (c - 71)
  else if 48 ≤ c ∧ c ≤ 57 then some (c + 4)
  else if c = 43 then some 62 else if c = 47 then some 63 else some 0

theorem cls_table : asciiTab = (List.range 256).map cls := by decide +kernel
theorem uuchar_table : uucharTab = (List.range 256).map (fun c => if uuchar c then 1 else 0) := by decide +kernel
theorem b64ok_table : base64Tab = (List.range 256).map (fun c => if b64ok c then 1 else 0) := by decide +kernel
theorem b64num_table : base64numTab.map some = (List.range 128).map b64num ∧ b64num 128 = none := by decide +kernel

/-- `UUDECODE(c)` = `((c) - 0x20) & 0x3f`; `(c - 32) mod 64 = (c + 32) mod 64`. -/
def udec (c : Nat) : Nat := (c + 32) % 64

/-- `get_line(b, avail, &nlsize)` (`b` is the memory from the pointer on, of which
`avail` bytes may be looked at): length of the first line including its
terminator (`none` = -1: a character of class 0), and the terminator's size
(0 = `avail` bytes were scanned without finding one; the length is then `avail`). -/
def getLine : Nat → List Nat → Option Nat × Nat
  | 0, _ => (some 0, 0)
  | _ + 1, [] => (some 0, 0)           -- not reached: `avail` never exceeds the buffer
  | a + 1, c :: rest =>
    match cls c with
    | 0 => (none, 0)
    | 13 =>
      if a > 0 ∧ rest.head? = some 10 then (some 2, 2)     -- `avail-len > 1 && b[1] == '\n'`
      else (some 1, 1)                                      -- FALL THROUGH
    | 10 => (some 1, 1)
    | _ =>
      match getLine a rest with
      | (some n, nl) => (some (n + 1), nl)
      | (none, nl) => (none, nl)

/-! ### `uudecode_filter_read` -/

inductive Phase | findHead | readUU | uuEnd | readB64 | ignore
  deriving DecidableEq, Repr

/-- What `uudecode_read_header` later reports (`mode_set`/`mode`, `name`). -/
structure Meta where
  mode : Option Nat := none
  name : Option (List Nat) := none
  deriving DecidableEq, Repr

structure RState where
  phase : Phase := .findHead
  carry : List Nat := []          -- `in_buff[0 .. in_cnt)`
  total : Nat := 0                -- `uudecode->total`
  md : Meta := {}
  deriving Repr

/-- Result of decoding the body of one line. -/
inductive DecR
  | ok (out : List Nat)
  | bad                            -- "Insufficient compressed data"
  | oob                            -- a read beyond the line and its terminator
  deriving DecidableEq, Repr

def DecR.cons (o : List Nat) : DecR → DecR
  | .ok out => .ok (o ++ out)
  | r => r

def isOct (c : Nat) : Bool := 48 ≤ c && c ≤ 55

/-- The `ST_FIND_HEAD` case for a complete line `b` (`len = b.length`, terminator size `nl`). -/
def headLine (b : List Nat) (nl : Nat) (md : Meta) : Phase × Meta :=
  let len := b.length
  let l := if len - nl ≥ 11 ∧ b.take 6 = uuBegin then 6
           else if len - nl ≥ 18 ∧ b.take 13 = b64Begin then 13 else 0
  match b[l]?, b[l+1]?, b[l+2]?, b[l+3]? with
  | some d0, some d1, some d2, some sp =>
    if l ≠ 0 ∧ isOct d0 ∧ isOct d1 ∧ isOct d2 ∧ sp = 32 then
      let mode := (d0 - 48) * 64 + (d1 - 48) * 8 + (d2 - 48)
      let namelen := len - nl - 4 - l
      (if l = 6 then .readUU else .readB64,
       { mode := some mode, name := if namelen > 1 then some ((b.drop (l + 4)).take namelen) else md.name })
    else (.findHead, md)
  | _, _, _, _ => (.findHead, md)

/-- The `while (l > 0)` loop of `ST_READ_UU`.  `cs` starts at `b` and runs to the
end of the line including its terminator.  `n = UUDECODE(..) << 18 | … << 12 | … << 6 | …`
is written with `+` (the fields do not overlap); `*out++ = n >> 16`,
`(n >> 8) & 0xFF`, `n & 0xFF`. -/
def uuGroups (l : Nat) (cs : List Nat) : DecR :=
  if l = 0 then .ok []
  else
    match cs with
    | [] => .oob
    | c0 :: r0 =>
      if !uuchar c0 then .bad
      else match r0 with
      | [] => .oob
      | c1 :: r1 =>
        if !uuchar c1 then .bad
        else
          let n := udec c0 * 262144 + udec c1 * 4096
          let o1 := n / 65536
          if l - 1 = 0 then .ok [o1]
          else match r1 with
          | [] => .oob
          | c2 :: r2 =>
            if !uuchar c2 then .bad
            else
              let n := n + udec c2 * 64
              let o2 := n / 256 % 256
              if l - 2 = 0 then .ok [o1, o2]
              else match r2 with
              | [] => .oob
              | c3 :: r3 =>
                if !uuchar c3 then .bad
                else
                  let n := n + udec c3
                  DecR.cons [o1, o2, n % 256] (uuGroups (l - 3) r3)
termination_by cs.length

inductive LineR
  | data (out : List Nat)          -- line consumed, bytes appended to `out_buff`
  | toPhase (ph : Phase)           -- line consumed, state changes, no output
  | bad
  | oob
  deriving DecidableEq, Repr

/-- The `ST_READ_UU` case for a complete line `b`. -/
def uuLine (b : List Nat) (nl : Nat) : LineR :=
  let body := b.length - nl
  match b with
  | [] => .bad
  | c :: cs =>
    if !uuchar c || body = 0 then .bad
    else
      let l := udec c
      if l > body - 1 then .bad
      else if l = 0 then .toPhase .uuEnd
      else match uuGroups l cs with
        | .ok o => .data o
        | .bad => .bad
        | .oob => .oob

/-- The `while (l > 0)` loop of `ST_READ_BASE64`; `l` is a signed `ssize_t` (it is
decremented by two at a time).  Returns the output and the final `(l, *b)`. -/
def b64Groups (l : Int) (cs : List Nat) : Option (List Nat × Int × Option Nat) :=
  if l ≤ 0 then some ([], l, cs.head?)
  else
    match cs with
    | [] => none
    | c0 :: r0 =>
      if !b64ok c0 then some ([], l, some c0)
      else match r0 with
      | [] => none
      | c1 :: r1 =>
        if !b64ok c1 then some ([], l, some c0)
        else match b64num c0, b64num c1 with
        | some v0, some v1 =>
          let n := v0 * 262144 + v1 * 4096
          let o1 := n / 65536
          let l := l - 2
          if l ≤ 0 then some ([o1], l, r1.head?)
          else match r1 with
          | [] => none
          | c2 :: r2 =>
            if c2 = 61 ∨ !b64ok c2 then some ([o1], l, some c2)
            else match b64num c2 with
            | none => none
            | some v2 =>
              let n := n + v2 * 64
              let o2 := n / 256 % 256
              let l := l - 1
              if l ≤ 0 then some ([o1, o2], l, r2.head?)
              else match r2 with
              | [] => none
              | c3 :: r3 =>
                if c3 = 61 ∨ !b64ok c3 then some ([o1, o2], l, some c3)
                else match b64num c3 with
                | none => none
                | some v3 =>
                  let n := n + v3
                  match b64Groups (l - 1) r3 with
                  | some (o, l', c') => some ([o1, o2, n % 256] ++ o, l', c')
                  | none => none
        | _, _ => none
termination_by cs.length

/-- The `ST_READ_BASE64` case for a complete line `b`. -/
def b64Line (b : List Nat) (nl : Nat) : LineR :=
  let l := b.length - nl
  if l ≥ 3 ∧ b.take 3 = [61, 61, 61] then .toPhase .findHead
  else match b64Groups l b with
    | none => .oob
    | some (o, l', c') =>
      match c' with
      | none => if l' ≠ 0 then .oob else .data o
      | some c => if l' ≠ 0 ∧ c ≠ 61 then .bad else .data o

/-- Outcome of the `for (;used < avail_in; d += llen, used += llen)` loop. -/
inductive LoopR
  | fatal
  | oob
  | more (carry : List Nat) (ph : Phase) (md : Meta)      -- saved a partial line, `goto read_more`
  | fin (used : Nat) (carry : List Nat) (ph : Phase) (out : List Nat) (md : Meta)   -- reached `finish:`
  deriving DecidableEq, Repr

def LoopR.cons (o : List Nat) : LoopR → LoopR
  | .fin used carry ph out md => .fin used carry ph (o ++ out) md
  | r => r

theorem getLine_pos (a c : Nat) (rest : List Nat) (n nl : Nat)
    (h : getLine (a + 1) (c :: rest) = (some n, nl)) : 0 < n := by
  unfold getLine at h
  split at h
  · simp at h
  · split at h <;> simp at h <;> omega
  · simp at h; omega
  · split at h <;> simp at h; omega

/-- What the `switch (uudecode->state)` does with one complete line. -/
inductive StepR
  | next (ph : Phase) (o : List Nat) (md : Meta)   -- line consumed: new state, bytes appended to `out_buff`
  | full                                           -- `goto finish`: no room left in `out_buff`, line not consumed
  | fatal
  | oob
  deriving DecidableEq, Repr

/-- The `switch (uudecode->state)` for the complete line `b` (`len` bytes, of which
`nl` are the terminator); `total` bytes have been produced in this call so far. -/
def lineStep (ph : Phase) (total len : Nat) (b : List Nat) (nl : Nat) (md : Meta) : StepR :=
  match ph with
  | .readUU =>
    if total + len * 2 > outBuffSize then .full
    else match uuLine b nl with
      | .data o => .next .readUU o md
      | .toPhase p => .next p [] md
      | .bad => .fatal
      | .oob => .oob
  | .uuEnd =>
    if len - nl = 3 ∧ b.take 3 = [101, 110, 100] then .next .findHead [] md
    else .fatal
  | .readB64 =>
    if total + len * 2 > outBuffSize then .full
    else match b64Line b nl with
      | .data o => .next .readB64 o md
      | .toPhase p => .next p [] md
      | .bad => .fatal
      | .oob => .oob
  | _ =>
    -- `default: case ST_FIND_HEAD:`
    if total + len ≥ bidMaxRead then .fatal
    else
      let r := headLine b nl md
      .next r.1 [] r.2

/-- The line loop.  `ravail` is the size of the upstream window of this call,
`tot0` is `uudecode->total` at entry, `total` the bytes produced so far in this
call (`out` is assembled on the way back), `rest` is the memory from `d` on and
`avail = avail_in - used` the part of it that holds data. -/
def lineLoop (ravail tot0 : Nat) (avail : Nat) (rest : List Nat) (used total : Nat) (ph : Phase) (md : Meta) : LoopR :=
  match hr : avail, rest with
  | 0, _ => .fin used [] ph [] md
  | _ + 1, [] => .fin used [] ph [] md          -- not reached (`avail ≤ rest.length`)
  | a + 1, c :: tl =>
    match hg : getLine (a + 1) (c :: tl) with
    | (none, _) =>
      -- "Non-ascii character is found."
      if ph = .findHead ∧ (tot0 > 0 ∨ total > 0) then .fin (used + avail) [] .ignore [] md
      else .fatal
    | (some len, nl) =>
      if nl = 0 ∧ (ph ≠ .uuEnd ∨ ravail > 0) then
        if total = 0 ∧ ravail = 0 then .fatal                    -- "Missing format data"
        else if total = 0 then .more (rest.take len) ph md       -- consume(ravail); goto read_more
        else .fin (used + len) (rest.take len) ph [] md          -- `used += len; break;`
      else
        match lineStep ph total len (rest.take len) nl md with
        | .next ph' o md' =>
          LoopR.cons o (lineLoop ravail tot0 (avail - len) (rest.drop len) (used + len) (total + o.length) ph' md')
        | .full => .fin used [] ph [] md
        | .fatal => .fatal
        | .oob => .oob
termination_by avail
decreasing_by
  have hp := getLine_pos a c tl len nl hg
  omega

inductive CallR
  | fatal
  | oob
  | more (st : RState)                                   -- whole window consumed, no return yet
  | ret (out : List Nat) (used : Int) (st : RState)      -- `consume(upstream, used); return total;`
  deriving Repr

/-- One pass of `uudecode_filter_read` from `read_more:` on, for the window `w`
handed out by `__archive_read_filter_ahead(self->upstream, 1, &avail_in)`
(`w = []`: end of the upstream data). -/
def filterRead (st : RState) (w : List Nat) : CallR :=
  let ravail := w.length
  if st.phase = .ignore then .ret [] ravail st
  else if st.carry ≠ [] ∧ st.carry.length > maxLineLength then .fatal     -- "Invalid format data"
  else
    let buf := st.carry ++ w
    match lineLoop ravail st.total buf.length buf 0 0 st.phase st.md with
    | .fatal => .fatal
    | .oob => .oob
    | .more carry ph md => .more { phase := ph, carry := carry, total := st.total, md := md }
    | .fin used carry ph out md =>
      -- `finish:` the input ended inside the encoded body ("Truncated uuencoded data: missing end marker")
      if out = [] ∧ ravail = 0 ∧ (ph = .readUU ∨ ph = .readB64) then .fatal
      else
      -- `if (ravail < avail_in) used -= avail_in - ravail;`
      .ret out ((used : Int) - ((buf.length : Int) - ravail))
        { phase := ph, carry := carry, total := st.total + out.length, md := md }

/-- What a consumer of the uu filter gets in the end. -/
inductive Final
  | eof (data : List Nat)        -- the filter returned 0: end of data
  | fatal (data : List Nat)      -- ARCHIVE_FATAL after `data`
  | oob
  | stall (data : List Nat)      -- output without consuming
  deriving DecidableEq, Repr

def Final.cons (o : List Nat) : Final → Final
  | .eof d => .eof (o ++ d)
  | .fatal d => .fatal (o ++ d)
  | .oob => .oob
  | .stall d => .stall (o ++ d)

/-- Window for the next call: the script entry `n` asks for `n + 1` bytes (at
most what is left); an exhausted script hands out everything that is left. -/
def window (orc : List Nat) (rem : List Nat) : List Nat :=
  match orc with
  | [] => rem
  | n :: _ => rem.take (n + 1)

theorem window_length_le (orc rem : List Nat) : (window orc rem).length ≤ rem.length := by
  unfold window; split
  · exact Nat.le_refl _
  · simp [List.length_take]; exact Nat.min_le_right _ _

/-- The consumer's loop: call `uudecode_filter_read` until it returns 0 or fails;
`rem` is the upstream data not yet consumed, `orc` scripts the window sizes. -/
def decodeLoop (orc : List Nat) (st : RState) (rem : List Nat) : Final :=
  let w := window orc rem
  match filterRead st w with
  | .fatal => .fatal []
  | .oob => .oob
  | .more st' =>
    if h : w.length = 0 then .fatal []      -- not reachable: `more` needs `ravail > 0`
    else decodeLoop orc.tail st' (rem.drop w.length)
  | .ret out used st' =>
    if out = [] then .eof []
    else if h : used ≤ 0 ∨ rem = [] then .stall out
    else Final.cons out (decodeLoop orc.tail st' (rem.drop used.toNat))
termination_by rem.length
decreasing_by
  · have h1 : w.length ≤ rem.length := window_length_le orc rem
    have h2 : (window orc rem).length = w.length := rfl
    simp only [List.length_drop]
    omega
  · have h2 : rem.length ≠ 0 := by
      intro h0; exact h (Or.inr (List.eq_nil_of_length_eq_zero h0))
    have h3 : ¬ used ≤ 0 := fun hh => h (Or.inl hh)
    simp only [List.length_drop]
    omega

/-- Decode a whole stream: `first` is the size of the first window (what the
bidder left buffered), `orc` scripts the later ones. -/
def decode (first : Nat) (orc : List Nat) (stream : List Nat) : Final :=
  decodeLoop (first :: orc) {} stream

/-! ### the bidder -/

/-- Answer of `__archive_read_filter_ahead(filter, min, &avail)` as the bidder
uses it: it never consumes, so only the number of bytes now visible from the
start of the stream matters. -/
inductive Ans
  | window (v : Nat)       -- pointer returned, `*avail = v`
  | short (avail : Nat)    -- NULL, `*avail` = what is there (less than asked)
  | fatal                  -- NULL, `*avail < 0`
  deriving DecidableEq, Repr

/-- The bidder's cursor.  `b` is the stream from the pointer `b` on (all of it:
what may be looked at is its first `ravail - off` bytes, `*avail` in the C). -/
structure BidSt (σ : Type) where
  up : σ               -- upstream filter
  b : List Nat
  off : Nat            -- `b` as an offset from the start of the stream (`*ravail - *avail`)
  ravail : Nat         -- `*ravail`
  nread : Nat          -- `*nbytes_read`

def BidSt.avail {σ : Type} (st : BidSt σ) : Nat := st.ravail - st.off

/-- `b[i]` for a read that must stay inside the `avail` visible bytes. -/
def rd (b : List Nat) (avail i : Nat) : Option Nat := if i < avail then b[i]? else none

inductive GL (σ : Type)
  | line (len : Option Nat) (nl : Nat) (bnull : Bool) (st : BidSt σ)   -- `bnull`: `*b` was left NULL
  | stuck                                                               -- upstream broke its contract

/-- `(*ravail+1023) & ~1023U`, doubled when that is not at least 160 bytes more. -/
def nbytesReq (ravail : Nat) : Nat :=
  let r := (ravail + 1023) / 1024 * 1024
  if r < ravail + 160 then r * 2 else r

/-- The `while` loop of `bid_get_line` (as repaired: it also looks further when a
complete line ends together with the available bytes).  `slen` is the length of
the whole stream (bounds what a well-behaved upstream can answer). -/
def bidLoop {σ : Type} (slen : Nat) (ahead : σ → Nat → Ans × σ)
    (st : BidSt σ) (len : Option Nat) (nl : Nat) : GL σ :=
  if len = some st.avail ∧ st.nread < bidMaxRead then
    match ahead st.up (nbytesReq st.ravail) with
    | (.window v, up') =>
      if h : st.ravail < v ∧ v ≤ slen then
        let st' : BidSt σ := { st with up := up', ravail := v, nread := v }
        if nl ≠ 0 then .line len nl false st'                 -- "The line was complete already."
        else
          let tested := len.getD 0
          let r := getLine (st'.avail - tested) (st.b.drop tested)
          bidLoop slen ahead st' (r.1.map (· + tested)) r.2
      else .stuck
    | (.fatal, up') => .line (some 0) 0 true { st with up := up' }
    | (.short a, up') =>
      if nl = 0 ∧ st.ravail ≥ a then .line (some 0) 0 true { st with up := up' }
      else
        -- "Reading bytes reaches the end of a stream.": ask for exactly what is there; `quit = 1`
        match ahead up' a with
        | (.window v, up'') =>
          if v < st.off then .stuck else
          let st' : BidSt σ := { st with up := up'', ravail := v, nread := v }
          if nl ≠ 0 then .line len nl false st'
          else
            let tested := len.getD 0
            let r := getLine (st'.avail - tested) (st.b.drop tested)
            .line (r.1.map (· + tested)) r.2 false st'
        | _ => .stuck
  else .line len nl false st
termination_by slen - st.ravail
decreasing_by omega

/-- `bid_get_line(filter, &b, &avail, &ravail, &nl, &nbytes_read)` -/
def bidGetLine {σ : Type} (slen : Nat) (ahead : σ → Nat → Ans × σ) (st : BidSt σ) : GL σ :=
  let r := if st.avail = 0 then (some 0, 0) else getLine st.avail st.b
  bidLoop slen ahead st r.1 r.2

/-- Which `begin` line, if any: the checks shared by the bidder's first loop. -/
def beginKind (line : List Nat) (nl : Nat) : Nat :=
  let len := line.length
  let l := if len - nl ≥ 11 ∧ line.take 6 = uuBegin then 6
           else if len - nl ≥ 18 ∧ line.take 13 = b64Begin then 13 else 0
  match line[l]?, line[l+1]?, line[l+2]?, line[l+3]? with
  | some d0, some d1, some d2, some sp =>
    if l > 0 ∧ (!isOct d0 || !isOct d1 || !isOct d2 || sp != 32) then 0 else l
  | _, _, _, _ => 0

inductive Bid
  | bid (n : Nat)
  | oob                  -- would read outside the window
  | stuck
  deriving DecidableEq, Repr

/-- Move `b` forward by `n` bytes. -/
def BidSt.skip {σ : Type} (st : BidSt σ) (n : Nat) : BidSt σ :=
  { st with b := st.b.drop n, off := st.off + n }

/-- The part of `uudecode_bidder_bid` after the `begin` line has been found:
`l` is 6 or 13, `st.b` is the start of the next line. -/
def bidTail {σ : Type} (slen : Nat) (ahead : σ → Nat → Ans × σ) (st : BidSt σ) (l firstline : Nat) : Bid × σ :=
  if st.avail = 0 then (.bid 0, st.up)            -- `if (!avail) return (0);`
  else match bidGetLine slen ahead st with
  | .stuck => (.stuck, st.up)
  | .line len nl _ st =>
    match len with
    | none => (.bid 0, st.up)
    | some len =>
      if nl = 0 then (.bid 0, st.up)                        -- "There are non-ascii characters."
      else
        let vis := st.avail                 -- bytes that may be read from `st.b`
        let avail := st.avail - len         -- `avail -= len`
        let b := st.b
        if l = 6 then
          match rd b vis 0 with
          | none => (.oob, st.up)
          | some c =>
            if !uuchar c then (.bid 0, st.up)
            else
              let l := udec c
              let len := len - 1
              if l = 0 ∧ len = nl then
                -- an encoded empty file: the next line must be "end"
                match bidGetLine slen ahead (st.skip (1 + nl)) with
                | .stuck => (.stuck, st.up)
                | .line len3 nl3 bnull st3 =>
                  match len3 with
                  | some n3 =>
                    if n3 - nl3 = 3 ∧ n3 ≥ nl3 ∧ st3.b.take 3 = [101, 110, 100] then (.bid (firstline + 30), st3.up)
                    else if n3 ≠ 0 then
                      (if bnull then (.oob, st3.up) else
                       match rd st3.b st3.avail 0 with
                       | none => (.oob, st3.up)
                       | some c3 => if uuchar c3 then (.bid (firstline + 30), st3.up) else (.bid 0, st3.up))
                    else (.bid 0, st3.up)
                  | none =>
                    match rd st3.b st3.avail 0 with
                    | none => (.oob, st3.up)
                    | some c3 => if uuchar c3 then (.bid (firstline + 30), st3.up) else (.bid 0, st3.up)
              else if l > 45 then (.bid 0, st.up)
              else if l > len - nl then (.bid 0, st.up)
              else
                -- `while (l) { if (!uuchar[*b++]) return (0); --len; --l; }`
                let chars := (b.drop 1).take l
                if chars.length < l ∨ vis < 1 + l then (.oob, st.up)
                else if chars.any (fun c => !uuchar c) then (.bid 0, st.up)
                else
                  let i := 1 + l
                  let len := len - l
                  match rd b vis i with
                  | none => (.oob, st.up)
                  | some c1 =>
                    let skip := len - nl = 1 ∧ (uuchar c1 ∨ (97 ≤ c1 ∧ c1 ≤ 122))
                    let i := (if skip then i + 1 else i) + nl
                    if avail = 0 then (.bid 0, st.up)
                    else match rd b vis i with
                      | none => (.oob, st.up)
                      | some c2 => if uuchar c2 then (.bid (firstline + 30), st.up) else (.bid 0, st.up)
        else
          -- "begin-base64 "
          let body := len - nl
          if body = 4 ∧ b.take 4 = [61, 61, 61, 61] then (.bid (firstline + 40), st.up)
          else
            let chars := b.take body
            if chars.length < body ∨ vis < body then (.oob, st.up)
            else if chars.any (fun c => !b64ok c) then (.bid 0, st.up)
            else
              let i := body + nl
              if avail ≥ 5 ∧ (b.drop i).take 5 = [61, 61, 61, 61, 10] then (.bid (firstline + 40), st.up)
              else if avail ≥ 6 ∧ (b.drop i).take 6 = [61, 61, 61, 61, 13, 10] then (.bid (firstline + 40), st.up)
              else if avail > 0 then
                match rd b vis i with
                | none => (.oob, st.up)
                | some c => if b64ok c then (.bid (firstline + 30), st.up) else (.bid 0, st.up)
              else (.bid 0, st.up)

/-- The `for (;;)` loop of `uudecode_bidder_bid` looking for a `begin` line. -/
def bidFind {σ : Type} (slen : Nat) (ahead : σ → Nat → Ans × σ) (st : BidSt σ) (firstline : Nat) : Bid × σ :=
  match bidGetLine slen ahead st with
  | .stuck => (.stuck, st.up)
  | .line len nl _ st' =>
    match len with
    | none => (.bid 0, st'.up)
    | some len =>
      if nl = 0 then (.bid 0, st'.up)                        -- "No match found."
      else
        let line := st'.b.take len
        let l := beginKind line nl
        let st2 := st'.skip len                               -- `b += len; avail -= len;`
        if l ≠ 0 then bidTail slen ahead st2 l firstline
        else if st'.nread ≥ bidMaxRead then (.bid 0, st'.up)
        else if h : 0 < len ∧ st'.off + len ≤ slen ∧ st.off ≤ st'.off then bidFind slen ahead st2 0
        else (.stuck, st'.up)
termination_by slen - st.off
decreasing_by simp only [BidSt.skip]; omega

/-- `uudecode_bidder_bid`: `S` is the whole stream the upstream filter can deliver. -/
def bid {σ : Type} (S : List Nat) (ahead : σ → Nat → Ans × σ) (up : σ) : Bid × σ :=
  match ahead up 1 with
  | (.window v, up') =>
    if v = 0 ∨ v > S.length then (.stuck, up')
    else bidFind S.length ahead { up := up', b := S, off := 0, ravail := v, nread := v } 20
  | (_, up') => (.bid 0, up')

/-- An upstream that answers from a script of "extra bytes beyond the request"
(`LA.C05.window_is_stream_prefix`: a window is at least as long as requested and
never shrinks while nothing is consumed). -/
structure ScriptUp where
  total : Nat                -- bytes the upstream can deliver
  have_ : Nat := 0           -- bytes it has handed out so far
  extra : List Nat := []

def ScriptUp.ahead (u : ScriptUp) (min : Nat) : Ans × ScriptUp :=
  if min ≤ u.total then
    let v := Nat.min u.total (Nat.max min u.have_ + u.extra.headD 0)
    (.window v, { u with have_ := v, extra := u.extra.tail })
  else (.short u.total, { u with have_ := u.total })

end LA.UuRead
