/-
Model of the POSIX disk writer (libarchive/archive_write_disk_posix.c) as far
as property C04 needs it: `check_symlinks_fsobj`, `create_dir`,
`create_parent_dir`, `create_filesystem_object`, `restore_entry`,
`_archive_write_disk_header`, `archive_write_data`,
`_archive_write_disk_finish_entry`, `sort_dir_list` and the fix-up loop of
`_archive_write_disk_close`.

Every function is a *program* (`Prog`): a tree of system calls (`LA.FS.Sys`)
whose continuation receives what the call returned.  `Prog.run` executes it on
a process over the abstract file tree.  Control flow, errno tests and flag tests
mirror the C.

Abstractions (recorded in tools/props/C04.py as well):
* `edit_deep_directories` is modelled (`editLoop`); the confinement theorems carry the
  hypothesis that entry pathnames are shorter than PATH_MAX, the working-directory
  theorem does not.
* Ownership, ACLs, xattrs, file flags, mac metadata, sparse writes, HFS
  compression, set-id/sticky bits and NO_OVERWRITE_NEWER / NO_AUTODIR /
  CLEAR_NOCHANGE_FFLAGS are outside the option sets of the property.
* `archive_write_data` is called once per entry with exactly `size` bytes, so
  the pad/truncate step of finish_entry does nothing.
* `umask(a->user_umask = umask(0))` is one atomic `getUmask`.
* la_mktemp's random suffix is the literal ".XXXXXX".
* The error text and errno stored in the archive object are not kept.
-/
import LA.Model.FS
import LA.Gen.DiskWriter
import LA.Lemmas.PathCleanFast   -- `@[csimp]` equation for `cleanup`, for the compiled driver
namespace LA.Xtr
open LA.FS LA.PathClean
open LA.Gen.DiskWriter

/-! ### programs over system calls -/

inductive Prog (α : Type) : Type
  | ret : α → Prog α
  | call : Sys → (R → Prog α) → Prog α

def Prog.bind {α β} : Prog α → (α → Prog β) → Prog β
  | .ret a, f => f a
  | .call s k, f => .call s (fun r => (k r).bind f)

instance : Monad Prog where
  pure := .ret
  bind := Prog.bind

def sys (s : Sys) : Prog R := .call s .ret

def Prog.run {α} : Prog α → Proc → α × Proc
  | .ret a, pr => (a, pr)
  | .call s k, pr => let (r, pr') := exec s pr; (k r).run pr'

/-! ### statuses, flags, entries -/

/-- ARCHIVE_OK > ARCHIVE_WARN > ARCHIVE_FAILED > ARCHIVE_FATAL. -/
inductive St | ok | warn | failed | fatal
  deriving DecidableEq, Repr

def St.rank : St → Nat | .ok => 3 | .warn => 2 | .failed => 1 | .fatal => 0
/-- `if (r2 < ret) ret = r2;` -/
def St.worst (a b : St) : St := if b.rank < a.rank then b else a
def St.str : St → String | .ok => "ok" | .warn => "warn" | .failed => "failed" | .fatal => "fatal"

structure XFlags where
  unlink : Bool := false
  noOverwrite : Bool := false
  safeWrites : Bool := false
  perm : Bool := false
  time : Bool := false
  secureSymlinks : Bool := true
  nodotdot : Bool := true
  noabs : Bool := true
  deriving DecidableEq, Repr

def XFlags.bits (f : XFlags) : Nat :=
  (if f.unlink then xUnlink else 0) + (if f.noOverwrite then xNoOverwrite else 0) +
  (if f.safeWrites then xSafeWrites else 0) + (if f.perm then xPerm else 0) + (if f.time then xTime else 0) +
  (if f.secureSymlinks then xSecureSymlinks else 0) + (if f.nodotdot then xSecureNodotdot else 0) +
  (if f.noabs then xSecureNoabsolutepaths else 0)

def XFlags.clean (f : XFlags) : Flags := { nodotdot := f.nodotdot, noabs := f.noabs }

inductive EKind | file | dir | symlink | hardlink | fifo
  deriving DecidableEq, Repr

/-- What the writer reads from an `archive_entry`.  For `symlink` / `hardlink`
`link` is the target; `mode` are the permission bits (no set-id / sticky). -/
structure Entry where
  kind : EKind
  path : List Nat
  link : List Nat := []
  mode : Nat := 420
  mtime : Int := 1
  data : List Nat := []
  deriving DecidableEq, Repr

/-- `struct fixup_entry` (the fields used here). -/
structure Fixup where
  name : List Nat
  filetype : Option Kind      -- `fe->filetype`; `none` is 0 (fix-ups queued by create_dir)
  doMode : Bool := false      -- TODO_MODE_BASE
  doTimes : Bool := false     -- TODO_TIMES
  mode : Nat := 0
  mtime : Int := 0
  deriving DecidableEq, Repr

def errOf : R → Option Err
  | .err e => some e
  | _ => none

def lnot12 (m : Nat) : Nat := 4095 ^^^ (m &&& 4095)

/-! ### check_symlinks_fsobj -/

/-- `while (*tail == '/') ++tail;` -/
def skipSlashes (p : List Nat) (i : Nat) : Nat :=
  if _h : rd p i = some SLASH then skipSlashes p (i + 1) else i
termination_by p.length + 1 - i
decreasing_by
  simp only [rd] at _h
  split at _h
  · omega
  · split at _h <;> simp at _h

/-- `while (*tail != '\0' && *tail != '/') ++tail;` -/
def skipElem (p : List Nat) (i : Nat) : Nat :=
  match _h : rd p i with
  | none => i
  | some c => if c = 0 ∨ c = SLASH then i else skipElem p (i + 1)
termination_by p.length + 1 - i
decreasing_by
  rename_i hc
  simp only [rd] at _h
  split at _h
  · omega
  · split at _h
    · simp at _h; omega
    · simp at _h

theorem skipSlashes_ge (p : List Nat) : ∀ n i, p.length + 1 - i = n → i ≤ skipSlashes p i := by
  intro n
  induction n using Nat.strongRecOn with
  | _ n ih =>
    intro i hn
    unfold skipSlashes
    split
    · rename_i h
      have : i < p.length := by
        simp only [rd] at h
        split at h
        · assumption
        · split at h <;> simp at h
      have := ih _ (by omega) (i + 1) rfl
      omega
    · omega

theorem skipElem_ge (p : List Nat) : ∀ n i, p.length + 1 - i = n → i ≤ skipElem p i := by
  intro n
  induction n using Nat.strongRecOn with
  | _ n ih =>
    intro i hn
    unfold skipElem
    split
    · omega
    · rename_i c h
      split
      · omega
      · have : i < p.length := by
          simp only [rd] at h
          split at h
          · assumption
          · split at h
            · simp at h; omega
            · simp at h
        have := ih _ (by omega) (i + 1) rfl
        omega

/-- The `while (!last)` loop of `check_symlinks_fsobj`.  `head` and `tail` are
offsets into `path`; the C temporarily writes a NUL at `tail`, so the string it
passes to the kernel is `path[head, tail)`. -/
def checkLoopIdx (fl : XFlags) (linkname : Bool) (path : List Nat) (head tail : Nat) : Prog St :=
  let t2 := skipElem path (skipSlashes path tail)
  let c := rd path t2
  let last := c == some 0 || c == none || (c == some SLASH && rd path (t2 + 1) == some 0)
  let seg := (path.take t2).drop head
  /- what happens at the bottom of the loop body: "tail[0] = c; if (tail[0] != '\0') tail++;" -/
  let next (head' : Nat) : Prog St :=
    if last then pure .ok
    else if _h : t2 < path.length then checkLoopIdx fl linkname path head' (t2 + 1) else pure .ok
  do
    let r ← sys (.dLstat seg)
    match r with
    | .err .ENOENT => pure .ok                    -- "We've hit a dir that doesn't exist; stop now."
    | .err _ => pure .failed                      -- "Could not stat"
    | .st ⟨.dir, _⟩ =>
      if !last then do
        let r2 ← sys (.dOpenDir seg)
        match r2 with
        | .err _ => pure .fatal                   -- "Could not chdir"
        | _ => next (t2 + 1)
      else next head
    | .st ⟨.lnk, _⟩ =>
      if last && linkname then pure .ok           -- HAVE_LINKAT: hardlinks to symlinks are safe
      else if last then do
        let r2 ← sys (.dUnlink seg)
        match r2 with
        | .err _ => pure .failed
        | _ => pure .ok
      else if fl.unlink then do
        let r2 ← sys (.dUnlink seg)
        match r2 with
        | .err _ => pure .failed
        | _ => next head
      else if !fl.secureSymlinks then do
        let r2 ← sys (.dStat seg)
        match r2 with
        | .err .ENOENT => pure .ok
        | .err _ => pure .failed
        | .st ⟨.dir, _⟩ => do
          let r3 ← sys (.dOpenDir seg)
          match r3 with
          | .err _ => pure .fatal
          | _ => next (t2 + 1)
        | _ => pure .failed                       -- "Cannot extract through symlink"
      else pure .failed                           -- "Cannot extract through symlink"
    | _ => next head
termination_by path.length - tail
decreasing_by
  all_goals
    have h1 := skipSlashes_ge path _ tail rfl
    have h2 := skipElem_ge path _ (skipSlashes path tail) rfl
    omega

/-- `check_symlinks_fsobj(path, …, flags, checking_linkname)`, string-index form
(kept as a second, literal transcription; `checkSymlinks` below is the form the
theorems and the other programs use; the `pathclean` engine runs both). -/
def checkSymlinksIdx (fl : XFlags) (linkname : Bool) (path : List Nat) : Prog St :=
  if path = [] then pure .ok else do
    let _ ← sys .dOpenCwd
    -- "Skip the root directory if the path is absolute."
    let tail := if rd path 0 = some SLASH then 1 else 0
    let r ← checkLoopIdx fl linkname path 0 tail
    let _ ← sys .dClose
    pure r

/-- The `while (!last)` loop of `check_symlinks_fsobj` on the components of a
*cleaned* path (no empty component, no trailing '/': the only strings the
library passes).  `hd` are the components between `head` and the current one:
`head` is advanced only when the walk steps into a directory, so after a
non-directory (or after an intervening symlink removed under UNLINK) the next
`fstatat` is given `hd/…/c` relative to the same directory descriptor. -/
def checkLoop (fl : XFlags) (linkname : Bool) : List Name → List Name → Prog St
  | _, [] => pure .ok
  | hd, c :: rest =>
    let last := rest.isEmpty
    let seg := joinSlash (hd ++ [c])
    do
      let r ← sys (.dLstat seg)
      match r with
      | .err .ENOENT => pure .ok                    -- "We've hit a dir that doesn't exist; stop now."
      | .err _ => pure .failed                      -- "Could not stat"
      | .st ⟨.dir, _⟩ =>
        if !last then do
          let r2 ← sys (.dOpenDir seg)
          match r2 with
          | .err _ => pure .fatal                   -- "Could not chdir"
          | _ => checkLoop fl linkname [] rest      -- "Our view is now from inside this dir"
        else pure .ok
      | .st ⟨.lnk, _⟩ =>
        if last && linkname then pure .ok           -- HAVE_LINKAT: hardlinks to symlinks are safe
        else if last then do
          let r2 ← sys (.dUnlink seg)               -- "Last element is symlink; remove it"
          match r2 with
          | .err _ => pure .failed
          | _ => pure .ok
        else if fl.unlink then do
          let r2 ← sys (.dUnlink seg)               -- "User asked us to remove problems."
          match r2 with
          | .err _ => pure .failed
          | _ => checkLoop fl linkname (hd ++ [c]) rest
        else if !fl.secureSymlinks then do
          let r2 ← sys (.dStat seg)
          match r2 with
          | .err .ENOENT => pure .ok
          | .err _ => pure .failed
          | .st ⟨.dir, _⟩ => do
            let r3 ← sys (.dOpenDir seg)
            match r3 with
            | .err _ => pure .fatal
            | _ => checkLoop fl linkname [] rest
          | _ => pure .failed                       -- "Cannot extract through symlink"
        else pure .failed                           -- "Cannot extract through symlink"
      | _ => if last then pure .ok else checkLoop fl linkname (hd ++ [c]) rest

/-- `check_symlinks_fsobj` on a cleaned path.  For an absolute path `head` starts
at the leading '/', so the first `fstatat` gets "/c1": `hd = [""]`. -/
def checkSymlinks (fl : XFlags) (linkname : Bool) (path : List Nat) : Prog St :=
  if path = [] then pure .ok else do
    let _ ← sys .dOpenCwd
    let r ← checkLoop fl linkname (if isAbs path then [[]] else []) (compsOf path)
    let _ ← sys .dClose
    pure r

/-! ### create_dir / create_parent_dir -/

/-- `strrchr(path, '/')`: the part before the last '/' (when there is one) and the part after it. -/
def dirBase : List Nat → Option (List Nat) × List Nat
  | [] => (none, [])
  | c :: r => match dirBase r with
    | (some d, b) => (some (c :: d), b)
    | (none, b) => if c = SLASH then (some [], b) else (none, c :: b)

theorem dirBase_eq : ∀ (p : List Nat), match dirBase p with
    | (some d, b) => p = d ++ SLASH :: b ∧ (∀ x ∈ b, x ≠ SLASH)
    | (none, b) => p = b ∧ (∀ x ∈ b, x ≠ SLASH) := by
  intro p
  induction p with
  | nil => simp [dirBase]
  | cons c r ih =>
    unfold dirBase
    cases h : dirBase r with
    | mk o b =>
      rw [h] at ih
      cases o with
      | some d => simp only at ih ⊢; exact ⟨by rw [ih.1]; rfl, ih.2⟩
      | none =>
        simp only at ih ⊢
        by_cases hc : c = SLASH
        · simp only [hc, if_true]; exact ⟨by rw [ih.1]; rfl, ih.2⟩
        · simp only [hc, if_false]
          refine ⟨by rw [ih.1], ?_⟩
          intro x hx
          simp at hx
          rcases hx with rfl | hx
          · exact hc
          · exact ih.2 x hx

theorem dirBase_lt (p d b : List Nat) (h : dirBase p = (some d, b)) : d.length < p.length := by
  have := dirBase_eq p
  rw [h] at this
  rw [this.1]; simp

/-- `create_dir(a, path)`.  Returns the status and the fix-ups it queued. -/
def createDir (fl : XFlags) (umask : Nat) (path : List Nat) : Prog (St × List Fixup) :=
  match _h : dirBase path with
  | (slash, base) =>
  if base = [] ∨ base = [DOT] ∨ base = [DOT, DOT] then
    match _h2 : slash with
    | some d => createDir fl umask d
    | none => pure (.ok, [])
  else do
    let r ← sys (.stat path)           -- "Yes, this should be stat() and not lstat()."
    let pre : Prog (St × List Fixup) :=
      match r with
      | .st ⟨.dir, _⟩ => pure (.warn, [])     -- marker: exists already (returned as OK below)
      | .st _ =>
        if fl.noOverwrite then pure (.failed, [])
        else do
          let r2 ← sys (.unlink path)
          match r2 with
          | .err _ => pure (.failed, [])
          | _ => pure (.ok, [])
      | .err e =>
        if e ≠ .ENOENT ∧ e ≠ .ENOTDIR then pure (.failed, [])
        else match _h2 : slash with
          | some d => createDir fl umask d
          | none => pure (.ok, [])
      | _ => pure (.failed, [])
    let (s, fx) ← pre
    match s with
    | .warn => pure (.ok, fx)
    | .ok => do
      let modeFinal := defaultDirMode &&& lnot12 umask
      let mode := (modeFinal ||| minimumDirMode) &&& maximumDirMode
      let r3 ← sys (.mkdir path mode)
      match r3 with
      | .err _ => do
        let r4 ← sys (.stat path)
        match r4 with
        | .st ⟨.dir, _⟩ => pure (.ok, fx)
        | _ => pure (.failed, fx)
      | _ =>
        if mode ≠ modeFinal then
          pure (.ok, { name := path, filetype := none, doMode := true, mode := modeFinal } :: fx)
        else pure (.ok, fx)
    | s => pure (s, fx)
termination_by path.length
decreasing_by
  all_goals
    subst _h2
    exact dirBase_lt path _ _ _h

/-- `create_parent_dir(a, path)` -/
def createParentDir (fl : XFlags) (umask : Nat) (path : List Nat) : Prog (St × List Fixup) :=
  match (dirBase path).1 with
  | none => pure (.ok, [])
  | some d => createDir fl umask d

/-! ### edit_deep_directories -/

/-- Greatest offset `i` with `0 < i ≤ k` and `p[i] = '/'`:
"tail += PATH_MAX - 8; while (tail > a->name && *tail != '/') tail--;" -/
def slashAtMost (p : List Nat) : Nat → Option Nat
  | 0 => none
  | k + 1 => if p[k + 1]? = some SLASH then some (k + 1) else slashAtMost p k

theorem slashAtMost_pos (p : List Nat) : ∀ k i, slashAtMost p k = some i → 0 < i := by
  intro k
  induction k with
  | zero => intro i h; simp [slashAtMost] at h
  | succ k ih =>
    intro i h
    unfold slashAtMost at h
    split at h
    · simp at h; omega
    · exact ih i h

/-- The `while (strlen(tail) >= PATH_MAX)` loop of `edit_deep_directories`: `name` is what
`a->name` points at; the result is the shortened name and the fix-ups `create_dir` queued.
Every successful `chdir` moves the process. -/
def editLoop (fl : XFlags) (umask : Nat) (name : List Nat) : Prog (List Nat × List Fixup) :=
  if name.length < pathMax then pure (name, [])
  else
    match _h : slashAtMost name (pathMax - 8) with
    | none => pure (name, [])                 -- "Exit if we find a too-long path component."
    | some i => do
      let (st, fx) ← createDir fl umask (name.take i)
      let entered ← (if st = .ok then do
          let r ← sys (.chdir (name.take i))
          pure (errOf r).isNone
        else pure false : Prog Bool)
      if !entered then pure (name, fx)
      else do
        let (n2, fx2) ← editLoop fl umask (name.drop (i + 1))
        pure (n2, fx2 ++ fx)
termination_by name.length
decreasing_by
  have := slashAtMost_pos name _ i _h
  have hp : pathMax = 4096 := rfl
  simp only [List.length_drop]
  omega

/-! ### per-entry state of the writer -/

structure ES where
  mode : Nat               -- `a->mode & 07777`
  todoMode : Bool := true  -- `a->todo & TODO_MODE`
  todoTimes : Bool := false
  modeForce : Bool := false
  defMode : Bool := false  -- `a->deferred & TODO_MODE`
  defTimes : Bool := false
  hasFd : Bool := false
  tmp : Bool := false      -- `a->tmpname != NULL`
  fix : List Fixup := []   -- fix-ups queued by create_dir during this entry
  deriving Repr

def Entry.isDir (e : Entry) : Bool := e.kind == .dir
def Entry.filesize (e : Entry) : Nat := match e.kind with
  | .file | .hardlink => e.data.length
  | _ => 0

/-- `create_filesystem_object(a)`: "0 if creation succeeds, or else the errno
value from the failed system call". -/
def createObject (fl : XFlags) (umask : Nat) (e : Entry) (name : List Nat) (es : ES) : Prog (Option Err × ES) :=
  match e.kind with
  | .hardlink =>
    match cleanup fl.clean e.link with
    | .ok lc => do
      let r ← checkSymlinks fl true lc
      if r ≠ .ok then pure (some .EPERM, es) else do
        if fl.safeWrites then let _ ← sys (.unlink name)
        let r ← sys (.link e.link name)       -- the *uncleaned* link name
        match errOf r with
        | some en => pure (some en, es)
        | none =>
          if e.filesize = 0 then pure (none, { es with todoMode := false, todoTimes := false, defMode := false, defTimes := false })
          else do
            let r2 ← sys (.lstat name)
            match r2 with
            | .st ⟨.reg, _⟩ => do
              let r3 ← sys (.openTrunc name)
              match errOf r3 with
              | some en => pure (some en, es)
              | none => pure (none, { es with hasFd := true })
            | .st _ => pure (none, { es with todoMode := false, todoTimes := false, defMode := false, defTimes := false })
            | .err en => pure (some en, es)
            | _ => pure (some .EIO, es)
    | _ => pure (some .EPERM, es)
  | .symlink => do
    if fl.safeWrites then let _ ← sys (.unlink name)
    let r ← sys (.symlink e.link name)
    pure (errOf r, es)
  | k =>
    let finalMode := es.mode &&& 4095
    let mode := finalMode &&& 511 &&& lnot12 umask
    match k with
    | .dir => do
      let mode := (mode ||| minimumDirMode) &&& maximumDirMode
      let r ← sys (.mkdir name mode)
      match errOf r with
      | some en => pure (some en, es)
      | none =>
        let es := { es with defTimes := es.defTimes || es.todoTimes, todoTimes := false }
        let es := if mode ≠ finalMode ∨ fl.perm then { es with defMode := es.defMode || es.todoMode } else es
        pure (none, { es with todoMode := false })
    | .fifo => do
      let r ← sys (.mkfifo name mode)
      match errOf r with
      | some en => pure (some en, es)
      | none => pure (none, if mode = finalMode then { es with todoMode := false } else es)
    | _ => do
      let r ← sys (.openCreat name mode)
      match errOf r with
      | some en => pure (some en, { es with tmp := false })
      | none => pure (none, if mode = finalMode then { es with todoMode := false, tmp := false, hasFd := true }
                            else { es with tmp := false, hasFd := true })

/-- `restore_entry(a)` -/
def restoreEntry (fl : XFlags) (umask : Nat) (e : Entry) (name : List Nat) (es : ES) : Prog (St × ES) := do
  let pre : Prog Bool :=
    if fl.unlink && !e.isDir then do
      let r ← sys (.unlink name)
      match r with
      | .err .ENOENT => pure true
      | .err _ => do
        let r2 ← sys (.rmdir name)
        match r2 with
        | .err _ => pure false               -- "Could not unlink"
        | _ => pure true
      | _ => pure true
    else pure true
  if !(← pre) then pure (.failed, es) else
  let (en, es) ← createObject fl umask e name es
  let (en, es) ← (if en = some .ENOTDIR ∨ en = some .ENOENT then do
      let (_, fx) ← createParentDir fl umask name
      createObject fl umask e name { es with fix := fx ++ es.fix }
    else pure (en, es) : Prog (Option Err × ES))
  if en = some .ENOENT ∧ e.kind = .hardlink then pure (.failed, es) else
  if (en = some .EISDIR ∨ en = some .EEXIST) ∧ fl.noOverwrite then
    pure (.ok, if e.isDir then { es with todoMode := false, todoTimes := false } else es)
  else
  let step : Prog (Option St × Option Err × ES) :=
    if en = some .EISDIR then do
      let r ← sys (.rmdir name)
      match r with
      | .err _ => pure (some .failed, en, es)
      | _ => do let (en, es) ← createObject fl umask e name es; pure (none, en, es)
    else if en = some .EEXIST then do
      let r1 ← (if e.isDir then sys (.stat name) else pure (.err .EINVAL) : Prog R)
      let r ← (match r1 with
        | .st s => pure (.st s)
        | _ => sys (.lstat name) : Prog R)
      match r with
      | .st s =>
        if s.kind ≠ .dir then
          if fl.safeWrites ∧ s.kind = .reg then do
            let r2 ← sys (.mkstemp name (es.mode &&& 511 &&& lnot12 umask))
            match r2 with
            | .err _ => pure (some .failed, en, es)
            | _ => pure (none, none, { es with hasFd := true, tmp := true })
          else do
            let r2 ← sys (.unlink name)
            match r2 with
            | .err _ => pure (some .failed, en, es)
            | _ => do let (en, es) ← createObject fl umask e name es; pure (none, en, es)
        else if !e.isDir then do
          let r2 ← sys (.rmdir name)
          match r2 with
          | .err _ => pure (some .failed, en, es)
          | _ => do let (en, es) ← createObject fl umask e name es; pure (none, en, es)
        else
          -- "There's a dir in the way of a dir."  Its mode is fixed up at close when PERM asks for it;
          -- its times are deferred like those of a newly made directory ("Restoring the children will
          -- touch this dir just as it touches a newly created one").
          let es1 := if es.mode ≠ s.mode ∧ es.modeForce then { es with defMode := es.defMode || es.todoMode } else es
          pure (none, none, { es1 with defTimes := es1.defTimes || es1.todoTimes, todoTimes := false })
      | _ => pure (some .failed, en, es)     -- "Can't stat existing object"
    else pure (none, en, es)
  let (early, en, es) ← step
  match early with
  | some s => pure (s, es)
  | none => if en.isSome then pure (.failed, es) else pure (.ok, es)

/-- State of the `archive_write_disk` object between calls. -/
structure Writer where
  flags : XFlags
  fixups : List Fixup := []         -- `a->fixup_list`, newest first
  cur : Option (Entry × List Nat × ES) := none   -- entry being written (state DATA): entry, `a->name`, per-entry state
  deriving Repr

/-- `_archive_write_disk_header` (the harness always finishes the previous entry first). -/
def header (w : Writer) (e : Entry) : Prog (St × Writer) :=
  let fl := w.flags
  let w := { w with cur := none }
  match cleanup fl.clean e.path with
  | .ok name =>
    if e.kind = .hardlink ∧ name = e.link then pure (.warn, w)   -- "Skipping hardlink pointing to itself"
    else do
      let u ← sys .getUmask
      let umask := match u with | .num n => n | _ => 0
      let es : ES := { mode := if fl.perm then e.mode else e.mode &&& 511 &&& lnot12 umask,
                       modeForce := fl.perm, todoTimes := fl.time }
      let chk ← (if fl.secureSymlinks then checkSymlinks fl false name else pure .ok : Prog St)
      if chk ≠ .ok then pure (chk, w) else do
      -- edit_deep_directories: "If path exceeds PATH_MAX, shorten the path."
      let deep : Bool := decide (name.length ≥ pathMax)
      let (name, fxd) ← (if deep then do
          let _ ← sys .rOpenCwd
          editLoop fl umask name
        else pure (name, []) : Prog (List Nat × List Fixup))
      let (ret, es) ← restoreEntry fl umask e name es
      -- "If we changed directory above, restore it here."
      let ret ← (if deep then do
          let r ← sys .rFchdir
          let _ ← sys .rClose
          pure (match r with | .err _ => St.fatal | _ => ret)
        else pure ret : Prog St)
      let ft : Option Kind := some (match e.kind with
        | .file | .hardlink => .reg | .dir => .dir | .symlink => .lnk | .fifo => .fifo)
      -- "Fixup uses the unedited pathname from archive_entry_pathname()"
      let fe : Option Fixup :=
        if es.defMode ∨ es.defTimes then
          some { name := e.path, filetype := ft, doMode := es.defMode, doTimes := es.defTimes,
                 mode := es.mode, mtime := e.mtime }
        else none
      let fixups := (match fe with | some f => [f] | none => []) ++ es.fix ++ fxd ++ w.fixups
      let w := { w with fixups := fixups }
      pure (ret, if ret = .ok ∨ ret = .warn then { w with cur := some (e, name, es) } else w)
  | _ => pure (.failed, w)

/-- `archive_write_data` with the whole body. -/
def writeData (w : Writer) (data : List Nat) : Prog St :=
  match w.cur with
  | some (_, _, es) =>
    if es.hasFd then do
      let r ← sys (.fwrite data)
      match r with
      | .err _ => pure .fatal
      | _ => pure .ok
    else pure .warn            -- "Attempt to write to an empty file"
  | none => pure .fatal        -- archive_check_magic: wrong state

/-- `_archive_write_disk_finish_entry` -/
def finishEntry (w : Writer) : Prog (St × Writer) :=
  match w.cur with
  | none => pure (.ok, w)      -- state HEADER
  | some (e, name, es) => do
    -- set_mode
    let r1 ← (if es.todoMode then
        if e.kind = .symlink then do
          let r ← sys (.lchmod name es.mode)
          match r with
          | .err .ENOTSUP => pure .ok
          | .err _ => pure .warn
          | _ => pure .ok
        else if !e.isDir then do
          let r ← (if es.hasFd then sys (.fchmod es.mode) else sys (.chmod name es.mode))
          match r with
          | .err _ => pure .warn
          | _ => pure .ok
        else pure .ok
      else pure .ok : Prog St)
    -- set_times_from_entry
    let r2 ← (if es.todoTimes then do
        let r ← (if es.hasFd then sys (.futimens e.mtime) else sys (.utimens name e.mtime))
        match r with
        | .err _ => pure .warn
        | _ => pure .ok
      else pure .ok : Prog St)
    let ret := (St.ok.worst r1).worst r2
    let ret ← (if es.hasFd then do
        let _ ← sys .fclose
        if es.tmp then do
          let r ← sys (.renameTmp name)
          match r with
          | .err _ => do let _ ← sys (.unlinkTmp name); pure St.failed
          | _ => pure ret
        else pure ret
      else pure ret : Prog St)
    pure (ret, { w with cur := none })

/-! ### close: sort_dir_list and the fix-up loop -/

/-- `strcmp(a, b) > 0` on unsigned bytes. -/
def strGt : List Nat → List Nat → Bool
  | [], _ => false
  | _ :: _, [] => true
  | x :: a, y :: b => if x = y then strGt a b else x > y

/-- Step 3 of `sort_dir_list`: "Always put the later element on the list first." -/
def mergeFix : List Fixup → List Fixup → List Fixup
  | [], b => b
  | a, [] => a
  | x :: a, y :: b =>
    if strGt x.name y.name then x :: mergeFix a (y :: b) else y :: mergeFix (x :: a) b
termination_by a b => a.length + b.length

/-- `sort_dir_list`: the first half has ⌈n/2⌉ elements. -/
def sortFix (l : List Fixup) : List Fixup :=
  if _h : l.length < 2 then l
  else
    let k := (l.length + 1) / 2
    mergeFix (sortFix (l.take k)) (sortFix (l.drop k))
termination_by l.length
decreasing_by
  · simp only [List.length_take]; omega
  · simp only [List.length_drop]; omega

def stripTrailingSlashes (p : List Nat) : List Nat :=
  (p.reverse.dropWhile (· == SLASH)).reverse

def kindMatches (ft : Option Kind) (s : Stat) : Bool :=
  match ft with
  | some k => k == s.kind        -- la_verify_filetype
  | none => false                -- filetype 0: `default: break;` → 0

/-- One iteration of the `while (p != NULL)` loop of `_archive_write_disk_close`. -/
def applyFixup (fl : XFlags) (p : Fixup) : Prog Unit :=
  let name0 := stripTrailingSlashes p.name
  if !(p.doMode || p.doTimes) then pure () else
  -- the re-check added by the fix: cleanup_pathname_fsobj + check_symlinks_fsobj(…, flags & ~UNLINK, 1)
  let checked : Prog (Option (List Nat)) :=
    if fl.secureSymlinks then
      match cleanup fl.clean name0 with
      | .ok q => do
        let r ← checkSymlinks { fl with unlink := false } true q
        if r = .ok then pure (some q) else pure none
      | _ => pure none
    else pure (some name0)
  do
    match (← checked) with
    | none => pure ()
    | some name => do
      let isDirFix := p.filetype == some .dir
      let ro ← sys (.xOpen name isDirFix)
      let opened := (errOf ro).isNone
      -- the file type verification
      let verified : Prog Bool :=
        if opened ∧ isDirFix then pure true
        else if opened then do
          let s ← sys .xFstat
          match s with
          | .st st => pure (kindMatches p.filetype st)
          | _ => pure false
        else do
          let s ← sys (.lstat name)
          match s with
          | .st st => pure (kindMatches p.filetype st)
          | _ => pure false
      if !(← verified) then do
        if opened then let _ ← sys .xClose
        pure ()
      else do
        if p.doTimes then
          let _ ← (if opened then sys (.xUtimens p.mtime) else sys (.utimens name p.mtime))
        if p.doMode then
          let _ ← (if opened then sys (.xChmod (p.mode &&& 4095)) else sys (.lchmod name (p.mode &&& 4095)))
        if opened then let _ ← sys .xClose
        pure ()

def applyFixups (fl : XFlags) : List Fixup → Prog Unit
  | [] => pure ()
  | p :: r => do applyFixup fl p; applyFixups fl r

/-- `_archive_write_disk_close` -/
def close (w : Writer) : Prog (St × Writer) := do
  let (ret, w) ← finishEntry w
  applyFixups w.flags (sortFix w.fixups)
  pure (ret, { w with fixups := [] })

/-- One entry the way `archive_read_extract2` drives the writer. -/
def extractEntry (w : Writer) (e : Entry) : Prog (St × Writer) := do
  let (h, w) ← header w e
  let hasFd : Bool := match w.cur with | some (_, _, es) => es.hasFd | none => false
  let d ← (if h = .ok ∧ e.data ≠ [] ∧ hasFd = true then writeData w e.data else pure .ok : Prog St)
  let (f, w) ← finishEntry w
  pure ((h.worst d).worst f, w)

def extractAll (w : Writer) : List Entry → Prog (List St × Writer)
  | [] => pure ([], w)
  | e :: es => do
    let (s, w) ← extractEntry w e
    let (ss, w) ← extractAll w es
    pure (s :: ss, w)

/-- A whole extraction: every entry, then `archive_write_close`. -/
def extractArchive (fl : XFlags) (es : List Entry) : Prog (List St × St) := do
  let (ss, w) ← extractAll { flags := fl } es
  let (s, _) ← close w
  pure (ss, s)

end LA.Xtr
