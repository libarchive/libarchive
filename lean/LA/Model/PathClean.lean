/-
Model of the pathname editing done before anything is restored to disk
(property C04):

* `cleanup_pathname_fsobj(char *path, int *a_eno, struct archive_string *a_estr,
  int flags)` of libarchive/archive_write_disk_posix.c — an **in-place**
  rewrite of a NUL-terminated string.  The model keeps the whole memory block
  (`strlen(path) + 1` cells, the last one holding the terminator) as a list,
  reads it with `buf[i]?` and writes it with `List.set`; a read or write outside
  the block is the distinguished result `oob`.  `src` and `dest` are indices.
* `strip_absolute_path(struct bsdtar *, const char *p)` of tar/util.c — a pure
  cursor advance; the result is the index at which the returned pointer points.

A C string is the list of its non-NUL bytes (`List Nat`, each `< 256`).
Not modelled: the error text placed in `a_estr` (only the reason class is
kept), the `__CYGWIN__` branch `cleanup_pathname_win`, the once-only warning
side effects of `warn_strip_leading_char` / `warn_strip_drive_letter`.
-/
import LA.Model.Util
namespace LA.PathClean

abbrev SLASH : Nat := 47
abbrev DOT : Nat := 46
abbrev BSLASH : Nat := 92

/-- The two `ARCHIVE_EXTRACT_SECURE_*` bits `cleanup_pathname_fsobj` looks at. -/
structure Flags where
  nodotdot : Bool      -- ARCHIVE_EXTRACT_SECURE_NODOTDOT
  noabs : Bool         -- ARCHIVE_EXTRACT_SECURE_NOABSOLUTEPATHS
  deriving DecidableEq, Repr

/-- Why `cleanup_pathname_fsobj` returned `ARCHIVE_FAILED`. -/
inductive Fail
  | empty      -- "Invalid empty pathname"
  | absolute   -- "Path is absolute"
  | dotdot     -- "Path contains '..'"
  deriving DecidableEq, Repr

inductive Res
  | ok (path : List Nat)     -- ARCHIVE_OK, the string now in the block
  | failed (why : Fail)      -- ARCHIVE_FAILED
  | oob                      -- a read or write outside the block (never: `cleanup_no_oob`)
  deriving DecidableEq, Repr

/-- `while (*src != '\0' && *src != '/') *dest++ = *src++;` -/
def copyElem (buf : List Nat) (src dest : Nat) : Option (List Nat × Nat × Nat) :=
  match _h : buf[src]? with
  | none => none
  | some c =>
    if c = 0 ∨ c = SLASH then some (buf, src, dest)
    else if dest < buf.length then copyElem (buf.set dest c) (src + 1) (dest + 1)
    else none
termination_by buf.length - src
decreasing_by
  have := (List.getElem?_eq_some_iff.mp _h).1
  simp only [List.length_set]; omega

theorem copyElem_props : ∀ (n : Nat) (buf : List Nat) (src dest : Nat), buf.length - src = n →
    ∀ b s d, copyElem buf src dest = some (b, s, d) →
      b.length = buf.length ∧ src ≤ s ∧ s < b.length := by
  intro n
  induction n using Nat.strongRecOn with
  | _ n ih =>
    intro buf src dest hn b s d h
    unfold copyElem at h
    split at h
    · simp at h
    · rename_i c hc
      have hlt := (List.getElem?_eq_some_iff.mp hc).1
      split at h
      · simp at h; obtain ⟨rfl, rfl, rfl⟩ := h; exact ⟨rfl, Nat.le_refl _, hlt⟩
      · split at h
        · have := ih (buf.length - (src + 1)) (by omega) (buf.set dest c) (src + 1) (dest + 1)
            (by simp) b s d h
          simp only [List.length_set] at this
          exact ⟨this.1, by omega, this.2.2⟩
        · simp at h

/-- Result of the element loop of `cleanup_pathname_fsobj`. -/
inductive Scan
  | done (buf : List Nat) (dest : Nat) (sep : Bool)   -- left the `for (;;)` by `break`
  | failed                                             -- "Path contains '..'"
  | oob
  deriving DecidableEq, Repr

/-- What the `.`-look-ahead at the head of the loop body decides. -/
inductive Look | stop | skip2 | fail | copy | oob
  deriving DecidableEq, Repr

/-- `else if (src[0] == '.') { if (src[1] == '\0') … else if (src[1] == '/') … else if
(src[1] == '.') { if (src[2] == '/' || src[2] == '\0') { if (flags & NODOTDOT) … } } }`
(`src[0]` is already known to be neither NUL nor '/'). -/
def look (nodotdot : Bool) (buf : List Nat) (src : Nat) (c0 : Nat) : Look :=
  if c0 = DOT then
    match buf[src + 1]? with
    | none => .oob
    | some c1 =>
      if c1 = 0 then .stop
      else if c1 = SLASH then .skip2
      else if c1 = DOT then
        match buf[src + 2]? with
        | none => .oob
        | some c2 => if (c2 = SLASH ∨ c2 = 0) ∧ nodotdot then .fail else .copy
      else .copy
  else .copy

/-- The `for (;;)` loop "Scan the pathname one element at a time."
`sep` is `separator != '\0'`. -/
def scan (nodotdot : Bool) (buf : List Nat) (src dest : Nat) (sep : Bool) : Scan :=
  match _h : buf[src]? with
  | none => .oob
  | some c0 =>
    if c0 = 0 then .done buf dest sep
    else if c0 = SLASH then scan nodotdot buf (src + 1) dest sep
    else
      match look nodotdot buf src c0 with
      | .oob => .oob
      | .stop => .done buf dest sep
      | .fail => .failed
      | .skip2 => scan nodotdot buf (src + 2) dest sep
      | .copy =>
        -- "Copy current element, including leading '/'."
        if dest < buf.length then
          let buf1 := if sep then buf.set dest SLASH else buf
          let dest1 := if sep then dest + 1 else dest
          match _hc : copyElem buf1 src dest1 with
          | none => .oob
          | some (buf2, src2, dest2) =>
            match buf2[src2]? with
            | none => .oob
            | some c => if c = 0 then .done buf2 dest2 sep
                        else scan nodotdot buf2 (src2 + 1) dest2 true   -- "Skip '/' separator."
        else .oob
termination_by buf.length - src
decreasing_by
  · have := (List.getElem?_eq_some_iff.mp _h).1; omega
  · have := (List.getElem?_eq_some_iff.mp _h).1; omega
  · have hlt := (List.getElem?_eq_some_iff.mp _h).1
    have hp := copyElem_props _ _ _ _ rfl _ _ _ _hc
    have hl : buf1.length = buf.length := by
      simp only [buf1]; split <;> simp
    omega

/-- `cleanup_pathname_fsobj`.  `p` is the string on entry; the block has
`p.length + 1` cells. -/
def cleanup (f : Flags) (p : List Nat) : Res :=
  let buf := p ++ [0]
  match buf[0]? with
  | none => .oob
  | some c =>
    if c = 0 then .failed .empty
    else if c = SLASH ∧ f.noabs then .failed .absolute
    else
      let abs := c = SLASH
      match scan f.nodotdot buf (if abs then 1 else 0) 0 abs with
      | .oob => .oob
      | .failed => .failed .dotdot
      | .done buf1 dest sep =>
        -- "if (dest == path) { if (separator) *dest++ = '/'; else *dest++ = '.'; }  *dest = '\0';"
        if dest = 0 then
          if 1 < buf1.length then .ok [if sep then SLASH else DOT] else .oob
        else if dest < buf1.length then .ok (buf1.take dest) else .oob

/-- The in-place model compiled exactly as written.  (`LA/Lemmas/PathCleanFast.lean` gives later modules a
proved linear-time replacement for `cleanup`; the `pathclean` engine keeps running this literal one.) -/
def cleanupLiteral (f : Flags) (p : List Nat) : Res := cleanup f p

/-! ### Reference semantics on components (what the theorems compare the C loop with) -/

/-- Split at every '/': `"a//b/"` is `["a", "", "b", ""]`. -/
def splitSlash : List Nat → List (List Nat)
  | [] => [[]]
  | c :: r =>
    if c = SLASH then [] :: splitSlash r
    else match splitSlash r with
      | [] => [[c]]            -- unreachable: `splitSlash` is never empty
      | h :: t => (c :: h) :: t

/-- Join with '/': inverse of `splitSlash`. -/
def joinSlash : List (List Nat) → List Nat
  | [] => []
  | [c] => c
  | c :: d :: r => c ++ SLASH :: joinSlash (d :: r)

def isDotDot (c : List Nat) : Bool := c == [DOT, DOT]

/-- Components that survive: not empty, not ".". -/
def keep (cs : List (List Nat)) : List (List Nat) :=
  cs.filter fun c => !(c == []) && !(c == [DOT])

/-- What `cleanup_pathname_fsobj` computes, stated on components. -/
def cleanSpec (f : Flags) (p : List Nat) : Res :=
  if p = [] then .failed .empty
  else if p.head? = some SLASH ∧ f.noabs then .failed .absolute
  else if f.nodotdot ∧ (splitSlash p).any isDotDot then .failed .dotdot
  else
    let body := joinSlash (keep (splitSlash p))
    if p.head? = some SLASH then .ok (SLASH :: body)
    else if body = [] then .ok [DOT] else .ok body

/-! ### bsdtar: `strip_absolute_path` -/

/-- `p[i]` of a NUL-terminated string: the byte below the length, `0` at the
length, `none` beyond the terminator. -/
def rd (s : List Nat) (i : Nat) : Option Nat :=
  if i < s.length then s[i]? else if i = s.length then some 0 else none

def isSep (c : Nat) : Bool := c == SLASH || c == BSLASH
def isAlpha (c : Nat) : Bool := (97 ≤ c && c ≤ 122) || (65 ≤ c && c ≤ 90)

/-- C `a && b` on reads: `b` is evaluated only when `a` held. -/
@[inline] def andRd (a : Option Bool) (b : Unit → Option Bool) : Option Bool :=
  match a with
  | none => none
  | some false => some false
  | some true => b ()

def tst (s : List Nat) (i : Nat) (f : Nat → Bool) : Option Bool := (rd s i).map f

/-- The "//./", "//?/", "//?/UNC/" prefix test; result = bytes to skip. -/
def winPrefix (s : List Nat) : Option Nat :=
  match andRd (tst s 0 isSep) fun _ => andRd (tst s 1 isSep) fun _ =>
        andRd (tst s 2 fun c => c == DOT || c == 63) fun _ => tst s 3 isSep with
  | none => none
  | some false => some 0
  | some true =>
    match andRd (tst s 2 (· == 63)) fun _ => andRd (tst s 4 fun c => c == 85 || c == 117) fun _ =>
          andRd (tst s 5 fun c => c == 78 || c == 110) fun _ =>
          andRd (tst s 6 fun c => c == 67 || c == 99) fun _ => tst s 7 isSep with
    | none => none
    | some true => some 8
    | some false => some 4

/-- `while (p[0] == '/' || p[0] == '\\') { … p += 3 | 2 | 1 }` -/
def stripSlashes (s : List Nat) (i : Nat) : Option Nat :=
  match _h : tst s i isSep with
  | none => none
  | some false => some i
  | some true =>
    match andRd (tst s (i + 1) (· == DOT)) fun _ => andRd (tst s (i + 2) (· == DOT)) fun _ =>
          tst s (i + 3) isSep with
    | none => none
    | some true => stripSlashes s (i + 3)
    | some false =>
      match andRd (tst s (i + 1) (· == DOT)) fun _ => tst s (i + 2) isSep with
      | none => none
      | some true => stripSlashes s (i + 2)
      | some false => stripSlashes s (i + 1)
termination_by s.length + 1 - i
decreasing_by
  all_goals
    simp only [tst, rd] at _h
    split at _h
    · omega
    · split at _h
      · simp [isSep] at _h
      · simp at _h

theorem tst_some_le {s : List Nat} {i : Nat} {f : Nat → Bool} {b : Bool} (h : tst s i f = some b) :
    i ≤ s.length := by
  simp only [tst, rd] at h
  split at h
  · omega
  · split at h
    · omega
    · simp at h

/-- A test that fails on NUL and came out true was made below the terminator. -/
theorem tst_true_lt {s : List Nat} {i : Nat} {f : Nat → Bool} (hf : f 0 = false)
    (h : tst s i f = some true) : i < s.length := by
  simp only [tst, rd] at h
  split at h
  · assumption
  · split at h
    · simp [hf] at h
    · simp at h

theorem stripSlashes_bounds (s : List Nat) : ∀ (n i : Nat), s.length + 1 - i = n → ∀ j,
    stripSlashes s i = some j → i ≤ j ∧ j ≤ s.length := by
  intro n
  induction n using Nat.strongRecOn with
  | _ n ih =>
    intro i hn j h
    unfold stripSlashes at h
    split at h
    · simp at h
    · rename_i ht; simp at h; have := tst_some_le ht; omega
    · rename_i ht
      have hi : i < s.length := tst_true_lt (by decide) ht
      split at h
      · simp at h
      · have := ih _ (by omega) (i + 3) rfl j h; omega
      · split at h
        · simp at h
        · have := ih _ (by omega) (i + 2) rfl j h; omega
        · have := ih _ (by omega) (i + 1) rfl j h; omega

/-- One pass of the `do { rp = p; … } while (rp != p)` loop: drive letter, then slashes. -/
def stripPass (s : List Nat) (i : Nat) : Option Nat :=
  match andRd (tst s i isAlpha) fun _ => tst s (i + 1) (· == 58) with
  | none => none
  | some d => stripSlashes s (if d then i + 2 else i)

theorem stripPass_bounds (s : List Nat) (i j : Nat) (h : stripPass s i = some j) : i ≤ j ∧ j ≤ s.length := by
  unfold stripPass at h
  split at h
  · simp at h
  · have := stripSlashes_bounds s _ _ rfl j h
    split at this <;> omega

theorem stripPass_ge (s : List Nat) (i j : Nat) (h : stripPass s i = some j) : i ≤ j :=
  (stripPass_bounds s i j h).1

theorem stripPass_le (s : List Nat) (i j : Nat) (h : stripPass s i = some j) : j ≤ s.length :=
  (stripPass_bounds s i j h).2

/-- "Remove multiple leading slashes and Windows drive letters." -/
def stripLoop (s : List Nat) (i : Nat) : Option Nat :=
  match _h : stripPass s i with
  | none => none
  | some j => if j = i then some i else stripLoop s j
termination_by s.length + 1 - i
decreasing_by
  have := stripPass_ge s i j _h
  have := stripPass_le s i j _h
  omega

/-- `strip_absolute_path`: index of the returned pointer in `p`; `none` = a read
beyond the terminator (never: `strip_absolute_sound`). -/
def stripAbsolute (s : List Nat) : Option Nat :=
  match winPrefix s with
  | none => none
  | some k => stripLoop s k

end LA.PathClean
