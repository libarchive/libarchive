/-
Model of the AES-CTR layer of libarchive/archive_cryptor.c (property C20):
`aes_ctr_init`, `aes_ctr_increase_counter`, `aes_ctr_encrypt_counter`,
`aes_ctr_update` (the code after `#else` of ARCHIVE_CRYPTOR_STUB, which is what is
compiled with HAVE_LIBCRYPTO; the same three functions serve as encrypt and as
decrypt entries of `__archive_cryptor`).

The AES block function (EVP AES-ECB under a fixed key) is a parameter
`E : Block → Block`; nothing is assumed about it.

Kept from the C: the 16-byte `nonce` whose first 8 bytes are a little-endian
counter incremented byte by byte with carry (`if (++nonce[j]) break;`) *before*
each use; `encr_buf`; `encr_pos` carried from one call to the next; the shape of
the loop (a fast path of whole blocks entered only when `pos == AES_BLOCK_SIZE`,
which leaves the *next* counter block already encrypted and `pos = 0`, and a
byte path); the output capacity (`max = min(in_len, *out_len)`).
Left out: the cast of `max` to `unsigned` (all callers pass at most 256 KiB).
A read `ebuf[pos]` with `pos > 16` is the distinguished result `oob`.
-/
import LA.Model.Util
import LA.Gen.Crypt
namespace LA.Ctr

/-- `AES_BLOCK_SIZE`.  The model is written for 16; the extracted constant is
checked here so that a change of the C constant stops the build. -/
abbrev BS : Nat := 16
example : LA.Gen.Crypt.aesBlockSize = BS := rfl

abbrev Block := Vector UInt8 BS

/-- `archive_crypto_ctx` as far as CTR mode is concerned (the key lives in `E`). -/
structure Ctx where
  nonce : Block
  ebuf : Block          -- `encr_buf`
  pos : Nat             -- `encr_pos`

def zeroBlock : Block := Vector.replicate BS 0

/-- `aes_ctr_init`: nonce zeroed, `encr_pos = AES_BLOCK_SIZE` (buffer empty).
`encr_buf` is not initialised by the C; it is never read before it is filled
(`Inv` of `Lemmas/Ctr`: at a block border `pos = BS` and the buffer is not looked at). -/
def init : Ctx := { nonce := zeroBlock, ebuf := zeroBlock, pos := BS }

/-- The carry loop of `aes_ctr_increase_counter` over the bytes it may touch. -/
def incBytes : List UInt8 → List UInt8
  | [] => []
  | b :: r => if b + 1 != 0 then (b + 1) :: r else (b + 1) :: incBytes r

theorem incBytes_length (l : List UInt8) : (incBytes l).length = l.length := by
  induction l with
  | nil => rfl
  | cons b r ih => simp only [incBytes]; split <;> simp [ih]

/-- `aes_ctr_increase_counter`: `for (j = 0; j < 8; j++) if (++nonce[j]) break;` -/
def incCounter (n : Block) : Block :=
  ⟨(incBytes (n.toList.take 8) ++ n.toList.drop 8).toArray, by
    simp [incBytes_length, BS]⟩

/-- 16 bytes of `out[i+pos] = in[i+pos] ^ ebuf[pos]`. -/
def xorBlock (ebuf : Block) (inp : List UInt8) : List UInt8 :=
  List.zipWith (· ^^^ ·) inp ebuf.toList

/-- The inner `while (max - i >= AES_BLOCK_SIZE)` loop: whole blocks are XORed with
the current `ebuf`, then the counter is increased and encrypted again.
Returns the nonce, the buffer, the unprocessed rest and the output. -/
def blocks (E : Block → Block) (nonce ebuf : Block) (rest : List UInt8) :
    Block × Block × List UInt8 × List UInt8 :=
  if rest.length ≥ BS then
    let o := xorBlock ebuf (rest.take BS)
    let nonce' := incCounter nonce
    let (n2, e2, r2, o2) := blocks E nonce' (E nonce') (rest.drop BS)
    (n2, e2, r2, o ++ o2)
  else (nonce, ebuf, rest, [])
termination_by rest.length
decreasing_by simp [BS] at *; omega

theorem blocks_rest_le (E : Block → Block) (nonce ebuf : Block) (rest : List UInt8) :
    (blocks E nonce ebuf rest).2.2.1.length ≤ rest.length := by
  fun_induction blocks E nonce ebuf rest with
  | case1 nonce ebuf rest h o nonce' n2 e2 r2 o2 heq ih =>
    simp only [heq] at ih
    simp at ih ⊢; omega
  | case2 => simp

inductive Res where
  | ok (c : Ctx) (out : List UInt8)
  | oob
  deriving Inhabited

def Res.cons (b : UInt8) : Res → Res
  | .ok c out => .ok c (b :: out)
  | .oob => .oob

def Res.prepend (bs : List UInt8) : Res → Res
  | .ok c out => .ok c (bs ++ out)
  | .oob => .oob

/-- The outer `for (i = 0; i < max; )` loop of `aes_ctr_update` over the bytes still
to be processed. -/
def loop (E : Block → Block) (nonce ebuf : Block) (pos : Nat) (rest : List UInt8) : Res :=
  match rest with
  | [] => .ok { nonce, ebuf, pos } []
  | b :: tl =>
    if pos = BS then
      let nonce1 := incCounter nonce
      match h : blocks E nonce1 (E nonce1) (b :: tl) with
      | (n2, e2, [], o2) => .ok { nonce := n2, ebuf := e2, pos := 0 } o2   -- `if (i >= max) break;`
      | (n2, e2, b2 :: tl2, o2) =>
        (Res.cons (b2 ^^^ e2[0]) (loop E n2 e2 1 tl2)).prepend o2
    else if hp : pos < BS then
      Res.cons (b ^^^ ebuf[pos]) (loop E nonce ebuf (pos + 1) tl)
    else .oob
termination_by rest.length
decreasing_by
  · have := blocks_rest_le E (incCounter nonce) (E (incCounter nonce)) (b :: tl)
    rw [h] at this
    simp at this ⊢; omega
  · simp

/-- `aes_ctr_update(ctx, in, in_len, out, &out_len)` with `*out_len = cap` on entry:
processes `min(in_len, cap)` bytes; the new `*out_len` is the length of the output. -/
def update (E : Block → Block) (c : Ctx) (inp : List UInt8) (cap : Nat) : Res :=
  loop E c.nonce c.ebuf c.pos (inp.take (min inp.length cap))

/-- Feed a list of chunks through successive `update` calls (capacity never the
limit), collecting the outputs. -/
def run (E : Block → Block) (c : Ctx) : List (List UInt8) → Option (Ctx × List (List UInt8))
  | [] => some (c, [])
  | ch :: r =>
    match update E c ch ch.length with
    | .oob => none
    | .ok c' o =>
      match run E c' r with
      | none => none
      | some (c'', os) => some (c'', o :: os)

/-- Little-endian bytes of a number (`m` bytes). -/
def leBytes : Nat → Nat → List UInt8
  | 0, _ => []
  | m + 1, k => (k % 256).toUInt8 :: leBytes m (k / 256)

theorem leBytes_length (m k : Nat) : (leBytes m k).length = m := by
  induction m generalizing k with
  | zero => rfl
  | succ m ih => simp [leBytes, ih]

/-- The counter block for counter value `k`: 8 little-endian bytes of `k mod 2^64`,
then 8 zero bytes (the part `aes_ctr_init` zeroes and nothing ever touches). -/
def counterBlock (k : Nat) : Block :=
  ⟨(leBytes 8 k ++ List.replicate 8 0).toArray, by simp [leBytes_length]⟩

/-- Context as after `aes_ctr_init` but with the counter preset to `k`
(the harness pokes the nonce to reach the carry borders). -/
def initAt (k : Nat) : Ctx := { nonce := counterBlock k, ebuf := zeroBlock, pos := BS }

/-- Byte `i` of the key stream that starts after counter value `k0`:
`E(k0+1) ‖ E(k0+2) ‖ …`. -/
def ksByte (E : Block → Block) (k0 i : Nat) : UInt8 :=
  (E (counterBlock (k0 + i / BS + 1)))[i % BS]'(Nat.mod_lt _ (by decide))

/-- XOR of a byte list with a stream, starting at stream position `n`. -/
def xorStream (ks : Nat → UInt8) : Nat → List UInt8 → List UInt8
  | _, [] => []
  | n, b :: r => (b ^^^ ks n) :: xorStream ks (n + 1) r

end LA.Ctr
