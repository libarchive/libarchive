/-
`archive_write_add_filter_b64encode.c`: `la_b64_encode` and the instance of the
shared write skeleton (`LA.LineFilter`).  `LBYTES`, the alphabet `base64[]`, the
initial `bs`, the "begin-base64 " prefix and the trailer are extracted from the
C (`LA.Gen.UuTables`).
-/
import LA.Model.LineFilter
import LA.Gen.UuTables
namespace LA.B64
open LA.Gen.UuTables

/-- `base64[c]`; `c` is a six-bit value by construction (`unsigned char >> 2`, …). -/
def ch (c : Nat) : Nat :=
  if c < 26 then c + 65 else if c < 52 then c + 71 else if c < 62 then c - 4 else if c = 62 then 43 else 47

/-- The closed form above is the extracted table `base64[]` of the write filter. -/
theorem ch_table : b64Alphabet = (List.range 64).map ch := by decide +kernel

/-- The body of `la_b64_encode` (same bit slicing as `uu_encode`, `'='` padding). -/
def triples : List Nat → List Nat
  | a :: b :: c :: rest =>
    ch (a / 4) :: ch (a % 4 * 16 + b / 16) :: ch (b % 16 * 4 + c / 64) :: ch (c % 64) :: triples rest
  | [a, b] => [ch (a / 4), ch (a % 4 * 16 + b / 16), ch (b % 16 * 4), 61]
  | [a] => [ch (a / 4), ch (a % 4 * 16), 61, 61]
  | [] => []

/-- `la_b64_encode(as, p, len)`: groups, `'\n'` (no length character). -/
def encLine (p : List Nat) : List Nat := triples p ++ [10]

def codec : LA.LineFilter.Codec :=
  { lbytes := b64LBytes, lpos := by decide, encLine := encLine, begin_ := b64Begin,
    trailer := b64Trailer, bs0 := b64WriteBs }

def encode (bpb mode : Nat) (name : List Nat) (chunks : List (List Nat)) : List Nat :=
  LA.LineFilter.output (LA.LineFilter.run codec bpb mode name chunks)

end LA.B64
