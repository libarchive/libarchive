/-
Model of libarchive/archive_acl.c (property C15): the ACL entry list, the two
text generators `archive_acl_to_text_l` / `archive_acl_to_text_w` and the two
text parsers `archive_acl_from_text_nl` / `archive_acl_from_text_w`.

Conventions

* A character (`char` or `wchar_t`) is a `Nat` (`Ch`).  The narrow and the wide
  code are two textual copies of the same algorithm; the places where the copies
  differ are kept and selected by `wide : Bool`:
    - `next_field` (length-guarded, a field ends at the first white space) vs
      `next_field_w` (NUL-guarded, trailing white space trimmed);
    - the id printed for an entry without EXTRA_ID (`archive_acl_to_text_l`
      keeps the id of an unnamed entry, `_w` does not);
    - the tables (`Gen.AclMaps.permMap` / `permMapW`, ... — extracted separately).
* A pointer into the text is the *suffix* of the text that starts there, so
  `*p` is `r[0]?` and `p[i]` is `r[i]?`.  The narrow text is exactly the
  `length` bytes handed to `archive_acl_from_text_nl` (no terminator: reading
  `[]` is reading one past the buffer); the wide text carries its terminating
  NUL explicitly (`fromTextW xs = parse (xs ++ [0])`), so reading `[]` is
  reading beyond the terminator.  Such a read is `Except.error .oob`;
  dereferencing a NULL field pointer is `.error .null`.
* `struct { start; end; } field[i]` is `Field` = the suffix at `start` and the
  length `end - start`; a blank (NULL, NULL) field is `none`.
* The tables and constants come from `LA.Gen.AclMaps` (extracted from the C).
* `mstring` names: a case is entirely narrow or entirely wide, so a name is the
  list of its characters in that representation and no conversion happens;
  `[]` is "no name" (`archive_mstring_clean`).
* `type`, `tag`, `permset`, `flags`, `want_type` are the non-negative values of a
  C `int` (`Nat`); `id` is an `Int` with the C range stated where it matters.

The model follows archive_acl.c *with* the repairs made while it was written
(libarchive commits "fix: …" bcbe7ef end-of-buffer reads in the narrow parser,
fb8928a NULL tag field in the wide parser, e1bc06b id field in `text_len`,
871276b `ismode` partial permset, 493cdb1 single entry types in `acl_new_entry`);
each old behaviour is kept as a regression case in corpus/C15.
-/
import LA.Model.Util
import LA.Gen.AclMaps
set_option linter.unusedVariables false
namespace LA.Acl
open LA.Gen.AclMaps

/-- One `char` or `wchar_t`. -/
scoped notation "Ch" => Nat

/-- `struct archive_acl_entry` (without `next`). -/
structure Entry where
  type : Nat
  tag : Nat
  permset : Nat
  id : Int
  name : List Ch
  deriving DecidableEq, Repr

/-- `struct archive_acl`: `mode`, the entry list in list order, `acl_types`. -/
structure Acl where
  mode : Nat := 0
  entries : List Entry := []
  types : Nat := 0
  deriving DecidableEq, Repr

inductive Status | ok | warn | failed | fatal
  deriving DecidableEq, Repr

inductive Fault | oob | null
  deriving DecidableEq, Repr

/-! ### Adding entries -/

/-- `x & ~mask == 0` for non-negative `x`. -/
def within (x mask : Nat) : Bool := x &&& mask = x

/-- `acl_special`: an ACCESS entry for user_obj / group_obj / other whose permset
fits in `rwx` (`(permset & ~007) == 0`) is folded into `mode`; `some` = handled
(the C returns 0).  `mode &= ~m` is written `mode - (mode &&& m)`. -/
def aclSpecial (acl : Acl) (type permset tag : Nat) : Option Acl :=
  if type = typeAccess ∧ within permset 7 then
    if tag = tagUserObj then
      some { acl with mode := acl.mode - (acl.mode &&& 0o700) ||| ((permset &&& 7) <<< 6) }
    else if tag = tagGroupObj then
      some { acl with mode := acl.mode - (acl.mode &&& 0o070) ||| ((permset &&& 7) <<< 3) }
    else if tag = tagOther then
      some { acl with mode := acl.mode - (acl.mode &&& 0o007) ||| (permset &&& 7) }
    else none
  else none

/-- The validity checks at the head of `acl_new_entry` (`false` = returns NULL). -/
def newEntryValid (acl : Acl) (type permset tag : Nat) : Bool :=
  -- `switch (type)`: exactly one of the six entry types
  (type = typeAccess ∨ type = typeDefault ∨ type = typeAllow ∨ type = typeDeny ∨ type = typeAudit ∨
    type = typeAlarm) ∧
  (if type &&& typeNfs4 ≠ 0 then
     within acl.types typeNfs4 ∧ within permset (permsNfs4 ||| inheritanceNfs4)
   else if type &&& typePosix1e ≠ 0 then
     within acl.types typePosix1e ∧ within permset permsPosix1e
   else False) ∧
  (if tag = tagUser ∨ tag = tagUserObj ∨ tag = tagGroup ∨ tag = tagGroupObj then True
   else if tag = tagMask ∨ tag = tagOther then within type typePosix1e
   else if tag = tagEveryone then within type typeNfs4
   else False)

/-- The overwrite loop of `acl_new_entry`: a POSIX.1e entry with the same type,
tag and id replaces the permset (and, through the caller, the name) of the first
such entry, unless it is a user/group entry without id.  `none` = no match. -/
def overwrite (type permset tag : Nat) (id : Int) (name : List Ch) : List Entry → Option (List Entry)
  | [] => none
  | e :: rest =>
    if type &&& typeNfs4 = 0 ∧ e.type = type ∧ e.tag = tag ∧ e.id = id ∧
        (id ≠ -1 ∨ (tag ≠ tagUser ∧ tag ≠ tagGroup)) then
      some ({ e with permset := permset, name := name } :: rest)
    else (overwrite type permset tag id name rest).map (e :: ·)

/-- `archive_acl_add_entry` / `_w_len` / `_len_l` (conversion object NULL).
`name = []` stands for a NULL or empty name. -/
def addEntry (acl : Acl) (type permset tag : Nat) (id : Int) (name : List Ch) : Acl × Status :=
  match aclSpecial acl type permset tag with
  | some acl' => (acl', .ok)
  | none =>
    if newEntryValid acl type permset tag then
      match overwrite type permset tag id name acl.entries with
      | some es => ({ acl with entries := es }, .ok)
      | none =>
        ({ acl with entries := acl.entries ++ [⟨type, tag, permset, id, name⟩],
                    types := acl.types ||| type }, .ok)
    else (acl, .failed)

/-! ### Text generation -/

def hasFlag (flags bit : Nat) : Bool := flags &&& bit ≠ 0

/-- `archive_acl_text_want_type`. -/
def textWantType (acl : Acl) (flags : Nat) : Nat :=
  if acl.types &&& typeNfs4 ≠ 0 then
    if acl.types &&& typePosix1e ≠ 0 then 0 else typeNfs4
  else
    let w := (if hasFlag flags typeAccess then typeAccess else 0) |||
             (if hasFlag flags typeDefault then typeDefault else 0)
    if w = 0 then typePosix1e else w

/-- An entry the generators skip: not of a wanted type, or one of the three
mode-mapped ACCESS entries. -/
def skipped (e : Entry) (wantType : Nat) : Bool :=
  e.type &&& wantType = 0 ∨
  (e.type = typeAccess ∧ (e.tag = tagUserObj ∨ e.tag = tagGroupObj ∨ e.tag = tagOther))

/-- The recursion of `append_id` on a non-negative value. -/
def digits (n : Nat) : List Ch :=
  if h : n > 9 then digits (n / 10) ++ [48 + n % 10] else [48 + n]
decreasing_by omega

/-- `append_id`: negative ids print as 0. -/
def appendId (id : Int) : List Ch := digits id.toNat

/-- `idlen = 1; while (tmp > 9) { tmp /= 10; idlen++; }` on a non-negative value. -/
def idLenLoop (tmp : Nat) : Nat :=
  if h : tmp > 9 then idLenLoop (tmp / 10) + 1 else 1
decreasing_by omega

/-- The id digit count of `archive_acl_text_len` (a negative id never enters the loop). -/
def idLen (id : Int) : Nat := idLenLoop id.toNat

/-- `sizeof(uid_t) * 3 + 1`. -/
def uidTextLen : Nat := 13

/-- Contribution of one listed entry to `archive_acl_text_len`.  The C computes
`length = length - 1` for the Solaris case on an unsigned total that is at least
`tag + 1 + 1` at that point; it is folded in here as one fewer colon. -/
def entryTextLen (e : Entry) (wantType flags : Nat) : Nat :=
  (if wantType &&& typeDefault ≠ 0 ∧ e.type &&& typeDefault ≠ 0 then 8 else 0) +
  (if e.tag = tagUserObj then (if wantType = typeNfs4 then 6 else 4)
   else if e.tag = tagUser ∨ e.tag = tagMask then 4
   else if e.tag = tagGroupObj then (if wantType = typeNfs4 then 6 else 5)
   else if e.tag = tagGroup ∨ e.tag = tagOther then 5
   else if e.tag = tagEveryone then 9 else 0) +
  1 +
  (if e.tag = tagUser ∨ e.tag = tagGroup then
     (if e.name ≠ [] then e.name.length else uidTextLen) + 1
   else if wantType ≠ typeNfs4 then 1 else 0) -
  (if hasFlag flags styleSolaris ∧ wantType &&& typePosix1e ≠ 0 ∧
      (e.tag = tagOther ∨ e.tag = tagMask) then 1 else 0) +
  (if wantType = typeNfs4 then 27 + (if e.type &&& typeDeny = 0 then 1 else 0) else 3) +
  (if e.tag = tagUser ∨ e.tag = tagGroup then 1 + idLen e.id else 0) +
  1

/-- The entries the generators print from the list (in list order). -/
def listed (acl : Acl) (wantType : Nat) : List Entry :=
  acl.entries.filter (fun e => !skipped e wantType)

/-- `archive_acl_text_len` (0 = nothing to print). -/
def textLen (acl : Acl) (wantType flags : Nat) : Nat :=
  let body := ((listed acl wantType).map (entryTextLen · wantType flags)).sum
  if wantType &&& typeAccess ≠ 0 then
    body + (if hasFlag flags styleSolaris then 31 else 32)
  else if (listed acl wantType).length = 0 then 0 else body

def str (s : String) : List Ch := s.toList.map Char.toNat

/-- One permission / flag map of `append_entry`: the character of every set bit,
`-` for an unset one unless the style is compact. -/
def mapChars (m : List (Nat × Nat)) (perm : Nat) (compact : Bool) : List Ch :=
  m.flatMap fun (mask, c) =>
    if perm &&& mask ≠ 0 then [c] else if compact then [] else [45]

/-- The word the tag `switch` of `append_entry` copies (nothing for a tag without `case`). -/
def tagWord (nfs4 : Bool) (tag : Nat) : List Ch :=
  if tag = tagUserObj then (if nfs4 then str "owner@" else str "user")
  else if tag = tagUser then str "user"
  else if tag = tagGroupObj then (if nfs4 then str "group@" else str "group")
  else if tag = tagGroup then str "group"
  else if tag = tagMask then str "mask"
  else if tag = tagOther then str "other"
  else if tag = tagEveryone then str "everyone@"
  else []

/-- The tags whose `case` does `name = NULL; id = -1`. -/
def dropsQual (tag : Nat) : Bool :=
  tag = tagUserObj ∨ tag = tagGroupObj ∨ tag = tagMask ∨ tag = tagOther ∨ tag = tagEveryone

/-- What `append_entry` writes between the colon after the tag and the
permissions (qualifier and second colon), and the id left for the trailing field. -/
def qualPart (type tag flags : Nat) (name : List Ch) (id : Int) : List Ch × Int :=
  let name := if dropsQual tag then [] else name
  let id := if dropsQual tag then -1 else id
  let ug := tag = tagUser ∨ tag = tagGroup
  if type &&& typePosix1e ≠ 0 ∨ ug then
    let colon : List Ch :=
      if ¬ hasFlag flags styleSolaris ∨ (tag ≠ tagOther ∧ tag ≠ tagMask) then [58] else []
    if name ≠ [] then (name ++ colon, id)
    else if ug then (appendId id ++ colon, if type &&& typeNfs4 = 0 then -1 else id)
    else (colon, id)
  else ([], id)

/-- The permission part: `rwx` for POSIX.1e, `perms:flags:type` for NFSv4. -/
def permPart (wide : Bool) (type flags perm : Nat) : List Ch :=
  if type &&& typePosix1e ≠ 0 then
    [if perm &&& 0o444 ≠ 0 then 114 else 45, if perm &&& 0o222 ≠ 0 then 119 else 45,
     if perm &&& 0o111 ≠ 0 then 120 else 45]
  else
    mapChars (if wide then permMapW else permMap) perm (hasFlag flags styleCompact) ++ [58] ++
    mapChars (if wide then flagMapW else flagMap) perm (hasFlag flags styleCompact) ++ [58] ++
    (if type = typeAllow then str "allow" else if type = typeDeny then str "deny"
     else if type = typeAudit then str "audit" else if type = typeAlarm then str "alarm" else [])

/-- `append_entry` / `append_entry_w`.  `name = []` is a NULL name. -/
def appendEntry (wide : Bool) (pfx : Bool) (type tag flags : Nat) (name : List Ch)
    (perm : Nat) (id : Int) : List Ch :=
  let q := qualPart type tag flags name id
  (if pfx then str "default:" else []) ++ tagWord (type &&& typeNfs4 ≠ 0) tag ++ [58] ++ q.1 ++
    permPart wide type flags perm ++ (if q.2 ≠ -1 then 58 :: appendId q.2 else [])

inductive TextResult
  | null                    -- the function returns NULL
  | text (t : List Ch)      -- the string (without its terminator)
  | overrun (t : List Ch)   -- more than `length` characters were written
  deriving DecidableEq, Repr

/-- The text of one listed entry: prefix, and the id handed to `append_entry`
(`archive_acl_to_text_l`: `name == NULL || EXTRA_ID`; `_w`: `EXTRA_ID` only). -/
def entryText (wide : Bool) (flags : Nat) (e : Entry) : List Ch :=
  let pfx := e.type = typeDefault ∧ hasFlag flags styleMarkDefault
  let id : Int :=
    if wide then (if hasFlag flags styleExtraId then e.id else -1)
    else (if e.name = [] ∨ hasFlag flags styleExtraId then e.id else -1)
  appendEntry wide pfx e.type e.tag flags e.name e.permset id

/-- The three entries made up from `mode`. -/
def headTexts (wide : Bool) (mode flags : Nat) : List (List Ch) :=
  [appendEntry wide false typeAccess tagUserObj flags [] (mode &&& 0o700) (-1),
   appendEntry wide false typeAccess tagGroupObj flags [] (mode &&& 0o070) (-1),
   appendEntry wide false typeAccess tagOther flags [] (mode &&& 0o007) (-1)]

/-- `separator` -/
def sepChar (flags : Nat) : Ch := if hasFlag flags styleSeparatorComma then 44 else 10

/-- The characters `archive_acl_to_text_l` / `_w` write before the terminator,
given the already adjusted `flags`: a separator goes before every entry but the
first (`count > 0`). -/
def textBody (wide : Bool) (acl : Acl) (wantType flags : Nat) : List Ch :=
  [sepChar flags].intercalate
    ((if wantType &&& typeAccess ≠ 0 then headTexts wide acl.mode flags else []) ++
     (listed acl wantType).map (entryText wide flags))

/-- Flags as adjusted at the head of `archive_acl_to_text_*`. -/
def textFlags (wantType flags : Nat) : Nat :=
  if wantType = typePosix1e then flags ||| styleMarkDefault else flags

/-- `archive_acl_to_text_l(acl, &len, flags, NULL)` / `archive_acl_to_text_w`. -/
def toText (wide : Bool) (acl : Acl) (flags : Nat) : TextResult :=
  let wantType := textWantType acl flags
  if wantType = 0 then .null else
  let flags := textFlags wantType flags
  let length := textLen acl wantType flags
  if length = 0 then .null else
  let t := textBody wide acl wantType flags
  if t.length > length - 1 then .overrun t else .text t


/-! ### Text parsing -/

/-- `struct { start; end; }`: the text from `start` on, and `end - start`. -/
structure Field where
  s : List Ch
  len : Nat
  deriving DecidableEq, Repr

/-- The characters `start[0 .. len)`; they must lie inside the text. -/
def Field.body (f : Field) : Except Fault (List Ch) :=
  if f.len ≤ f.s.length then .ok (f.s.take f.len) else .error .oob

/-- `field[i].end - field[i].start`; a blank (NULL, NULL) field is empty. -/
def flen : Option Field → Nat
  | none => 0
  | some f => f.len

/-- The characters of a field that is only read while `start < end`. -/
def fbody : Option Field → Except Fault (List Ch)
  | none => .ok []
  | some f => f.body

/-- `s[i]` for a pointer `s` into the text. -/
def rd (s : List Ch) (i : Nat) : Except Fault Ch :=
  match s[i]? with
  | some c => .ok c
  | none => .error .oob

/-- `memcmp(s + off, lit, strlen(lit)) == 0`. -/
def matchAt (f : Field) (off : Nat) (lit : String) : Except Fault Bool :=
  if off + lit.length ≤ f.s.length then .ok ((f.s.drop off).take lit.length = str lit)
  else .error .oob

def isWs (c : Ch) : Bool := c = 32 ∨ c = 9 ∨ c = 10

structure NextField where
  field : Field
  sep : Ch
  rest : List Ch
  deriving Repr

/-- First loop of `next_field`: skip leading white space. -/
def skipWsN : List Ch → List Ch
  | [] => []
  | c :: t => if isWs c then skipWsN t else c :: t

/-- Second loop of `next_field`: the field runs up to white space or `, : #`.
Returns the number of characters taken and what follows. -/
def scanFieldN : List Ch → Nat × List Ch
  | [] => (0, [])
  | c :: t =>
    if isWs c ∨ c = 44 ∨ c = 58 ∨ c = 35 then (0, c :: t)
    else ((scanFieldN t).1 + 1, (scanFieldN t).2)

/-- Third loop of `next_field`: scan for the separator `, : \n #`. -/
def scanSepN : List Ch → List Ch
  | [] => []
  | c :: t => if c = 44 ∨ c = 58 ∨ c = 10 ∨ c = 35 then c :: t else scanSepN t

/-- The in-field comment loop: up to `,` or `\n`. -/
def skipCommentN : List Ch → List Ch
  | [] => []
  | c :: t => if c = 44 ∨ c = 10 then c :: t else skipCommentN t

/-- `*sep = (*l > 0) ? **p : '\0'` -/
def sepAt : List Ch → Ch
  | [] => 0
  | c :: _ => c

/-- `next_field(&p, &l, &start, &end, &sep)`; every read is guarded by `*l > 0`,
which is the `[]` case of each loop. -/
def nextFieldN (r : List Ch) : NextField :=
  let r1 := skipWsN r
  let r3 := scanSepN (scanFieldN r1).2
  let r4 := if sepAt r3 = 35 then skipCommentN r3 else r3
  { field := ⟨r1, (scanFieldN r1).1⟩, sep := sepAt r4, rest := r4.drop 1 }

/-- First loop of `next_field_w` (no length: relies on the terminator). -/
def skipWsW : List Ch → Except Fault (List Ch)
  | [] => .error .oob
  | c :: t => if isWs c then skipWsW t else .ok (c :: t)

/-- Second loop of `next_field_w`: up to NUL or `, : \n #`.  Returns the
characters passed over and the suffix at the stop. -/
def scanW : List Ch → Except Fault (List Ch × List Ch)
  | [] => .error .oob
  | c :: t =>
    if c = 0 ∨ c = 44 ∨ c = 58 ∨ c = 10 ∨ c = 35 then .ok ([], c :: t)
    else match scanW t with
      | .ok (b, r) => .ok (c :: b, r)
      | .error e => .error e

/-- `*end = *wp - 1; while (**end is white) (*end)--; (*end)++` on the
non-empty run `b` that was passed over: its length without trailing white
space.  Running below `start` would leave the field (`oob`). -/
def trimEndW (b : List Ch) : Except Fault Nat :=
  match b.reverse.dropWhile isWs with
  | [] => .error .oob
  | l => .ok l.length

/-- The in-field comment loop of `next_field_w`: up to NUL, `,` or `\n`. -/
def skipCommentW : List Ch → Except Fault (List Ch)
  | [] => .error .oob
  | c :: t => if c = 0 ∨ c = 44 ∨ c = 10 then .ok (c :: t) else skipCommentW t

/-- `next_field_w(&wp, &start, &end, &sep)`. -/
def nextFieldW (r : List Ch) : Except Fault NextField :=
  match skipWsW r with
  | .error e => .error e
  | .ok r1 =>
    match scanW r1 with
    | .error e => .error e
    | .ok (b, r2) =>
      match rd r2 0 with
      | .error e => .error e
      | .ok sep0 =>
        match (if b = [] then .ok 0 else trimEndW b) with
        | .error e => .error e
        | .ok n =>
          match (if sep0 = 35 then skipCommentW r2 else .ok r2) with
          | .error e => .error e
          | .ok r3 =>
            match rd r3 0 with
            | .error e => .error e
            | .ok sep => .ok { field := ⟨r1, n⟩, sep := sep, rest := if sep ≠ 0 then r3.drop 1 else r3 }

def nextField (wide : Bool) (r : List Ch) : Except Fault NextField :=
  if wide then nextFieldW r else .ok (nextFieldN r)

/-- `isint`: `none` = returns 0 and leaves `*result` alone; saturates at INT_MAX. -/
def isint (b : List Ch) : Option Int :=
  if b = [] ∨ b.any (fun c => c < 48 ∨ c > 57) then none
  else some (b.foldl (fun (n : Nat) c =>
    if n > 2147483647 / 10 ∨ (n = 2147483647 / 10 ∧ c - 48 > 2147483647 % 10) then 2147483647
    else n * 10 + (c - 48)) 0 : Nat)

def lookup (tbl : List (Nat × Nat)) (c : Ch) : Option Nat :=
  match tbl.find? (fun p => p.1 = c) with
  | some p => some p.2
  | none => none

/-- The common loop of `ismode`, `is_nfs4_perms`, `is_nfs4_flags`: OR the bit of
every character into `acc`; stops at the first character without a `case`.
Returns the accumulated bits and whether the whole field was accepted. -/
def orChars (tbl : List (Nat × Nat)) : List Ch → Nat → Nat × Bool
  | [], acc => (acc, true)
  | c :: t, acc =>
    match lookup tbl c with
    | some bit => orChars tbl t (acc ||| bit)
    | none => (acc, false)

/-- `ismode(start, end, &permset)`: the returned permset is what `*permset`
holds afterwards (it is only written when the whole field is accepted). -/
def ismode (wide : Bool) (b : List Ch) (permset : Nat) : Nat × Bool :=
  if b = [] then (permset, false) else
  match orChars (if wide then modeParseW else modeParse) b 0 with
  | (p, true) => (p, true)
  | (_, false) => (permset, false)

def isNfs4Perms (wide : Bool) (b : List Ch) (permset : Nat) : Nat × Bool :=
  orChars (if wide then permParseW else permParse) b permset

def isNfs4Flags (wide : Bool) (b : List Ch) (permset : Nat) : Nat × Bool :=
  orChars (if wide then flagParseW else flagParse) b permset

/-- What one text entry turns into. -/
inductive Parsed
  | comment
  | skip                    -- malformed: `ret = ARCHIVE_WARN; continue`
  | entry (type permset tag : Nat) (id : Int) (name : Option Field)
  deriving Repr

/-- `field[i]` after the do-while loop: the `numfields` first fields, the
others blank. -/
def fieldAt (fs : List Field) (numfields i : Nat) : Option Field :=
  if i < numfields then fs[i]? else none

def isintOr (b : List Ch) (id : Int) : Int :=
  match isint b with
  | some v => v
  | none => id

/-- `switch (*s)` on the tag field of a POSIX.1e entry (`len > 0`). -/
def posixTag (fn : Field) : Except Fault Nat := do
  let c ← rd fn.s 0
  let len := fn.len
  if c = 117 then
    if len = 1 then pure tagUserObj
    else if len = 4 then (do if (← matchAt fn 1 "ser") then pure tagUserObj else pure 0)
    else pure 0
  else if c = 103 then
    if len = 1 then pure tagGroupObj
    else if len = 5 then (do if (← matchAt fn 1 "roup") then pure tagGroupObj else pure 0)
    else pure 0
  else if c = 111 then
    if len = 1 then pure tagOther
    else if len = 5 then (do if (← matchAt fn 1 "ther") then pure tagOther else pure 0)
    else pure 0
  else if c = 109 then
    if len = 1 then pure tagMask
    else if len = 4 then (do if (← matchAt fn 1 "ask") then pure tagMask else pure 0)
    else pure 0
  else pure 0

/-- The "default" test on `field[0]`: `len > 0 &&` (narrow only) `*s == 'd' &&
(len == 1 || (len >= 7 && memcmp(s + 1, "efault", 6) == 0))`. -/
def isDefault (wide : Bool) (f0 : Field) : Except Fault Bool := do
  if ¬ wide ∧ f0.len = 0 then pure false else
  let c ← rd f0.s 0
  if c ≠ 100 then pure false
  else if f0.len = 1 then pure true
  else if f0.len ≥ 7 then matchAt f0 1 "efault"
  else pure false

/-- "Check for a numeric ID in field n+1 or n+3": `isint(field[n + 1], &id)`, then
`if (id == -1 && fields > (n + 3)) isint(field[n + 3], &id)`. -/
def posixId (fields : Nat) (fld : Nat → Option Field) (n : Nat) : Except Fault Int := do
  let id := isintOr (← fbody (fld (n + 1))) (-1)
  if id = -1 ∧ fields > n + 3 then (do pure (isintOr (← fbody (fld (n + 3))) id)) else pure id

/-- `case ARCHIVE_ENTRY_ACL_OTHER: case ARCHIVE_ENTRY_ACL_MASK:` and the mode check after it. -/
def posixOtherMask (wide : Bool) (fields : Nat) (fld : Nat → Option Field) (n type tag : Nat)
    (id : Int) : Except Fault Parsed := do
  let f1 := fld (n + 1)
  -- `fields == n + 2 && start < end && ismode(field[n + 1], &permset)`
  let called := fields = n + 2 ∧ flen f1 > 0
  let r1 ← if called then (do pure (ismode wide (← fbody f1) 0)) else pure (0, false)
  let sol := called ∧ r1.2
  if ¬ sol ∧ fields = n + 3 ∧ flen f1 > 0 then pure .skip else
  -- `permset == 0 && !ismode(field[n + 2 - sol], &permset)`
  let r2 ← if r1.1 = 0 then (do pure (ismode wide (← fbody (fld (if sol then n + 1 else n + 2))) r1.1))
           else pure (r1.1, true)
  if r2.2 then pure (.entry type r2.1 tag id none) else pure .skip

/-- `case ARCHIVE_ENTRY_ACL_USER_OBJ: case ARCHIVE_ENTRY_ACL_GROUP_OBJ:` and the mode check after it. -/
def posixUserGroup (wide : Bool) (fld : Nat → Option Field) (n type tag : Nat) (id : Int) :
    Except Fault Parsed := do
  let f1 := fld (n + 1)
  let named := id ≠ -1 ∨ flen f1 > 0
  let tag := if named then (if tag = tagUserObj then tagUser else tagGroup) else tag
  let name := if named then f1 else none
  let r2 := ismode wide (← fbody (fld (n + 2))) 0
  if r2.2 then pure (.entry type r2.1 tag id name) else pure .skip

/-- The POSIX.1e branch of the parser loop body after the "default" test:
`fld` is `field[]` (with `field[0].start += 7` applied for "defaultuser"),
`n` the index of the tag field, `type` the entry type. -/
def parsePosixRest (wide : Bool) (fields : Nat) (fld : Nat → Option Field) (n type : Nat) :
    Except Fault Parsed := do
  let id ← posixId fields fld n
  if flen (fld n) = 0 then pure .skip else
  -- the tag field is not empty here, so its `start` is not NULL
  let fn ← match fld n with | some f => pure f | none => throw Fault.null
  let tag ← posixTag fn
  if tag = tagOther ∨ tag = tagMask then posixOtherMask wide fields fld n type tag id
  else if tag = tagUserObj ∨ tag = tagGroupObj then posixUserGroup wide fld n type tag id
  else pure .skip

/-- The POSIX.1e branch of the parser loop body: the "default" keyword, then the rest. -/
def parsePosix (wide : Bool) (fs : List Field) (wantType : Nat) : Except Fault Parsed := do
  let fld0 := fieldAt fs 5
  -- field[0] always exists (the do-while runs at least once)
  let f0 ← match fld0 0 with | some f => pure f | none => throw Fault.null
  if (← isDefault wide f0) then
    if f0.len > 7 then
      -- "defaultuser": `field[0].start += 7`
      parsePosixRest wide fs.length (fun i => if i = 0 then some ⟨f0.s.drop 7, f0.len - 7⟩ else fld0 i) 0 typeDefault
    else parsePosixRest wide fs.length fld0 1 typeDefault
  else parsePosixRest wide fs.length fld0 0 wantType

/-- The tag word of an NFSv4 entry (`switch (len)` with `memcmp`). -/
def nfs4Tag (f0 : Field) : Except Fault Nat := do
  let len := f0.len
  if len = 4 then (do if (← matchAt f0 0 "user") then pure tagUser else pure 0)
  else if len = 5 then (do if (← matchAt f0 0 "group") then pure tagGroup else pure 0)
  else if len = 6 then
    (do if (← matchAt f0 0 "owner@") then pure tagUserObj
        else if (← matchAt f0 0 "group@") then pure tagGroupObj else pure 0)
  else if len = 9 then (do if (← matchAt f0 0 "everyone@") then pure tagEveryone else pure 0)
  else pure 0

/-- The entry type word of an NFSv4 entry. -/
def nfs4Type (ft : Option Field) : Except Fault Nat :=
  match ft with
  | none => pure 0
  | some f =>
    if f.len = 4 then (do if (← matchAt f 0 "deny") then pure typeDeny else pure 0)
    else if f.len = 5 then
      (do if (← matchAt f 0 "allow") then pure typeAllow
          else if (← matchAt f 0 "audit") then pure typeAudit
          else if (← matchAt f 0 "alarm") then pure typeAlarm else pure 0)
    else pure 0

/-- The NFSv4 branch of the parser loop body. -/
def parseNfs4 (wide : Bool) (fs : List Field) : Except Fault Parsed := do
  let fld := fieldAt fs 6
  let f0 ← match fld 0 with | some f => pure f | none => throw Fault.null
  let tag ← nfs4Tag f0
  if tag = 0 then pure .skip else
  let ug := tag = tagUser ∨ tag = tagGroup
  let n := if ug then 1 else 0
  let name := if ug then fld 1 else none
  let id : Int ← if ug then (do pure (isintOr (← fbody name) (-1))) else pure (-1)
  let (p, ok) := isNfs4Perms wide (← fbody (fld (1 + n))) 0
  if ¬ ok then pure .skip else
  let (p, ok) := isNfs4Flags wide (← fbody (fld (2 + n))) p
  if ¬ ok then pure .skip else
  let type ← nfs4Type (fld (3 + n))
  if type = 0 then pure .skip else
  let id := isintOr (← fbody (fld (4 + n))) id
  pure (.entry type p tag id name)

/-- The body of the parser's `while` loop once the fields are split. -/
def parseFields (wide : Bool) (fs : List Field) (wantType : Nat) : Except Fault Parsed := do
  let f0 ← match fs[0]? with | some f => pure f | none => throw Fault.null
  -- narrow: `field[0].start < text_end && *(field[0].start) == '#'`
  -- wide:   `*(field[0].start) == L'#'` (the terminator is readable)
  let c ← if wide then rd f0.s 0 else pure (sepAt f0.s)
  if c = 35 then pure .comment
  else if wantType ≠ typeNfs4 then parsePosix wide fs wantType
  else parseNfs4 wide fs

/-- The name handed to `archive_acl_add_entry_len_l` (`name != NULL && len > 0 &&
*name != 0`) / `_w_len` (`name != NULL && *name != 0 && len > 0`: the wide copy
looks at `*name` first); the string layer stops at a NUL. -/
def nameOf (wide : Bool) : Option Field → Except Fault (List Ch)
  | none => .ok []
  | some f => do
    let _first ← if wide then rd f.s 0 else pure 0
    pure ((← f.body).takeWhile (· ≠ 0))

/-! Progress of `next_field`, needed for the termination of the two parser loops. -/

theorem skipWsN_suffix (r : List Ch) : skipWsN r <:+ r := by
  induction r with
  | nil => exact List.suffix_refl _
  | cons c t ih =>
    simp only [skipWsN]; split
    · exact ih.trans (List.suffix_cons c t)
    · exact List.suffix_refl _

theorem scanFieldN_suffix (r : List Ch) : (scanFieldN r).2 <:+ r := by
  induction r with
  | nil => exact List.suffix_refl _
  | cons c t ih =>
    simp only [scanFieldN]; split
    · exact List.suffix_refl _
    · exact ih.trans (List.suffix_cons c t)

theorem scanSepN_suffix (r : List Ch) : scanSepN r <:+ r := by
  induction r with
  | nil => exact List.suffix_refl _
  | cons c t ih =>
    simp only [scanSepN]; split
    · exact List.suffix_refl _
    · exact ih.trans (List.suffix_cons c t)

theorem skipCommentN_suffix (r : List Ch) : skipCommentN r <:+ r := by
  induction r with
  | nil => exact List.suffix_refl _
  | cons c t ih =>
    simp only [skipCommentN]; split
    · exact List.suffix_refl _
    · exact ih.trans (List.suffix_cons c t)

theorem skipWsW_suffix (r r1 : List Ch) (h : skipWsW r = .ok r1) : r1 <:+ r := by
  induction r with
  | nil => cases h
  | cons c t ih =>
    simp only [skipWsW] at h; split at h
    · exact (ih h).trans (List.suffix_cons c t)
    · cases h; exact List.suffix_refl _

theorem scanW_suffix (r b r2 : List Ch) (h : scanW r = .ok (b, r2)) : r2 <:+ r := by
  induction r generalizing b with
  | nil => cases h
  | cons c t ih =>
    simp only [scanW] at h; split at h
    · cases h; exact List.suffix_refl _
    · split at h
      · cases h; exact (ih _ ‹_›).trans (List.suffix_cons c t)
      · cases h

theorem skipCommentW_suffix (r r3 : List Ch) (h : skipCommentW r = .ok r3) : r3 <:+ r := by
  induction r with
  | nil => cases h
  | cons c t ih =>
    simp only [skipCommentW] at h; split at h
    · cases h; exact List.suffix_refl _
    · exact (ih h).trans (List.suffix_cons c t)

/-- Where both copies of `next_field` stop: at a suffix `r'` of the text whose first character
(0 at the end of the narrow text) is the separator reported; the text goes on after that
character, or, in the wide copy, at it when it is the terminator. -/
theorem nextField_stop (wide : Bool) (r : List Ch) (nf : NextField) (h : nextField wide r = .ok nf) :
    ∃ r', r' <:+ r ∧ sepAt r' = nf.sep ∧ (nf.rest = r'.drop 1 ∨ (nf.sep = 0 ∧ nf.rest = r')) := by
  cases wide with
  | false =>
    cases h
    refine ⟨_, ?_, rfl, Or.inl rfl⟩
    have h3 := (scanSepN_suffix _).trans ((scanFieldN_suffix _).trans (skipWsN_suffix r))
    split
    · exact (skipCommentN_suffix _).trans h3
    · exact h3
  | true =>
    simp only [nextField, if_true] at h
    unfold nextFieldW at h
    split at h; · cases h
    rename_i r1 h1
    split at h; · cases h
    rename_i b r2 h2
    split at h; · cases h
    split at h; · cases h
    split at h; · cases h
    rename_i r3 h3
    split at h; · cases h
    rename_i sep hsep
    cases h
    have s3 : r3 <:+ r2 := by
      split at h3
      · exact skipCommentW_suffix r2 r3 h3
      · cases h3; exact List.suffix_refl _
    refine ⟨r3, s3.trans ((scanW_suffix r1 b r2 h2).trans (skipWsW_suffix r r1 h1)), ?_, ?_⟩
    · cases r3 with
      | nil => cases hsep
      | cons x t => cases hsep; rfl
    · by_cases h0 : sep = 0
      · exact Or.inr ⟨h0, if_neg (fun hn => hn h0)⟩
      · exact Or.inl (if_pos h0)

theorem nextField_rest (wide : Bool) (r : List Ch) (nf : NextField) (h : nextField wide r = .ok nf) :
    nf.rest.length ≤ r.length ∧ (∀ c t, r = c :: t → c ≠ 0 → nf.rest.length < r.length) := by
  obtain ⟨r', hs, hsep, hrest⟩ := nextField_stop wide r nf h
  have hle := hs.length_le
  rcases hrest with hr | ⟨h0, hr⟩
  · rw [hr, List.length_drop]
    exact ⟨by omega, fun c t e _ => by rw [e] at hle ⊢; simp only [List.length_cons] at hle ⊢; omega⟩
  · rw [hr]
    refine ⟨hle, fun c t e hc => ?_⟩
    subst e
    rcases List.suffix_cons_iff.mp hs with he | hs'
    · rw [he, h0] at hsep; exact (hc hsep).elim
    · exact Nat.lt_succ_of_le hs'.length_le

/-- A reported separator other than the end of the text has been consumed. -/
theorem nextField_sep (wide : Bool) (r : List Ch) (nf : NextField) (h : nextField wide r = .ok nf)
    (hs : nf.sep ≠ 0) : nf.rest.length < r.length := by
  obtain ⟨r', hsuf, hsep, hrest⟩ := nextField_stop wide r nf h
  have hle := hsuf.length_le
  have hr : nf.rest = r'.drop 1 := hrest.resolve_right fun h0 => hs h0.1
  have hne : r' ≠ [] := by intro he; rw [he] at hsep; exact hs hsep.symm
  have := List.length_pos_iff.mpr hne
  rw [hr, List.length_drop]; omega

/-- The do-while loop of the parser: split one entry into its `:`-separated
fields.  Returns every field (the C stores the first `numfields` and counts all
of them) and the text after the entry. -/
def splitEntry (wide : Bool) (r : List Ch) : Except Fault (List Field × List Ch) :=
  match h : nextField wide r with
  | .error e => .error e
  | .ok nf =>
    if hs : nf.sep = 58 then
      match splitEntry wide nf.rest with
      | .error e => .error e
      | .ok (fs, rest) => .ok (nf.field :: fs, rest)
    else .ok ([nf.field], nf.rest)
termination_by r.length
decreasing_by exact nextField_sep wide r nf h (by simp [hs])

theorem splitEntry_rest (wide : Bool) (r : List Ch) (fs : List Field) (rest : List Ch)
    (h : splitEntry wide r = .ok (fs, rest)) :
    rest.length ≤ r.length ∧ (∀ c t, r = c :: t → c ≠ 0 → rest.length < r.length) := by
  induction r using (measure List.length).wf.induction generalizing fs rest with
  | _ r ih =>
    rw [splitEntry] at h
    split at h; · cases h
    rename_i nf hnf
    have hr := nextField_rest wide r nf hnf
    split at h
    · rename_i hs
      have hlt := nextField_sep wide r nf hnf (by simp [hs])
      split at h; · cases h
      rename_i fs' rest' hrec
      cases h
      have := (ih nf.rest hlt fs' rest hrec).1
      exact ⟨by omega, fun c t e hc => by omega⟩
    · cases h
      exact hr

/-- What the parser did, besides the ACL it built. -/
structure ParseOut where
  acl : Acl
  status : Status
  /-- entries skipped with `ret = ARCHIVE_WARN; continue` -/
  skipped : Nat := 0
  /-- entries handed to `archive_acl_add_entry_*` -/
  added : Nat := 0
  deriving Repr

/-- The `while` loop of `archive_acl_from_text_nl` (`length > 0 && *text != 0`)
and of `archive_acl_from_text_w` (`*text != 0`). -/
def parseLoop (wide : Bool) (wantType : Nat) (r : List Ch) (o : ParseOut) : Except Fault ParseOut :=
  match r with
  | [] => if wide then .error .oob else .ok o
  | c :: t =>
    if c = 0 then .ok o else
    match h : splitEntry wide (c :: t) with
    | .error e => .error e
    | .ok (fs, rest) =>
      match parseFields wide fs wantType with
      | .error e => .error e
      | .ok .comment => parseLoop wide wantType rest o
      | .ok .skip => parseLoop wide wantType rest { o with status := .warn, skipped := o.skipped + 1 }
      | .ok (.entry type p tag id name) =>
        match nameOf wide name with
        | .error e => .error e
        | .ok nm =>
          match addEntry o.acl type p tag id nm with
          | (acl', st) =>
            -- `if (r < ARCHIVE_WARN) return (r);`
            if st = .failed ∨ st = .fatal then .ok { o with acl := acl', status := st, added := o.added + 1 }
            else parseLoop wide wantType rest
              { o with acl := acl', status := if st ≠ .ok then .warn else o.status, added := o.added + 1 }
termination_by r.length
decreasing_by
  all_goals
    have := (splitEntry_rest wide (c :: t) fs rest h).2 c t rfl (by assumption)
    simpa using this

/-- `archive_acl_from_text_nl(acl, text, length, want_type, NULL)` on exactly the
`length` characters of `text` (`wide = false`), `archive_acl_from_text_w` on
the characters before the terminating NUL (`wide = true`). -/
def fromText (wide : Bool) (acl : Acl) (text : List Ch) (wantType : Nat) : Except Fault ParseOut :=
  let wt := if wantType = typePosix1e then typeAccess else wantType
  if wt = typeAccess ∨ wt = typeDefault ∨ wt = typeNfs4 then
    parseLoop wide wt (if wide then text ++ [0] else text) { acl := acl, status := .ok }
  else .ok { acl := acl, status := .fatal }

end LA.Acl
