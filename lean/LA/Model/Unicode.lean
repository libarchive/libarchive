/-
Model of the hand-written Unicode codecs of libarchive/archive_string.c
(property C18; shared with C14/C15).

Conventions
* A `const char *s` with its `size_t n` is a `List Nat` (the bytes from `s` on,
  exactly as many as the block holds) plus the explicit `n`.  Every read is
  `xs[i]?`; a read outside the block is the distinguished result `oob`, never a
  default value.  "The decoder does not read past `n`" is then the theorem
  `n ≤ xs.length → decode xs n ≠ oob`.
* Bytes are natural numbers; the C reads them through `unsigned char` or masks
  a (signed) `char` before use, so only values below 256 occur.  Where the
  theorems need that they say so.
* Bit operations are written with `/`, `%`, `*`, `+` on `Nat`:
  `(b & 0xc0) == 0x80` is `b / 64 = 2`, `b & 0x3f` is `b % 64`,
  `(x << 6) | y` is `x * 64 + y` for `y < 64`, `(uc >> 6) & 0x3f` is
  `uc / 64 % 64`, `0x80 | y` is `128 + y` for `y < 64`.
* Return values are those of the C: bytes consumed, the negated count when the
  code point was replaced by U+FFFD, 0 at the end of the string.
* `archive_string` is `AStr`; `archive_string_ensure` is `ensure` with the growth
  policy of the C (32, double below 8192, +25 % above, at least the request).
  Writes into the buffer are checked against `buffer_length` one by one; a write
  at an index `≥ buffer_length` is the distinguished result `oobWrite`.
  `malloc` is assumed not to fail and sizes stay below 2^64.
-/
import LA.Model.Util
import LA.Gen.Utf8Table
namespace LA.Unicode
open LA.Gen.Utf8Table

/-- Result of one call `int f(uint32_t *pwc, const char *s, size_t n)`. -/
inductive Dec where
  /-- a read at an index outside the byte block -/
  | oob
  /-- return value, and the value stored through `pwc` (`none`: nothing stored) -/
  | ret (r : Int) (uc : Option Nat)
  deriving DecidableEq, Repr

/-- `(b & 0xc0) == 0x80` -/
def isCont (b : Nat) : Bool := b / 64 == 2

/-- `IS_HIGH_SURROGATE_LA` -/
def isHigh (uc : Nat) : Bool := highSurrogateLo ≤ uc && uc ≤ highSurrogateHi
/-- `IS_LOW_SURROGATE_LA` -/
def isLow (uc : Nat) : Bool := lowSurrogateLo ≤ uc && uc ≤ lowSurrogateHi
/-- `IS_SURROGATE_PAIR_LA` -/
def isSurrogate (uc : Nat) : Bool := surrogateLo ≤ uc && uc ≤ surrogateHi

/-- `invalid_sequence:` of the decoders: `*pwc = UNICODE_R_CHAR; return (cnt * -1);` -/
def invalid (cnt : Nat) : Dec := .ret (-(cnt : Int)) (some unicodeRChar)

/-- `for (i = 1; i < cnt; i++) if ((s[i] & 0xc0) != 0x80) { cnt = i; break; }`
of `_utf8_to_unicode`, entered with `i` and `k = cnt - i`; the result is the final `cnt`. -/
def contScan (xs : List Nat) (i : Nat) : Nat → Option Nat
  | 0 => some i
  | k + 1 =>
    match xs[i]? with
    | none => none
    | some b => if isCont b then contScan xs (i + 1) k else some i

/-- tail of `_utf8_to_unicode`: `if (wc > UNICODE_MAX) goto invalid_sequence; *pwc = wc; return (cnt);` -/
def utf8Final (cnt wc : Nat) : Dec :=
  if wc > unicodeMax then invalid cnt else .ret cnt (some wc)

/-- `_utf8_to_unicode(pwc, s, n)`: one UTF-8 sequence; surrogates D800..DFFF in
3-byte form are still accepted here (CESU-8 needs them).  `n < cnt` is the comparison
`n < (size_t)cnt` of the repaired code (the original `(int)n < cnt` went wrong for
`n ≥ 2^31`, see known_findings.json / corpus/C18/uni.length-over-int-max.ops). -/
def utf8Raw (xs : List Nat) (n : Nat) : Dec :=
  if n = 0 then .ret 0 none else
  match xs[0]? with
  | none => .oob
  | some ch =>
    if ch = 0 then .ret 0 none else
    let cnt := utf8Count.getD ch 0
    if n < cnt then
      -- not enough bytes: cnt = n, shortened at the first non-continuation byte
      match contScan xs 1 (n - 1) with
      | none => .oob
      | some c => invalid c
    else if cnt = 1 then .ret 1 (some (ch % 128))
    else if cnt = 2 then
      match xs[1]? with
      | none => .oob
      | some b1 =>
        if !isCont b1 then invalid 1
        else .ret 2 (some (ch % 32 * 64 + b1 % 64))
    else if cnt = 3 then
      match xs[1]? with
      | none => .oob
      | some b1 =>
        if !isCont b1 then invalid 1 else
        match xs[2]? with
        | none => .oob
        | some b2 =>
          if !isCont b2 then invalid 2 else
          let wc := ch % 16 * 4096 + b1 % 64 * 64 + b2 % 64
          if wc < 0x800 then invalid 3 else utf8Final 3 wc
    else if cnt = 4 then
      match xs[1]? with
      | none => .oob
      | some b1 =>
        if !isCont b1 then invalid 1 else
        match xs[2]? with
        | none => .oob
        | some b2 =>
          if !isCont b2 then invalid 2 else
          match xs[3]? with
          | none => .oob
          | some b3 =>
            if !isCont b3 then invalid 3 else
            let wc := ch % 8 * 262144 + b1 % 64 * 4096 + b2 % 64 * 64 + b3 % 64
            if wc < 0x10000 then invalid 4 else utf8Final 4 wc
    else
      -- `default:` every other lead byte is invalid; how many bytes go with it
      let c := if ch = 0xc0 ∨ ch = 0xc1 then 2
        else if 0xf5 ≤ ch ∧ ch ≤ 0xf7 then 4
        else if 0xf8 ≤ ch ∧ ch ≤ 0xfb then 5
        else if ch = 0xfc ∨ ch = 0xfd then 6
        else 1
      let c := if n < c then n else c
      match contScan xs 1 (c - 1) with
      | none => .oob
      | some c' => invalid c'

/-- `utf8_to_unicode`: as `_utf8_to_unicode`, a 3-byte surrogate is answered with -3
(the surrogate value stays in `*pwc`; `strncat_from_utf8_to_utf8` relies on that). -/
def utf8ToUnicode (xs : List Nat) (n : Nat) : Dec :=
  match utf8Raw xs n with
  | .oob => .oob
  | .ret r uc =>
    if r = 3 ∧ isSurrogate (uc.getD 0) then .ret (-3) uc else .ret r uc

/-- `combine_surrogate_pair` (called only with `uc` high and `uc2` low). -/
def combineSurrogatePair (uc uc2 : Nat) : Nat :=
  (uc - 0xD800) * 0x400 + (uc2 - 0xDC00) + 0x10000

/-- `cesu8_to_unicode`: UTF-8 where a supplementary character may also come as two
3-byte surrogates (CESU-8).  Models the code after the repair "consume the
unpaired high surrogate only" (all three `goto invalid_sequence` have `cnt == 3`). -/
def cesu8ToUnicode (xs : List Nat) (n : Nat) : Dec :=
  match utf8Raw xs n with
  | .oob => .oob
  | .ret r uco =>
    let wc := uco.getD 0          -- `uint32_t wc = 0;`
    if r = 3 ∧ isHigh wc then
      if n - 3 < 3 then invalid 3 else
      match utf8Raw (xs.drop 3) (n - 3) with
      | .oob => .oob
      | .ret r2 uco2 =>
        let wc2 := uco2.getD 0
        if r2 ≠ 3 ∨ !isLow wc2 then invalid 3
        else .ret 6 (some (combineSurrogatePair wc wc2))
    else if r = 3 ∧ isLow wc then invalid 3
    else .ret r (some wc)

/-- `unicode_to_utf8(p, remaining, uc)`: the bytes stored at `p[0..]`; `[]` is the
return value 0 (not enough room).  Does not check for surrogates. -/
def unicodeToUtf8 (remaining uc : Nat) : List Nat :=
  let uc := if uc > unicodeMax then unicodeRChar else uc
  if uc ≤ 0x7f then
    if remaining = 0 then [] else [uc]
  else if uc ≤ 0x7ff then
    if remaining < 2 then [] else [0xc0 + uc / 64 % 32, 0x80 + uc % 64]
  else if uc ≤ 0xffff then
    if remaining < 3 then [] else [0xe0 + uc / 4096 % 16, 0x80 + uc / 64 % 64, 0x80 + uc % 64]
  else
    if remaining < 4 then []
    else [0xf0 + uc / 262144 % 8, 0x80 + uc / 4096 % 64, 0x80 + uc / 64 % 64, 0x80 + uc % 64]

/-- `archive_be16dec` / `archive_le16dec` of two bytes. -/
def dec16 (be : Bool) (a b : Nat) : Nat := if be then a * 256 + b else b * 256 + a

/-- `archive_be16enc` / `archive_le16enc` of a `uint16_t`. -/
def enc16 (be : Bool) (v : Nat) : List Nat :=
  if be then [v / 256 % 256, v % 256] else [v % 256, v / 256 % 256]

/-- tail of `utf16_to_unicode` after `k` bytes were taken. -/
def utf16Final (k uc : Nat) : Dec :=
  if isSurrogate uc ∨ uc > unicodeMax then invalid k else .ret k (some uc)

/-- `utf16_to_unicode(pwc, s, n, be)` (`utf16be_to_unicode`, `utf16le_to_unicode`). -/
def utf16ToUnicode (be : Bool) (xs : List Nat) (n : Nat) : Dec :=
  if n = 0 then .ret 0 none
  else if n = 1 then invalid 1
  else
    match xs[0]?, xs[1]? with
    | some a, some b =>
      let uc := dec16 be a b
      if isHigh uc then
        if n ≥ 4 then
          match xs[2]?, xs[3]? with
          | some c, some d =>
            let uc2 := dec16 be c d
            if isLow uc2 then utf16Final 4 (combineSurrogatePair uc uc2) else invalid 2
          | _, _ => .oob
        else invalid 2       -- `uc2 = 0`
      else utf16Final 2 uc
    | _, _ => .oob

/-- `unicode_to_utf16be` / `unicode_to_utf16le`: bytes stored, `[]` = return value 0. -/
def unicodeToUtf16 (be : Bool) (remaining uc : Nat) : List Nat :=
  if uc > 0xffff then
    if remaining < 4 then [] else
    let uc := uc - 0x10000
    enc16 be (uc / 1024 % 1024 + 0xD800) ++ enc16 be (uc % 1024 + 0xDC00)
  else
    if remaining < 2 then [] else enc16 be (uc % 65536)

/-! ### `strncat_from_utf8_to_utf8` -/

/-- Result of a conversion loop at value level. -/
inductive Conv where
  | oob                       -- a source read outside the block
  | lenWrap                   -- `len -= n` with `n > len` (size_t wrap-around)
  | hang                      -- the loop made no progress and would run forever
  | ok (ret : Int) (out : List Nat)
  deriving DecidableEq, Repr

/-- The `for (;;)` of `strncat_from_utf8_to_utf8`, one code point per step: well-formed
sequences are copied verbatim (the C copies a whole run `src..e` at once), a CESU-8
pair is re-encoded as one 4-byte sequence, everything else becomes U+FFFD and
turns the return value into -1.  `out` is what has been appended so far. -/
def utf8ToUtf8Loop (xs : List Nat) (len : Nat) (out : List Nat) (ret : Int) : Conv :=
  match utf8ToUnicode xs len with
  | .oob => .oob
  | .ret r uc =>
    if r = 0 then .ok ret out
    else if 0 < r then
      let k := r.toNat
      if _h : k ≤ len ∧ 0 < k then
        utf8ToUtf8Loop (xs.drop k) (len - k) (out ++ xs.take k) ret
      else .lenWrap
    else
      -- the next code point needs conversion
      match (if r = -3 ∧ isSurrogate (uc.getD 0) then cesu8ToUnicode xs len else Dec.ret r uc) with
      | .oob => .oob
      | .ret n uc =>
        let ret := if n < 0 then -1 else ret
        let k := n.natAbs
        if k = 0 then .hang
        else if _h : k ≤ len then
          utf8ToUtf8Loop (xs.drop k) (len - k) (out ++ unicodeToUtf8 4 (uc.getD 0)) ret
        else .lenWrap
termination_by len
decreasing_by all_goals omega

/-- `strncat_from_utf8_to_utf8(as, src, len, sc)` at value level: return value and
the bytes appended to `as` (each append goes through `archive_string_append`,
which sizes the buffer itself). -/
def utf8ToUtf8 (xs : List Nat) (len : Nat) : Conv := utf8ToUtf8Loop xs len [] 0

/-! ### `archive_string`, `archive_string_ensure` -/

/-- `struct archive_string`: `s != NULL`, `buffer_length`, and the bytes `s[0..length)`. -/
structure AStr where
  alloc : Bool := false
  cap : Nat := 0
  data : List Nat := []
  deriving DecidableEq, Repr

/-- `archive_string_ensure(as, s)` (allocation assumed to succeed). -/
def ensure (as : AStr) (s : Nat) : AStr :=
  if as.alloc ∧ s ≤ as.cap then as else
  let nl := if as.cap < 32 then 32
    else if as.cap < 8192 then as.cap + as.cap
    else as.cap + as.cap / 4
  { as with alloc := true, cap := if nl < s then s else nl }

/-! ### `archive_string_append_unicode` -/

inductive Enc | utf8 | utf16be | utf16le
  deriving DecidableEq, Repr

/-- the `unparse` function pointer -/
def unparse : Enc → Nat → Nat → List Nat
  | .utf8 => unicodeToUtf8
  | .utf16be => unicodeToUtf16 true
  | .utf16le => unicodeToUtf16 false

/-- the `parse` function pointer -/
def parse : Enc → List Nat → Nat → Dec
  | .utf8 => cesu8ToUnicode
  | .utf16be => utf16ToUnicode true
  | .utf16le => utf16ToUnicode false

/-- `ts`: size of one text unit of the output (and of its terminator). -/
def Enc.ts : Enc → Nat
  | .utf8 => 1
  | _ => 2

/-- Which `unparse` the flag word of the conversion object selects (first `if` chain). -/
def toEnc (flag : Nat) : Enc :=
  if flag.testBit bitToUtf16be then .utf16be
  else if flag.testBit bitToUtf16le then .utf16le
  else if flag.testBit bitToUtf8 then .utf8
  else if flag.testBit bitFromUtf16be then .utf16be   -- "going to be converted through iconv"
  else if flag.testBit bitFromUtf16le then .utf16le
  else .utf8

/-- Which `parse` it selects (second `if` chain). -/
def fromEnc (flag : Nat) : Enc :=
  if flag.testBit bitFromUtf16be then .utf16be
  else if flag.testBit bitFromUtf16le then .utf16le
  else .utf8

/-- `tm` -/
def tmOf (flag : Nat) : Nat :=
  match fromEnc flag with
  | .utf8 => (toEnc flag).ts
  | _ => 1

inductive AppRes where
  | oobRead
  | oobWrite (idx cap : Nat)   -- a store at `as->s[idx]` with `idx ≥ buffer_length`
  | lenWrap
  | ok (ret : Int) (as : AStr)
  deriving DecidableEq, Repr

/-- `endp - p` as the `size_t` the C passes to `unparse`:
`endp = as->s + as->buffer_length - ts`, `p = as->s + length`. -/
def roomFor (as : AStr) (ts : Nat) : Nat :=
  if as.data.length + ts ≤ as.cap then as.cap - ts - as.data.length
  else 18446744073709551616 - (as.data.length + ts - as.cap)

theorem enc16_len (be : Bool) (v : Nat) : (enc16 be v).length = 2 := by
  cases be <;> rfl

/-- `unicode_to_utf8` looks at the room only to decide between storing the 1 to 4 bytes of the
code point and storing nothing. -/
theorem unicodeToUtf8_room (uc : Nat) :
    ∃ bs : List Nat, 1 ≤ bs.length ∧ bs.length ≤ 4 ∧
      ∀ r, unicodeToUtf8 r uc = if r < bs.length then [] else bs := by
  unfold unicodeToUtf8
  generalize (if uc > unicodeMax then unicodeRChar else uc) = c
  by_cases h1 : c ≤ 0x7f
  · exact ⟨[c], by simp, by simp, fun r => by simp only [h1, if_true, List.length_singleton, Nat.lt_one_iff]⟩
  by_cases h2 : c ≤ 0x7ff
  · exact ⟨[0xc0 + c / 64 % 32, 0x80 + c % 64], by simp, by simp,
      fun r => by simp only [h1, h2, if_true, if_false]; rfl⟩
  by_cases h3 : c ≤ 0xffff
  · exact ⟨[0xe0 + c / 4096 % 16, 0x80 + c / 64 % 64, 0x80 + c % 64], by simp, by simp,
      fun r => by simp only [h1, h2, h3, if_true, if_false]; rfl⟩
  · exact ⟨[0xf0 + c / 262144 % 8, 0x80 + c / 4096 % 64, 0x80 + c / 64 % 64, 0x80 + c % 64], by simp, by simp,
      fun r => by simp only [h1, h2, h3, if_false]; rfl⟩

theorem unicodeToUtf16_room (be : Bool) (uc : Nat) :
    ∃ bs : List Nat, 1 ≤ bs.length ∧ bs.length ≤ 4 ∧
      ∀ r, unicodeToUtf16 be r uc = if r < bs.length then [] else bs := by
  unfold unicodeToUtf16
  by_cases h : uc > 0xffff
  · refine ⟨enc16 be ((uc - 0x10000) / 1024 % 1024 + 0xD800) ++ enc16 be ((uc - 0x10000) % 1024 + 0xDC00),
      ?_, ?_, fun r => ?_⟩
    all_goals simp only [List.length_append, enc16_len, h, if_true]
    all_goals decide
  · refine ⟨enc16 be (uc % 65536), ?_, ?_, fun r => ?_⟩
    all_goals simp only [enc16_len, h, if_false]
    all_goals decide

/-- Every `unparse` stores, whatever room it is given, either nothing or the same 1 to 4 bytes,
and nothing only when they do not fit. -/
theorem unparse_room (e : Enc) (uc : Nat) :
    ∃ bs : List Nat, 1 ≤ bs.length ∧ bs.length ≤ 4 ∧ ∀ r, unparse e r uc = if r < bs.length then [] else bs := by
  cases e
  · exact unicodeToUtf8_room uc
  · exact unicodeToUtf16_room true uc
  · exact unicodeToUtf16_room false uc

theorem unparse_nil_lt (e : Enc) (r uc : Nat) (h : unparse e r uc = []) : r < 4 := by
  obtain ⟨bs, h1, h4, hb⟩ := unparse_room e uc
  rw [hb] at h
  split at h
  · omega
  · subst h; exact absurd h1 (by decide)

theorem ensure_cap_ge (as : AStr) (s : Nat) : s ≤ (ensure as s).cap := by
  unfold ensure; split
  · rename_i h; exact h.2
  · have (nl : Nat) : s ≤ if nl < s then s else nl := by split <;> omega
    exact this _

theorem ensure_data (as : AStr) (s : Nat) : (ensure as s).data = as.data := by
  unfold ensure; split <;> rfl

theorem Enc.ts_pos (e : Enc) : 0 < e.ts := by cases e <;> simp [Enc.ts]

/-- `while ((w = unparse(p, endp - p, uc)) == 0) { as->length = p - as->s;
archive_string_ensure(as, as->buffer_length + len * tm + ts); … } p += w;`
with `lenTm = len * tm`.  Every byte store is checked against `buffer_length`. -/
def unparseGrow (e : Enc) (lenTm : Nat) (uc : Nat) (as : AStr) : AppRes :=
  let bs := unparse e (roomFor as e.ts) uc
  if hb : bs = [] then
    if hw : as.data.length + e.ts ≤ as.cap then
      unparseGrow e lenTm uc (ensure as (as.cap + lenTm + e.ts))
    else .oobWrite as.data.length as.cap     -- not reachable: a wrapped `endp - p` is never too small
  else if as.data.length + bs.length ≤ as.cap then .ok 0 { as with data := as.data ++ bs }
  else .oobWrite as.cap as.cap
termination_by as.data.length + e.ts + 4 - as.cap
decreasing_by
  have h1 := unparse_nil_lt e _ uc hb
  simp only [roomFor, hw, if_true] at h1
  have h2 := ensure_cap_ge as (as.cap + lenTm + e.ts)
  have h3 := e.ts_pos
  rw [ensure_data]
  omega

/-- The `while ((n = parse(&uc, s, len)) != 0)` loop of `archive_string_append_unicode`.
`as.data` is the buffer content up to `p`. -/
def appendLoop (fe te : Enc) (tm : Nat) (xs : List Nat) (len : Nat) (as : AStr) (ret : Int) : AppRes :=
  match parse fe xs len with
  | .oob => .oobRead
  | .ret n uc =>
    if n = 0 then
      -- `as->length = p - as->s; as->s[as->length] = '\0'; if (ts == 2) as->s[as->length+1] = '\0';`
      if as.cap ≤ as.data.length then .oobWrite as.data.length as.cap
      else if te.ts = 2 ∧ as.cap ≤ as.data.length + 1 then .oobWrite (as.data.length + 1) as.cap
      else .ok ret as
    else
      let ret := if n < 0 then -1 else ret
      let k := n.natAbs
      if _h : k ≤ len ∧ 0 < k then
        match unparseGrow te ((len - k) * tm) (uc.getD 0) as with
        | .ok _ as' => appendLoop fe te tm (xs.drop k) (len - k) as' ret
        | r => r
      else .lenWrap
termination_by len
decreasing_by omega

/-- `archive_string_append_unicode(as, p, len, sc)` with `flag = sc->flag`. -/
def appendUnicode (flag : Nat) (as : AStr) (xs : List Nat) (len : Nat) : AppRes :=
  let te := toEnc flag
  let fe := fromEnc flag
  let tm := tmOf flag
  let as := ensure as (as.data.length + len * tm + te.ts)
  appendLoop fe te tm xs len as 0

/-! ### List-level meaning of the conversion loop (no buffer) -/

/-- What `archive_string_append_unicode` appends and returns, without the buffer:
decode with `parse fe`, replace what does not decode by U+FFFD (return value -1),
encode with `unparse te` (room for 4 bytes is always enough). -/
def transcode (fe te : Enc) (xs : List Nat) (len : Nat) (out : List Nat) (ret : Int) : Conv :=
  match parse fe xs len with
  | .oob => .oob
  | .ret n uc =>
    if n = 0 then .ok ret out
    else
      let ret := if n < 0 then -1 else ret
      let k := n.natAbs
      if _h : k ≤ len ∧ 0 < k then
        transcode fe te (xs.drop k) (len - k) (out ++ unparse te 4 (uc.getD 0)) ret
      else .lenWrap
termination_by len
decreasing_by omega

/-! ### `best_effort_strncat_to_utf16`, `best_effort_strncat_from_utf16` -/

/-- `best_effort_strncat_to_utf16(as16, p, length, sc, bigendian)`:
`archive_string_ensure(as16, as16->length + (length + 1) * 2)`, then every byte becomes
one UTF-16 unit (bytes above 127 become U+FFFD and the result -1), then two NULs. -/
def bestEffortToUtf16 (be : Bool) (as : AStr) (xs : List Nat) (length : Nat) : AppRes :=
  let as := ensure as (as.data.length + (length + 1) * 2)
  let rec go (xs : List Nat) (remaining : Nat) (as : AStr) (ret : Int) : AppRes :=
    match remaining with
    | 0 =>
      if as.cap ≤ as.data.length + 1 then .oobWrite (as.data.length + 1) as.cap else .ok ret as
    | r + 1 =>
      match xs[0]? with
      | none => .oobRead
      | some b =>
        -- `unsigned c = *s++;` sign-extends a `char`: every byte above 127 is > 127
        let (c, ret) := if b > 127 then (unicodeRChar, (-1 : Int)) else (b, ret)
        if as.cap < as.data.length + 2 then .oobWrite (as.data.length + 1) as.cap
        else go (xs.drop 1) r { as with data := as.data ++ enc16 be (c % 65536) } ret
  go xs length as 0

/-- `best_effort_strncat_from_utf16(as, p, bytes, sc, be)`:
`archive_string_ensure(as, as->length + bytes + 1)`; every decoded code point
becomes one byte, `?` (and the result -1) when it is above 127. -/
def bestEffortFromUtf16Loop (be : Bool) (xs : List Nat) (bytes : Nat) (as : AStr) (ret : Int) : AppRes :=
  match utf16ToUnicode be xs bytes with
  | .oob => .oobRead
  | .ret n uc =>
    if n = 0 then
      if as.cap ≤ as.data.length then .oobWrite as.data.length as.cap else .ok ret as
    else
      let ret := if n < 0 then -1 else ret
      let k := n.natAbs
      if _h : k ≤ bytes ∧ 0 < k then
        let (c, ret) := if uc.getD 0 > 127 then (63, (-1 : Int)) else (uc.getD 0, ret)
        if as.cap ≤ as.data.length then .oobWrite as.data.length as.cap
        else bestEffortFromUtf16Loop be (xs.drop k) (bytes - k) { as with data := as.data ++ [c] } ret
      else .lenWrap
termination_by bytes
decreasing_by omega

def bestEffortFromUtf16 (be : Bool) (as : AStr) (xs : List Nat) (bytes : Nat) : AppRes :=
  bestEffortFromUtf16Loop be xs bytes (ensure as (as.data.length + bytes + 1)) 0

/-! ### `archive_strncat_l` front end: where the source string ends -/

/-- `mbsnbytes(p, n)`: bytes before the first NUL, at most `n`. -/
def mbsnbytes : List Nat → Nat → Nat
  | _, 0 => 0
  | [], _ => 0
  | b :: xs, n + 1 => if b = 0 then 0 else mbsnbytes xs n + 1

/-- `utf16nbytes(p, n)`: bytes before the first 16-bit zero unit, at most `n & ~1`. -/
def utf16nbytes (xs : List Nat) (n : Nat) : Nat :=
  let rec go : List Nat → Nat → Nat
    | a :: b :: r, k + 1 => if a = 0 ∧ b = 0 then 0 else go r k + 2
    | _, _ => 0
  go xs (n / 2)

end LA.Unicode
