/-
Model of the peek/consume window of libarchive/archive_read.c
(`__archive_read_filter_ahead`, `__archive_read_filter_consume`,
`advance_file_pointer`, `client_skip_proxy`, `client_switch_proxy`,
`client_seek_proxy`, `__archive_read_filter_seek`) over one or several data nodes.
Used by C01 (bounds, termination), C05 (partition / source independence) and
C08 (truncation / callback faults).

Representation choices (all observable through the interface, none hides a C
behaviour):
* the copy buffer is `bufSize` (allocation size), `next` (offset of
  `filter->next` in it) and `cb`, the `avail` valid bytes starting at `next`;
  stale bytes before `next` and after `next+avail` are never read by the C and
  are not represented.  "Inside the allocation" is `next + cb.length ≤ bufSize`.
* the client block is the list `cblk` (`client_total = cblk.length`),
  `cnext` the offset of `client_next` in it and `cavail`.
* the byte source is the script of read-callback results still to come:
  non-empty blocks `src` of the current data node, then end of that node.  A
  zero-length block is end-of-file by the callback contract.  `later` holds the
  scripts of the following data nodes of a multi-volume set (each ends with its
  own end-of-file, after which `client_switch_proxy` moves to the next one);
  after the last node comes `term` forever (end of file or error).
* the skip callback is a script `skips` of answers; each answer is consumed by
  one invocation; an exhausted script answers 0 ("cannot skip").
* a seekable client (second half of this file) additionally has the full
  contents of every data node (`nodes`), so that it can be positioned anywhere;
  `src`/`later` are then always "what the client will deliver from where it
  stands": the rest of the current node and the nodes behind it, cut into
  blocks by `blk epoch node offset` (any function: the client may cut the same
  bytes differently after every seek).  `client.cursor` is not stored: it is
  `nodes.length - 1 - later.length`.  `begins`/`sizes` are
  `client.dataset[i].begin_position/total_size` (-1 = not known yet).
-/
import LA.Model.Util
namespace LA.RA

inductive Term | eof | err
  deriving DecidableEq, Repr

structure State where
  bufSize : Nat := 0
  next : Nat := 0
  cb : List Nat := []
  cblk : List Nat := []
  cnext : Nat := 0
  cavail : Nat := 0
  position : Nat := 0
  eof : Bool := false
  fatal : Bool := false
  canSkip : Bool := true
  src : List (List Nat) := []
  later : List (List (List Nat)) := []
  term : Term := .eof
  skips : List Int := []
  -- seekable client
  canSeek : Bool := false          -- `filter->can_seek`
  hasSeeker : Bool := false        -- `client.seeker != NULL`
  noSkipper : Bool := false        -- `client.skipper == NULL` (then `skips` is not consulted)
  nodes : List (List Nat) := []    -- contents of every data node
  begins : List Int := []          -- `client.dataset[i].begin_position`
  sizes : List Int := []           -- `client.dataset[i].total_size`
  seeks : List Int := []           -- script of the seek callback's behaviour, one entry per invocation
  epoch : Nat := 0                 -- number of successful seek callback invocations so far
  blk : Nat → Nat → Nat → Nat := fun _ _ _ => 0   -- block size chosen by the client: epoch, node, offset
  over : Nat := 0                  -- how far beyond the end of node `overNode` the client was positioned
  overNode : Nat := 0

inductive AheadR
  | window (w : List Nat) (fromCopy : Bool)   -- pointer returned, `*avail = w.length`
  | short (avail : Nat)                        -- NULL returned, `*avail = avail ≥ 0`
  | fatal                                      -- NULL returned, `*avail = ARCHIVE_FATAL`
  | stuck                                      -- the C loop would make no progress (unreachable, see `C01.ahead_never_stuck`)
  deriving DecidableEq, Repr

def sizeMax : Nat := 18446744073709551616

/-- The doubling loop "Double the buffer; watch for overflow." (`size_t` arithmetic). -/
def growLoop : Nat → Nat → Nat → Nat → Option Nat
  | 0, _, _, _ => none
  | fuel + 1, s, t, min =>
    if s < min then
      let t' := (t * 2) % sizeMax
      if t' ≤ s then none else growLoop fuel t' t' min
    else some s

def grow (bufSize min : Nat) : Option Nat :=
  if bufSize = 0 then some min else growLoop 65 bufSize bufSize min

/-- "Move data forward in copy buffer if necessary." -/
def moveFwd (s : State) (min : Nat) : State :=
  if s.next > 0 ∧ s.next + min > s.bufSize then { s with next := 0 } else s

@[simp] theorem moveFwd_src (s : State) (m : Nat) : (moveFwd s m).src = s.src := by
  unfold moveFwd; split <;> rfl
@[simp] theorem moveFwd_cavail (s : State) (m : Nat) : (moveFwd s m).cavail = s.cavail := by
  unfold moveFwd; split <;> rfl
@[simp] theorem moveFwd_later (s : State) (m : Nat) : (moveFwd s m).later = s.later := by
  unfold moveFwd; split <;> rfl

/-- Install the enlarged copy buffer (contents are moved to its start). -/
def enlarge (s : State) (min bs : Nat) : State :=
  if min > s.bufSize then { s with bufSize := bs, next := 0 } else s

@[simp] theorem enlarge_src (s : State) (m b : Nat) : (enlarge s m b).src = s.src := by
  unfold enlarge; split <;> rfl
@[simp] theorem enlarge_cavail (s : State) (m b : Nat) : (enlarge s m b).cavail = s.cavail := by
  unfold enlarge; split <;> rfl
@[simp] theorem enlarge_later (s : State) (m b : Nat) : (enlarge s m b).later = s.later := by
  unfold enlarge; split <;> rfl

/-- How many client bytes the loop copies into the copy buffer this round. -/
def tocopy (s : State) (min : Nat) : Nat :=
  let t0 := s.bufSize - (s.next + s.cb.length)
  let t1 := if t0 + s.cb.length > min then min - s.cb.length else t0
  if t1 > s.cavail then s.cavail else t1

theorem tocopy_le (s : State) (min : Nat) : tocopy s min ≤ s.cavail := by
  unfold tocopy; simp only []; split <;> split <;> omega

/-- Body of the `for (;;)` loop of `__archive_read_filter_ahead`. -/
def aheadLoop (s : State) (min : Nat) : AheadR × State :=
  if s.cb.length ≥ min ∧ s.cb.length > 0 then
    (.window s.cb true, s)
  else if s.cblk.length ≥ s.cavail + s.cb.length ∧ s.cavail + s.cb.length ≥ min then
    -- "Roll back" to client buffer.
    let s' := { s with cavail := s.cavail + s.cb.length, cnext := s.cnext - s.cb.length,
                       cb := [], next := 0 }
    -- `client_next` is NULL before the first block and after end-of-file was latched:
    -- the caller then sees a NULL return with `*avail = 0`.
    if s'.cblk = [] then (.short 0, s')
    else (.window ((s'.cblk.drop s'.cnext).take s'.cavail) false, s')
  else
    if s.cavail = 0 then
      let s1 := moveFwd s min
      if s1.eof then (.short s1.cb.length, s1)
      else
        match hs : s.src with
        | [] =>
          match hl : s.later with
          | nxt :: more =>
            -- end of this data node, another one follows: client_switch_proxy(cursor + 1), read again
            aheadLoop { s1 with src := nxt, later := more } min
          | [] =>
          match s1.term with
          | .err => (.fatal, { s1 with cblk := [], cnext := 0, cavail := 0, fatal := true })
          | .eof => (.short s1.cb.length, { s1 with cblk := [], cnext := 0, cavail := 0, eof := true })
        | [] :: rest =>
          (.short s1.cb.length, { s1 with cblk := [], cnext := 0, cavail := 0, eof := true, src := rest })
        | (b :: bs) :: rest =>
          aheadLoop { s1 with cblk := b :: bs, cnext := 0, cavail := (b :: bs).length, src := rest } min
    else
      let s1 := moveFwd s min
      -- Ensure the buffer is big enough.
      match (if min > s1.bufSize then grow s1.bufSize min else some s1.bufSize) with
      | none => (.fatal, { s1 with fatal := true })
      | some bs =>
        let s2 := enlarge s1 min bs
        let tc := tocopy s2 min
        if tc = 0 then (.stuck, s2)
        else
          aheadLoop { s2 with cb := s2.cb ++ (s2.cblk.drop s2.cnext).take tc,
                              cnext := s2.cnext + tc, cavail := s2.cavail - tc } min
termination_by (s.later.length, s.src.length, s.cavail)
decreasing_by
  · simp_wf
    apply Prod.Lex.left
    simp [hl]
  · simp_wf
    apply Prod.Lex.right'
    · simp
    · apply Prod.Lex.left
      simp [hs]
  · simp_wf
    apply Prod.Lex.right'
    · simp
    · apply Prod.Lex.right'
      · simp
      · have h1 : tc ≤ s2.cavail := tocopy_le s2 min
        have h2 : s2.cavail = s.cavail := by simp [s2, s1]
        have h3 : tc = tocopy (enlarge (moveFwd s min) min bs) min := rfl
        omega

/-- `__archive_read_filter_ahead(filter, min, &avail)`. -/
def ahead (s : State) (min : Nat) : AheadR × State :=
  if s.fatal then (.fatal, s) else aheadLoop s min

/-- Remove `k` bytes from the front of a block list. -/
def dropBytes : List (List Nat) → Nat → List (List Nat)
  | [], _ => []
  | b :: rest, k =>
    if k = 0 then b :: rest
    else if k < b.length then b.drop k :: rest
    else dropBytes rest (k - b.length)

/-- Number of bytes the source still holds. -/
def srcLen (src : List (List Nat)) : Nat := src.flatten.length

/-- `client_skip_proxy` with a skip callback: loop over the skipper's answers.
A script entry `g ≥ 0` is a well-behaved skipper willing to skip up to `g` bytes:
it answers `min g request` (and never more than the source holds); `-999` is a
misbehaving skipper that answers more than it was asked; any other negative
entry is an error code.  An exhausted script answers 0.  Returns the total
(negative = error) and the state with the skipped bytes removed from the source. -/
def skipLoop (s : State) (request : Nat) (total : Nat) : List Int → Int × State
  | [] => (total, { s with skips := [] })
  | get :: rest =>
    if get = -999 then (-30, { s with skips := rest })       -- `if (get > request) return ARCHIVE_FATAL;`
    else if get < 0 then (get, { s with skips := rest })     -- `if (get < 0) return (get);`
    else
      let g := Nat.min (Nat.min get.toNat request) (srcLen s.src)
      let s' := { s with src := dropBytes s.src g }
      if g = 0 ∨ g = request then (total + g, { s' with skips := rest })
      else skipLoop s' (request - g) (total + g) rest

/-- The "Use ordinary reads as necessary" loop of `advance_file_pointer`.
Returns total skipped so far or a negative error. -/
def readSkipLoop (s : State) (request : Nat) (total : Nat) : Int × State :=
  match hs : s.src with
  | [] =>
    match hl : s.later with
    | nxt :: more => readSkipLoop { s with src := nxt, later := more } request total   -- next data node
    | [] =>
    match s.term with
    | .err => (-30, { s with fatal := true })
    | .eof => (total, { s with eof := true })
  | [] :: rest => (total, { s with eof := true, src := rest })
  | (b :: bs) :: rest =>
    let n := (b :: bs).length
    if n ≥ request then
      (total + request, { s with cblk := b :: bs, cnext := request, cavail := n - request,
                                 position := s.position + request, src := rest })
    else
      readSkipLoop { s with position := s.position + n, src := rest } (request - n) (total + n)
termination_by (s.later.length, s.src.length)
decreasing_by
  · simp_wf; apply Prod.Lex.left; simp [hl]
  · simp_wf; apply Prod.Lex.right'; · simp
    simp [hs]

/-! ### The seekable client -/

inductive Whence | set | cur | end_ | other
  deriving DecidableEq, Repr

/-- Cut `bytes`, which start at offset `off` of a data node, into the blocks the read
callback delivers: the block that starts at offset `o` has `max 1 (f o)` bytes, the last
one what is left.  (`fuel` is `bytes.length`: every block takes at least one byte.) -/
def chopFuel (f : Nat → Nat) : Nat → Nat → List Nat → List (List Nat)
  | 0, _, _ => []
  | fuel + 1, off, bytes =>
    if bytes = [] then []
    else
      let k := Nat.max 1 (f off)
      bytes.take k :: chopFuel f fuel (off + k) (bytes.drop k)

def chop (f : Nat → Nat) (off : Nat) (bytes : List Nat) : List (List Nat) :=
  chopFuel f bytes.length off bytes

/-- The block scripts of the nodes `i, i+1, …`, each read from its start. -/
def chopNodes (blk : Nat → Nat → Nat) : Nat → List (List Nat) → List (List (List Nat))
  | _, [] => []
  | i, n :: ns => chop (blk i) 0 n :: chopNodes blk (i + 1) ns

def nodeAt (s : State) (c : Nat) : List Nat := (s.nodes[c]?).getD []

/-- `client.cursor`. -/
def cursor (s : State) : Nat := s.nodes.length - 1 - s.later.length

/-- The client standing at offset `off` of node `c`, cutting blocks as in epoch `e`. -/
def place (s : State) (e c off : Nat) : State :=
  { s with epoch := e,
           src := chop (s.blk e c) off ((nodeAt s c).drop off),
           later := chopNodes (s.blk e) (c + 1) (s.nodes.drop (c + 1)),
           over := off - (nodeAt s c).length, overNode := c }

/-- `client_switch_proxy(filter, c)`: nothing if already there; else close the current
node and open node `c`, which starts at its first byte (as `file_switch` of
archive_read_open_filenames does).  The callbacks are taken to succeed. -/
def switchTo (s : State) (c : Nat) : State :=
  if cursor s = c then s else place s s.epoch c 0

/-- Offset of the client in its current node. -/
def filePos (s : State) : Nat :=
  (nodeAt s (cursor s)).length - srcLen s.src +
    (if s.overNode = cursor s ∧ s.src = [] then s.over else 0)

/-- Where `lseek(offset, whence)` would put the client in its current node. -/
def seekTarget (s : State) (w : Whence) (offset : Int) : Int :=
  match w with
  | .set => offset
  | .cur => (filePos s : Int) + offset
  | .end_ => ((nodeAt s (cursor s)).length : Int) + offset
  | .other => -1

/-- `client_seek_proxy(filter, offset, whence)` with a file-like seek callback (`lseek`):
a negative resulting offset is refused (ARCHIVE_FATAL), an offset beyond the end is
accepted.  Script entry of this invocation: `0` (or none left) = behave; `a < 0` = fail
with code `a` and do not move; `a > 0` = on SEEK_SET land on the multiple of `a` below the
requested offset and say so (a block-aligned seeker). -/
def clientSeek (s : State) (w : Whence) (offset : Int) : Int × State :=
  if !s.hasSeeker then (-25, s)     -- "Current client reader does not support seeking a device"
  else
    let ans := (s.seeks.head?).getD 0
    let s1 := { s with seeks := s.seeks.tail }
    if ans < 0 then (ans, s1)
    else
      let np := seekTarget s w offset
      if np < 0 then (-30, s1)
      else
        let t := if ans > 0 ∧ w = .set then np.toNat - np.toNat % ans.toNat else np.toNat
        ((t : Int), place s1 (s.epoch + 1) (cursor s) t)

/-- The seeker branch of `client_skip_proxy` ("If the client provided a seeker but not a
skipper, we can use the seeker to skip forward", only for requests over 64k). -/
def seekSkip (s : State) (request : Nat) : Int × State :=
  if s.hasSeeker ∧ request > 64 * 1024 then
    let r := clientSeek s .cur request
    if r.1 ≠ (s.position : Int) + request then (-30, r.2) else (request, r.2)   -- `after != before + request`
  else (0, s)

/-- "Use up the copy buffer first. Then use up the client buffer."  Returns the
new state and the number of bytes taken from the two buffers. -/
def useBuffers (s : State) (request : Nat) : State × Nat :=
  let m1 := Nat.min request s.cb.length
  let s1 := { s with next := s.next + m1, cb := s.cb.drop m1, position := s.position + m1 }
  let m2 := Nat.min (request - m1) s1.cavail
  ({ s1 with cnext := s1.cnext + m2, cavail := s1.cavail - m2, position := s1.position + m2 }, m1 + m2)

/-- `advance_file_pointer(filter, request)` for `request > 0`. -/
def advance (s : State) (request : Nat) : Int × State :=
  if s.fatal then (-1, s) else
  let (s2, total) := useBuffers s request
  let request := request - total
  if request = 0 then (total, s2) else
  -- If there's an optimized skip function, use it.
  let (r, s3) : Int × State :=
    if s2.canSkip then (if s2.noSkipper then seekSkip s2 request else skipLoop s2 request 0 s2.skips) else (0, s2)
  if r < 0 then (r, { s3 with fatal := true }) else
  let k := r.toNat
  let s4 := { s3 with position := s3.position + k }
  let total := total + k
  let request := request - k
  if request = 0 then (total, s4) else
  readSkipLoop s4 request total

/-- `__archive_read_filter_consume(filter, request)`: the amount consumed, or
`ARCHIVE_FATAL` (-30). -/
def consume (s : State) (request : Int) : Int × State :=
  if request < 0 then (-30, s)
  else if request = 0 then (0, s)
  else
    let (skipped, s') := advance s request.toNat
    if skipped = request then (skipped, s') else (-30, s')

/-! ### `__archive_read_filter_seek` -/

/-- Outcome of one of the node walks: the request failed, or the walk stands at node `c`. -/
inductive Walk
  | fail (r : Int) (s : State)
  | at_ (c : Nat) (s : State)

/-- Distinguished result for an index outside `client.dataset[]` (unreachable, see
`seek_in_bounds`). -/
def oob : Int := -99

/-- `client->dataset[c].begin_position = b`. -/
def setBegin (s : State) (c : Nat) (b : Int) : State := { s with begins := s.begins.set c b }

/-- `client->dataset[c].total_size = z`. -/
def setSize (s : State) (c : Nat) (z : Int) : State := { s with sizes := s.sizes.set c z }

/-- The extra exit of the SEEK_SET walks: this node ends behind `offset`
(`begin_position + total_size > offset`). -/
def holds (stopAt : Option Int) (nodeEnd : Int) : Bool :=
  match stopAt with
  | some off => decide (nodeEnd > off)
  | none => false

/-- First `while (1)` of SEEK_SET and SEEK_END: pass over the nodes whose position and size
are known already (`stopAt = some offset`: and that end at or before `offset`), noting where
the next one begins.  `left` is `client.nodes - 1 - cursor`, so `left = 0` is the test
`cursor + 1 >= client->nodes`. -/
def walkKnown (stopAt : Option Int) : Nat → Nat → State → Walk
  | 0, c, s => .at_ c s
  | left + 1, c, s =>
    match s.begins[c]?, s.sizes[c]? with
    | some b, some sz =>
      if b < 0 ∨ sz < 0 ∨ holds stopAt (b + sz) = true then .at_ c s
      else if c + 1 < s.begins.length then
        walkKnown stopAt left (c + 1) (setBegin s (c + 1) (b + sz))
      else .fail oob s
    | _, _ => .fail oob s

/-- Second `while (1)`: switch to the node, ask the seek callback for its size
(`client_seek_proxy(filter, 0, SEEK_END)`), record it, go on to the next node unless this
one holds the offset or is the last. -/
def walkProbe (stopAt : Option Int) : Nat → Nat → State → Walk
  | left, c, s =>
    let s1 := switchTo s c
    let r := clientSeek s1 .end_ 0
    if r.1 < 0 then .fail r.1 r.2
    else
      match r.2.begins[c]? with
      | none => .fail oob r.2
      | some b =>
        if c < r.2.sizes.length then
          let s3 := setSize r.2 c r.1
          if holds stopAt (b + r.1) then .at_ c s3
          else
            match left with
            | 0 => .at_ c s3
            | left' + 1 =>
              if c + 1 < s3.begins.length then
                walkProbe stopAt left' (c + 1) (setBegin s3 (c + 1) (b + r.1))
              else .fail oob s3
        else .fail oob r.2
termination_by structural left => left

/-- Third `while (1)` of SEEK_END: from the last node back to the one that holds
`r + offset`.  Result: cursor, `r`, `offset`. -/
def walkBack (s : State) : Nat → Int → Int → Option (Nat × Int × Int)
  | 0, r, offset => some (0, r, offset)
  | c + 1, r, offset =>
    match s.begins[c + 1]?, s.sizes[c + 1]?, s.begins[c]?, s.sizes[c]? with
    | some b, some sz, some b', some sz' =>
      if r + offset ≥ b then some (c + 1, r, offset)
      else walkBack s c (b' + sz') (offset + sz)
    | _, _, _, _ => none

/-- The common tail: "Clearing the buffer like this hurts".  `client_total` and
`client_next` are left as they are by the C; with `client_avail = 0` the position of
`client_next` inside the old block can no longer be observed, the model moves it to the
end of the block (keeping `cnext + cavail = client_total`). -/
def finishSeek (s : State) (r : Int) : Int × State :=
  if r ≥ 0 then
    (r, { s with cb := [], next := 0, cavail := 0, cnext := s.cblk.length, position := r.toNat, eof := false })
  else (r, s)

/-- The last step of both branches: range check against the chosen node, then
`client_seek_proxy(filter, offset, SEEK_SET)` and `r += begin_position`. -/
def seekIn (s : State) (c : Nat) (off : Int) : Int × State :=
  match s.begins[c]?, s.sizes[c]? with
  | some b, some sz =>
    if off < 0 ∨ off > sz then (-30, s)
    else
      let r := clientSeek (switchTo s c) .set off
      if r.1 < 0 then r else finishSeek r.2 (r.1 + b)
  | _, _ => (oob, s)

def seekSet (s : State) (offset : Int) : Int × State :=
  match walkKnown (some offset) (s.nodes.length - 1) 0 s with
  | .fail r s1 => (r, s1)
  | .at_ c s1 =>
    match walkProbe (some offset) (s.nodes.length - 1 - c) c s1 with
    | .fail r s2 => (r, s2)
    | .at_ c s2 =>
      match s2.begins[c]? with
      | some b => seekIn s2 c (offset - b)
      | none => (oob, s2)

def seekEnd (s : State) (offset : Int) : Int × State :=
  match walkKnown none (s.nodes.length - 1) 0 s with
  | .fail r s1 => (r, s1)
  | .at_ c s1 =>
    match walkProbe none (s.nodes.length - 1 - c) c s1 with
    | .fail r s2 => (r, s2)
    | .at_ c s2 =>
      match s2.begins[c]?, s2.sizes[c]? with
      | some b, some sz =>
        match walkBack s2 c (b + sz) offset with
        | some (c', r, off) =>
          match s2.begins[c']? with
          | some b' => seekIn s2 c' ((r + off) - b')
          | none => (oob, s2)
        | none => (oob, s2)
      | _, _ => (oob, s2)

/-- `__archive_read_filter_seek(filter, offset, whence)`: the new position, or a negative
status (ARCHIVE_FAILED = -25 when seeking is not possible, ARCHIVE_FATAL = -30). -/
def seek (s : State) (offset : Int) (whence : Whence) : Int × State :=
  if s.fatal then (-30, s)                 -- `filter->closed || filter->fatal`
  else if !s.canSeek then (-25, s)
  else match whence with
    | .cur => seekSet s (offset + s.position)      -- "Adjust the offset and use SEEK_SET instead"
    | .set => seekSet s offset
    | .end_ => seekEnd s offset
    | .other => (-30, s)

/-- Bytes of the stream not yet consumed. -/
def remaining (s : State) : List Nat :=
  s.cb ++ (s.cblk.drop s.cnext).take s.cavail ++ (s.src.flatten ++ s.later.flatten.flatten)

end LA.RA
