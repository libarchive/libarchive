/-
Model of libarchive/archive_pathmatch.c (property C16).

A C string is the list of its non-NUL characters (code units as `Nat`) and is
addressed by index: `rd s i` is `s[i]` below the length, `0` at the length (the
terminator) and `none` beyond it.  Every pointer of the C is a base list plus an
index; every `*ptr` is an `rd`; a `none` propagates to the distinguished result
`Res.oob`.  "Never reads outside the pattern and path strings" is therefore a
theorem about the model (`LA.C16.pm_no_oob`), not something the types rule out.

The two C copies (`pm`/`pm_w`, `pm_list`/`pm_list_w`, …) differ only in the
character type.  The model is parameterised by `Cfg.key`, the value the C
comparison `a <= b` sees after integer promotion (`char` is signed 8-bit,
`wchar_t` signed 32-bit on this platform); equality tests are on code units.

Core Lean only (the driver links this file).
-/
import LA.Gen.MatchFlags
set_option linter.unusedVariables false
namespace LA.Pm

/-! ### characters -/
notation "C_BANG" => (33 : Nat)     -- '!'
notation "C_DOLLAR" => (36 : Nat)   -- '$'
notation "C_STAR" => (42 : Nat)     -- '*'
notation "C_MINUS" => (45 : Nat)    -- '-'
notation "C_DOT" => (46 : Nat)      -- '.'
notation "C_SLASH" => (47 : Nat)    -- '/'
notation "C_QUEST" => (63 : Nat)    -- '?'
notation "C_LBRACK" => (91 : Nat)   -- '['
notation "C_BSL" => (92 : Nat)      -- '\\'
notation "C_RBRACK" => (93 : Nat)   -- ']'
notation "C_CARET" => (94 : Nat)    -- '^'

/-- `*(s + i)` for the NUL-terminated string whose non-NUL characters are `s`. -/
def rd (s : List Nat) (i : Nat) : Option Nat :=
  if h : i < s.length then some s[i] else if i = s.length then some 0 else none

theorem rd_le {s : List Nat} {i c : Nat} (h : rd s i = some c) : i ≤ s.length := by
  unfold rd at h; split at h
  · omega
  · split at h
    · omega
    · cases h

theorem rd_lt {s : List Nat} {i c : Nat} (h : rd s i = some c) (hc : c ≠ 0) : i < s.length := by
  unfold rd at h; split at h
  · assumption
  · split at h
    · cases h; exact absurd rfl hc
    · cases h

/-- Two's-complement value of the low `bits` bits of `v`. -/
def sext (bits : Nat) (v : Nat) : Int :=
  if v % 2 ^ bits < 2 ^ (bits - 1) then ((v % 2 ^ bits : Nat) : Int)
  else ((v % 2 ^ bits : Nat) : Int) - ((2 ^ bits : Nat) : Int)

structure Cfg where
  /-- value of a character as `<=` sees it after integer promotion -/
  key : Nat → Int
  /-- `true`: the `[` case of `pm()` refuses the end of the subject before it
  calls `pm_list()` (the repaired code); `false`: the code before the repair. -/
  guardClass : Bool := true

/-- `pm()`: `char`, signed 8-bit on this platform. -/
def narrow : Cfg := { key := sext 8 }
/-- `pm_w()`: `wchar_t`, signed 32-bit on this platform. -/
def wide : Cfg := { key := sext 32 }
/-- `pm()` as it was before the `fix:` commit (kept for the recorded witness). -/
def narrowUnrepaired : Cfg := { key := sext 8, guardClass := false }

structure Flags where
  /-- `PATHMATCH_NO_ANCHOR_START` (1) -/
  noStart : Bool
  /-- `PATHMATCH_NO_ANCHOR_END` (2) -/
  noEnd : Bool
  deriving DecidableEq, Repr

/-- The `int flags` argument: bit values regenerated from archive_pathmatch.h. -/
def Flags.ofNat (n : Nat) : Flags :=
  { noStart := (n &&& LA.Gen.MatchFlags.noAnchorStart) != 0, noEnd := (n &&& LA.Gen.MatchFlags.noAnchorEnd) != 0 }

inductive Res | no | yes | oob
  deriving DecidableEq, Repr

def Res.ofBool (b : Bool) : Res := if b then .yes else .no

/-! ### `pm_list` -/

/-- The `while (p < end)` loop of `pm_list()`/`pm_list_w()`: `i` is `p`, `e` is
`end`, `rs` is `rangeStart`.  `some true` = the loop executed `return (match)`,
`some false` = it fell out (`return (nomatch)`), `none` = a read outside `p`. -/
def pmListLoop (cfg : Cfg) (p : List Nat) (e c : Nat) (i rs : Nat) : Option Bool :=
  if i < e then
    match rd p i with
    | none => none
    | some x =>
      if x = C_MINUS then
        -- Trailing or initial '-' is not special.
        if rs = 0 ∨ i + 1 = e then
          if x = c then some true else pmListLoop cfg p e c (i + 1) 0
        else
          match rd p (i + 1) with                     -- rangeEnd = *++p
          | none => none
          | some re =>
            if re = C_BSL then
              match rd p (i + 2) with                 -- rangeEnd = *++p
              | none => none
              | some re2 =>
                if cfg.key rs ≤ cfg.key c ∧ cfg.key c ≤ cfg.key re2 then some true
                else pmListLoop cfg p e c (i + 3) 0
            else if cfg.key rs ≤ cfg.key c ∧ cfg.key c ≤ cfg.key re then some true
            else pmListLoop cfg p e c (i + 2) 0
      else if x = C_BSL then
        match rd p (i + 1) with                       -- ++p, fall through to default
        | none => none
        | some y => if y = c then some true else pmListLoop cfg p e c (i + 2) y
      else if x = c then some true
      else pmListLoop cfg p e c (i + 1) x
  else some false
termination_by e - i

/-- `pm_list(start, end, c, flags)` / `pm_list_w`: `some b` ⇔ returns `b ≠ 0`. -/
def pmList (cfg : Cfg) (p : List Nat) (st e c : Nat) : Option Bool :=
  match rd p st with
  | none => none
  | some x =>
    -- `(*p == '!' || *p == '^') && p < end`: `*p` is read first
    if (x = C_BANG ∨ x = C_CARET) ∧ st < e then (pmListLoop cfg p e c (st + 1) 0).map (!·)
    else pmListLoop cfg p e c st 0

/-! ### small loops -/

/-- `pm_slashskip(s + i)` / `pm_slashskip_w`: index it returns. -/
def slashskip (s : List Nat) (i : Nat) : Option Nat :=
  match h : rd s i with
  | none => none
  | some c =>
    if hc : c = C_SLASH then slashskip s (i + 1)
    else if hd : c = C_DOT then
      match rd s (i + 1) with
      | none => none
      | some d => if d = C_SLASH ∨ d = 0 then slashskip s (i + 1) else some i
    else some i
termination_by s.length - i
decreasing_by
  all_goals (have := rd_lt h (by omega); omega)

/-- `while (*p == '*') ++p;` -/
def skipStars (p : List Nat) (i : Nat) : Option Nat :=
  match h : rd p i with
  | none => none
  | some c => if hc : c = C_STAR then skipStars p (i + 1) else some i
termination_by p.length - i
decreasing_by have := rd_lt h (by omega); omega

/-- `while (*s == '/') ++s;` -/
def skipSlashes (s : List Nat) (i : Nat) : Option Nat :=
  match h : rd s i with
  | none => none
  | some c => if hc : c = C_SLASH then skipSlashes s (i + 1) else some i
termination_by s.length - i
decreasing_by have := rd_lt h (by omega); omega

/-- The scan for the end of a `[...]` class in `pm()`:
`while (*end != '\0' && *end != ']') { if (*end == '\\' && end[1] != '\0') ++end; ++end; }` -/
def classEnd (p : List Nat) (i : Nat) : Option Nat :=
  match h : rd p i with
  | none => none
  | some c =>
    if hz : c = 0 then some i
    else if c = C_RBRACK then some i
    else if c = C_BSL then
      match rd p (i + 1) with
      | none => none
      | some d => if d ≠ 0 then classEnd p (i + 2) else classEnd p (i + 1)
    else classEnd p (i + 1)
termination_by p.length - i
decreasing_by
  all_goals (have := rd_lt h hz; omega)

/-- `strchr(s + i, '/')` / `wcschr`: `some none` = NULL, `some (some j)` = `s + j`. -/
def strchrSlash (s : List Nat) (i : Nat) : Option (Option Nat) :=
  match h : rd s i with
  | none => none
  | some c =>
    if c = C_SLASH then some (some i)
    else if hz : c = 0 then some none
    else strchrSlash s (i + 1)
termination_by s.length - i
decreasing_by have := rd_lt h hz; omega

theorem slashskip_ge {s : List Nat} {i j : Nat} (h : slashskip s i = some j) : i ≤ j := by
  fun_induction slashskip s i <;> simp_all <;> omega

theorem skipStars_ge {s : List Nat} {i j : Nat} (h : skipStars s i = some j) : i ≤ j := by
  fun_induction skipStars s i <;> simp_all <;> omega

theorem skipSlashes_ge {s : List Nat} {i j : Nat} (h : skipSlashes s i = some j) : i ≤ j := by
  fun_induction skipSlashes s i <;> simp_all <;> omega

theorem classEnd_ge {s : List Nat} {i j : Nat} (h : classEnd s i = some j) : i ≤ j := by
  fun_induction classEnd s i <;> simp_all <;> omega

theorem strchrSlash_ge {s : List Nat} {i j : Nat} (h : strchrSlash s i = some (some j)) : i ≤ j := by
  fun_induction strchrSlash s i <;> simp_all <;> omega

theorem skipStars_gt {s : List Nat} {i j : Nat} (h0 : rd s i = some C_STAR)
    (h : skipStars s i = some j) : i < j := by
  fun_induction skipStars s i
  · cases h
  · exact skipStars_ge h
  · simp_all

theorem slashskip_gt {s : List Nat} {i j : Nat} (h0 : rd s i = some C_SLASH)
    (h : slashskip s i = some j) : i < j := by
  fun_induction slashskip s i
  · cases h
  · exact slashskip_ge h
  all_goals simp_all

theorem strchrSlash_at {s : List Nat} {i j : Nat} (h : strchrSlash s i = some (some j)) :
    rd s j = some C_SLASH := by
  fun_induction strchrSlash s i <;> simp_all

/-- `if (s[0] == '.' && s[1] == '/') s = pm_slashskip(s + 1);` at the top of `pm()`. -/
def dotSlash (s : List Nat) (i : Nat) : Option Nat :=
  match rd s i with
  | none => none
  | some c =>
    if c = C_DOT then
      match rd s (i + 1) with
      | none => none
      | some d => if d = C_SLASH then slashskip s (i + 1) else some i
    else some i

theorem dotSlash_ge {s : List Nat} {i j : Nat} (h : dotSlash s i = some j) : i ≤ j := by
  unfold dotSlash at h
  split at h
  · cases h
  · split at h
    · split at h
      · cases h
      · split at h
        · have := slashskip_ge h; omega
        · cases h; omega
    · cases h; omega

/-! ### `pm`, `__archive_pathmatch` -/

/-- Lexicographic descent on triples, in the arithmetic form `omega` understands. -/
theorem lex3 {a b c a' b' c' : Nat}
    (h : a < a' ∨ (a = a' ∧ (b < b' ∨ (b = b' ∧ c < c')))) :
    Prod.Lex (· < ·) (Prod.Lex (· < ·) (· < ·)) (a, b, c) (a', b', c') := by
  rcases h with h | ⟨rfl, h | ⟨rfl, h⟩⟩
  · exact .left _ _ h
  · exact .right _ (.left _ _ h)
  · exact .right _ (.right _ h)

mutual

/-- `__archive_pathmatch(p + pi, s + si, flags)` / `__archive_pathmatch_w` with both
pointers non-NULL.  (`pm()` re-enters here from its `*` case through the
`archive_pathmatch` macro, with the *current* flags.) -/
def matchAt (cfg : Cfg) (p s : List Nat) (fl : Flags) (pi si : Nat) : Res :=
  match hp : rd p pi with
  | none => .oob
  | some c0 =>
    -- Empty pattern only matches the empty string.
    if c0 = 0 then
      match rd s si with
      | none => .oob
      | some d => .ofBool (d = 0)
    -- Leading '^' anchors the start of the pattern: `++p; flags &= ~PATHMATCH_NO_ANCHOR_START;`
    else if c0 = C_CARET then matchBody cfg p s { fl with noStart := false } (pi + 1) si
    else matchBody cfg p s fl pi si
termination_by (p.length + 1 - pi, 3, 1)
decreasing_by
  · apply lex3; omega
  · apply lex3; omega

/-- `__archive_pathmatch` after the `^` test. -/
def matchBody (cfg : Cfg) (p s : List Nat) (fl : Flags) (pi si : Nat) : Res :=
  match hp1 : rd p pi with
  | none => .oob
  | some c =>
    match rd s si with
    | none => .oob
    | some d =>
      if c = C_SLASH ∧ d ≠ C_SLASH then .no
      -- Certain patterns anchor implicitly.
      else if c = C_STAR ∨ c = C_SLASH then
        match hp2 : skipSlashes p pi, skipSlashes s si with
        | some pi2, some si2 => pm cfg p s fl pi2 si2
        | _, _ => .oob
      -- If start is unanchored, try to match start of each path element.
      else if fl.noStart then unanch cfg p s fl pi si
      -- Default: Match from beginning.
      else pm cfg p s fl pi si
termination_by (p.length + 1 - pi, 3, 0)
decreasing_by
  · have h2 := skipSlashes_ge hp2
    apply lex3; omega
  · apply lex3; omega
  · apply lex3; omega

/-- `for ( ; s != NULL; s = strchr(s, '/')) { if (*s == '/') s++; if (pm(p, s, flags)) return (1); } return (0);` -/
def unanch (cfg : Cfg) (p s : List Nat) (fl : Flags) (pi si : Nat) : Res :=
  match hs : rd s si with
  | none => .oob
  | some d =>
    -- `if (*s == '/') s++;` (written out twice instead of a `let`, which keeps the proofs simple)
    match pm cfg p s fl pi (if d = C_SLASH then si + 1 else si) with
    | .yes => .yes
    | .oob => .oob
    | .no =>
      match hc : strchrSlash s (if d = C_SLASH then si + 1 else si) with
      | none => .oob
      | some none => .no
      | some (some sj) => unanch cfg p s fl pi sj
termination_by (p.length + 1 - pi, 2, s.length + 1 - si)
decreasing_by
  · apply lex3; omega
  · have h1 := rd_le hs
    have h2 := strchrSlash_ge hc
    have h3 := strchrSlash_at hc
    have : si < sj := by
      by_cases hd : d = C_SLASH
      · simp only [hd, dite_true] at h2; omega
      · simp only [hd, dite_false] at h2
        rcases Nat.lt_or_eq_of_le h2 with h | h
        · omega
        · subst h; rw [hs] at h3; cases h3; exact absurd rfl hd
    have := rd_le h3
    apply lex3; omega

/-- `pm(p + pi, s + si, flags)` / `pm_w`: the part before the `for (;;)`. -/
def pm (cfg : Cfg) (p s : List Nat) (fl : Flags) (pi si : Nat) : Res :=
  -- Ignore leading './', './/', '././', etc.
  match dotSlash s si with
  | none => .oob
  | some si1 =>
    match hp : dotSlash p pi with
    | none => .oob
    | some pi1 => pmLoop cfg p s fl pi1 si1
termination_by (p.length + 1 - pi, 1, 0)
decreasing_by
  have := dotSlash_ge hp
  apply lex3; omega

/-- One iteration of the `for (;;)` of `pm()` / `pm_w()` with `p = p + pi`, `s = s + si`. -/
def pmLoop (cfg : Cfg) (p s : List Nat) (fl : Flags) (pi si : Nat) : Res :=
  match hp : rd p pi with
  | none => .oob
  | some c =>
    if hc0 : c = 0 then
      match rd s si with
      | none => .oob
      | some d =>
        if d = C_SLASH then
          if fl.noEnd then .yes
          else
            -- "dir" == "dir/" == "dir/."
            match slashskip s si with
            | none => .oob
            | some sj =>
              match rd s sj with
              | none => .oob
              | some d' => .ofBool (d' = 0)
        else .ofBool (d = 0)
    else if c = C_QUEST then
      -- ? always succeeds, unless we hit end of 's'
      match rd s si with
      | none => .oob
      | some d => if d = 0 then .no else pmLoop cfg p s fl (pi + 1) (si + 1)
    else if hstar : c = C_STAR then
      -- "*" == "**" == "***" ...
      match hsk : skipStars p pi with
      | none => .oob
      | some pj =>
        match rd p pj with
        | none => .oob
        | some c' =>
          -- Trailing '*' always succeeds.
          if c' = 0 then .yes else star cfg p s fl pj si
    else if c = C_LBRACK then
      -- Find the end of the [...] character class, ignoring \] within it.
      match he : classEnd p (pi + 1) with
      | none => .oob
      | some e =>
        match rd p e with
        | none => .oob
        | some ce =>
          match rd s si with
          | none => .oob
          | some d =>
            if ce = C_RBRACK then
              -- We found [...], try to match it.
              if cfg.guardClass ∧ d = 0 then .no
              else
                match pmList cfg p (pi + 1) e d with
                | none => .oob
                | some false => .no
                | some true => pmLoop cfg p s fl (e + 1) (si + 1)   -- p = end; ++p; ++s
            else
              -- No final ']', so just match '['.
              if c ≠ d then .no else pmLoop cfg p s fl (pi + 1) (si + 1)
    else if c = C_BSL then
      match rd p (pi + 1) with
      | none => .oob
      | some c1 =>
        match rd s si with
        | none => .oob
        | some d =>
          -- Trailing '\\' matches itself.
          if c1 = 0 then
            if d ≠ C_BSL then .no else pmLoop cfg p s fl (pi + 1) (si + 1)
          else
            if c1 ≠ d then .no else pmLoop cfg p s fl (pi + 2) (si + 1)
    else if hsl : c = C_SLASH then
      match rd s si with
      | none => .oob
      | some d =>
        if d ≠ C_SLASH ∧ d ≠ 0 then .no
        else
          match hpj : slashskip p pi, slashskip s si with
          | some pj, some sj =>
            match rd p pj with
            | none => .oob
            | some c' =>
              if c' = 0 ∧ fl.noEnd then .yes
              -- `--p; --s;` then `++p; ++s;`: no read in between, so the net
              -- effect is modelled (s - 1 may be formed but is never dereferenced)
              else pmLoop cfg p s fl pj sj
          | _, _ => .oob
    else
      -- '$' is special only at end of pattern and only if NO_ANCHOR_END is given.
      match rd p (pi + 1) with
      | none => .oob
      | some c1 =>
        if c = C_DOLLAR ∧ c1 = 0 ∧ fl.noEnd then
          match slashskip s si with
          | none => .oob
          | some sj =>
            match rd s sj with
            | none => .oob
            | some d' => .ofBool (d' = 0)
        else
          match rd s si with
          | none => .oob
          | some d => if c ≠ d then .no else pmLoop cfg p s fl (pi + 1) (si + 1)
termination_by (p.length + 1 - pi, 0, 0)
decreasing_by
  all_goals have hlt := rd_lt hp hc0
  all_goals apply lex3
  · omega
  · have := skipStars_gt (hstar ▸ hp) hsk; omega
  · have := classEnd_ge he; omega
  · omega
  · omega
  · omega
  · have := slashskip_gt (hsl ▸ hp) hpj; omega
  · omega

/-- `while (*s) { if (archive_pathmatch(p, s, flags)) return (1); ++s; } return (0);` -/
def star (cfg : Cfg) (p s : List Nat) (fl : Flags) (pi si : Nat) : Res :=
  match hs : rd s si with
  | none => .oob
  | some d =>
    if hd : d = 0 then .no
    else
      match matchAt cfg p s fl pi si with
      | .yes => .yes
      | .oob => .oob
      | .no => star cfg p s fl pi (si + 1)
termination_by (p.length + 1 - pi, 4, s.length + 1 - si)
decreasing_by
  · apply lex3; omega
  · have := rd_lt hs hd
    apply lex3; omega

end

/-- `__archive_pathmatch(p, s, flags)` / `__archive_pathmatch_w`; `none` is a NULL pointer. -/
def pathmatch (cfg : Cfg) (p s : Option (List Nat)) (fl : Flags) : Res :=
  match p, s with
  | none, none => .yes
  | none, some s => .ofBool (s.isEmpty)   -- `*s == '\0'`: s + 0 is always readable
  | some p, none => .ofBool (p.isEmpty)   -- `*p == '\0'` then `s == NULL`; else `s == NULL` → 0
  | some p, some s => matchAt cfg p s fl 0 0

end LA.Pm
